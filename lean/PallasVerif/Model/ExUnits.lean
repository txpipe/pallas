/-
  Model of `check_tx_ex_units` in `pallas-validate/src/phase1/{alonzo,babbage,conway}.rs`
  (with `presence_of_plutus_scripts` of each era), transcribed arm by arm from the code as it
  stands after the two `fix:` commits recorded in `known_findings.d/C37.json`.

  The witness set is viewed as: number of Plutus scripts per language in the witness set
  (`none` = field absent, `some 0` = present and empty, possible only for the `Option<Vec<_>>`
  fields of Alonzo/Babbage) and the redeemers (`none` = absent). The `u64` accumulators are
  `Nat`s; `checked_add(..).ok_or(TxExUnitsExceeded)` makes a sum past `2^64 - 1` the `exceeded` verdict (it was an
  overflow panic before the C33 `fix:`). `Res.panic` is kept as a constructor and shown unreachable in `Props/C37.lean`
  (`checkTxExUnits_total_sound`, whose first half is `C33.exunits_total`).
-/
namespace PallasVerif.ExUnits

def U64_MAX : Nat := 18446744073709551615

/-- `ExUnits { mem, steps }` -/
structure ExU where
  mem : Nat
  steps : Nat
  deriving Repr, DecidableEq

/-- `RedeemersKey { tag, index }` (tag as its number) -/
structure Key where
  tag : Nat
  index : Nat
  deriving Repr, DecidableEq

/-- Conway `Redeemers::List(Vec<Redeemer>) | Redeemers::Map(BTreeMap<RedeemersKey, RedeemersValue>)`;
    Alonzo and Babbage have the list form only. Both are iterated in storage order. -/
inductive Redeemers where
  | list (rs : List (Key × ExU))
  | map (rs : List (Key × ExU))
  deriving Repr

/-- the `ex_units` in iteration order: `x.ex_units` for the list arm, `x.1.ex_units` for the map arm -/
def Redeemers.budgets : Redeemers → List ExU
  | .list rs => rs.map (·.2)
  | .map rs => rs.map (·.2)

inductive Era where
  | alonzo | babbage | conway
  deriving DecidableEq, Repr

structure Wits where
  v1 : Option Nat
  v2 : Option Nat
  v3 : Option Nat
  redeemers : Option Redeemers
  deriving Repr

inductive Res where
  | ok | exceeded | redeemerMissing | panic
  deriving DecidableEq, Repr

/-- `presence_of_plutus_scripts` of each era -/
def presence : Era → Wits → Bool
  | .alonzo, w => match w.v1 with
    | some n => n != 0        -- `Some(s) => !s.is_empty()`
    | none => false
  | .babbage, w => (w.v1.getD 0 != 0) || (w.v2.getD 0 != 0)      -- `.clone().unwrap_or_default()`, `!is_empty() || !is_empty()`
  | .conway, w => (w.v1.getD 0 != 0) || (w.v2.getD 0 != 0) || (w.v3.getD 0 != 0)

/-- the `for` loop: `mem = mem.checked_add(..).ok_or(TxExUnitsExceeded)?; steps = ..` on `u64`; `none` = a sum left `u64` -/
def accumulate : Nat → Nat → List ExU → Option (Nat × Nat)
  | m, s, [] => some (m, s)
  | m, s, x :: xs =>
    if m + x.mem > U64_MAX then none
    else if s + x.steps > U64_MAX then none
    else accumulate (m + x.mem) (s + x.steps) xs

/-- sums, then `if mem > max.mem || steps > max.steps { Err(TxExUnitsExceeded) }` -/
def sumAndCompare (bs : List ExU) (maxMem maxSteps : Nat) : Res :=
  match accumulate 0 0 bs with
  | none => .exceeded
  | some (m, s) => if m > maxMem || s > maxSteps then .exceeded else .ok

def checkTxExUnits : Era → Wits → Nat → Nat → Res
  | .alonzo, w, maxMem, maxSteps =>
    -- `if presence_of_plutus_scripts(mtx) { match &tx_wits.redeemer { Some(..) => .., None => Err(RedeemerMissing) } } Ok(())`
    if presence .alonzo w then
      match w.redeemers with
      | some rs => sumAndCompare rs.budgets maxMem maxSteps
      | none => .redeemerMissing
    else .ok
  | era, w, maxMem, maxSteps =>
    -- Babbage / Conway: `match &tx_wits.redeemer { Some(..) => sum + compare, None => if presence { Err(RedeemerMissing) } } Ok(())`
    match w.redeemers with
    | some rs => sumAndCompare rs.budgets maxMem maxSteps
    | none => if presence era w then .redeemerMissing else .ok

end PallasVerif.ExUnits
