import PallasVerif.Proofs.SchemaNodes
/-! The generic theorem: induction on the fuel, one node lemma per case. -/
namespace PallasVerif.Schema

/-- the schema holds no `KeepRaw` (at some fuel of the static check) -/
def NR (env : Env) (s : Schema) : Prop := ∃ fn, noRaw env fn s = true

/-- every hand-modelled leaf codec of the environment satisfies the contract; with `nr := False`,
    so exact equality is never claimed for a type that holds one -/
def CustomsGood (env : Env) : Prop :=
  ∀ (i : Nat) (c : Custom), env.customs[i]? = some c → Good c.enc c.dec c.kinds False

/-- `noRaw` fails at fuel 0, so a witness of `NR` has a fuel to unfold: what `NR` of a node says of its parts is read
    off one unfolding of `noRaw` -/
theorem NR.imp {env : Env} {s : Schema} {P : Prop} (hp : ∀ fn, noRaw env (fn + 1) s = true → P) (h : NR env s) : P := by
  obtain ⟨_ | fn, hn⟩ := h
  · simp [noRaw] at hn
  · exact hp fn hn

theorem NR.child {env : Env} {s s' : Schema} (h : ∀ fn, noRaw env (fn + 1) s = noRaw env fn s') : NR env s → NR env s' :=
  NR.imp fun fn hn => ⟨fn, h fn ▸ hn⟩

theorem NR.children {env : Env} {α} {s : Schema} {l : List α} {g : α → Schema}
    (h : ∀ fn, noRaw env (fn + 1) s = l.all (fun a => noRaw env fn (g a))) : NR env s → ∀ a, a ∈ l → NR env (g a) :=
  NR.imp fun fn hn a ha => ⟨fn, List.all_eq_true.mp (h fn ▸ hn) a ha⟩

/-- `f` is the interpreter's fuel and the induction variable; `fo` is the fuel of the static check,
    independent of `f`: a reference restarts it at `okFuel`, where `Env.valid` ran it -/
theorem enc_dec_good (env : Env) (hv : env.valid = true) (hc : CustomsGood env) :
    ∀ f s fo, ok env fo s = true → Good (enc env f s) (dec env f s) (kinds env s) (NR env s) := by
  intro f
  induction f with
  | zero => intro s fo _ v it _ he; simp [enc] at he
  | succ f ih =>
    intro s fo hok
    cases fo with
    | zero => simp [ok] at hok
    | succ fo =>
      cases s with
      | uint b =>
        simp only [ok, Bool.or_eq_true, beq_iff_eq] at hok
        exact good_uint b _ (by omega)
      | sint b =>
        simp only [ok, Bool.or_eq_true, beq_iff_eq] at hok
        exact good_sint b _ (by omega)
      | int => exact good_int _
      | nzint => exact good_nzint _
      | posCoin => exact good_posCoin _
      | bytes => exact good_bytes _
      | hash n => exact good_hash n _
      | text => exact good_text _
      | bool => exact good_bool _
      | vec s => exact (good_vec (ih s fo hok)).nr_mono (NR.child fun _ => rfl)
      | tuple fs =>
        simp only [ok, Bool.and_eq_true, decide_eq_true_eq, List.all_eq_true] at hok
        exact (good_tuple fs hok.1 fun s hs => ih s fo (hok.2 s hs)).nr_mono (NR.children (g := id) fun _ => rfl)
      | btmap k x =>
        simp only [ok, Bool.and_eq_true] at hok
        exact (good_btmap (ih k fo hok.1.1) ⟨fo, hok.2⟩ (ih x fo hok.1.2)).nr_mono
          (NR.imp fun fn hn => by simp only [noRaw, Bool.and_eq_true] at hn; exact ⟨fn, hn.2⟩)
      | opt s =>
        simp only [ok, Bool.and_eq_true, Bool.not_eq_true', List.contains_eq_mem, decide_eq_false_iff_not] at hok
        exact (good_opt (ih s fo hok.1) hok.2).nr_mono (NR.child fun _ => rfl)
      | struct l t fs =>
        simp only [ok, Bool.and_eq_true, List.all_eq_true] at hok
        refine (good_struct l t fs ?_ hok.1.1 fun p hp => ih p.2 fo (hok.1.2 p hp)).nr_mono
          (NR.children (g := fun (p : Nat × Schema) => p.2) fun _ => rfl)
        rintro n rfl
        simpa using hok.2
      | enumFlat vs =>
        simp only [ok, Bool.and_eq_true, List.all_eq_true, decide_eq_true_eq] at hok
        exact (good_enumFlat vs hok.1
          fun v hv => ⟨(hok.2 v hv).1.1, (hok.2 v hv).1.2, fun p hp => ih p.2 fo ((hok.2 v hv).2 p hp)⟩).nr_mono
          (NR.imp fun fn hn v hv p hp => by simp only [noRaw, List.all_eq_true] at hn; exact ⟨fn, hn v hv p hp⟩)
      | enumIdx vs =>
        simp only [ok, Bool.and_eq_true, List.all_eq_true, decide_eq_true_eq] at hok
        exact good_enumIdx vs _ hok.1 hok.2
      | byType alts many =>
        obtain ⟨_, halts, hdisj, hmany⟩ := ok_byType hok
        refine (good_byType alts many (fun a ha => ⟨ih a.2.2 fo (halts a ha).1, (halts a ha).2⟩) hdisj
          fun mp ms hm => ⟨(hmany mp ms hm).1, fun s hs => ih s fo ((hmany mp ms hm).2.1 s hs), (hmany mp ms hm).2.2⟩).nr_mono
          (NR.imp fun fn hn => ?_)
        simp only [noRaw, Bool.and_eq_true, List.all_eq_true] at hn
        refine ⟨fun a ha => ⟨fn, hn.1 a ha⟩, ?_⟩
        rintro mp ms rfl s hs
        simp only [List.all_eq_true] at hn
        exact ⟨fn, hn.2 s hs⟩
      | sumFixed b vs =>
        simp only [ok, Bool.and_eq_true, Bool.or_eq_true, beq_iff_eq, List.all_eq_true, decide_eq_true_eq] at hok
        exact (good_sumFixed b vs hok.1.1 hok.1.2
          fun v hv => ⟨(hok.2 v hv).1.1, (hok.2 v hv).1.2, fun s hs => ih s fo ((hok.2 v hv).2 s hs)⟩).nr_mono
          (NR.imp fun fn hn v hv s hs => by simp only [noRaw, List.all_eq_true] at hn; exact ⟨fn, hn v hv s hs⟩)
      | sumOther b vs o =>
        obtain ⟨hb, hd, hvs, hol, hos⟩ := ok_sumOther hok
        exact (good_sumOther b vs o hb hd
          (fun v hv => ⟨(hvs v hv).1, (hvs v hv).2.1, fun s hs => ih s fo ((hvs v hv).2.2 s hs)⟩) hol
          fun s hs => ih s fo (hos s hs)).nr_mono
          (NR.imp fun fn hn => by
            simp only [noRaw, Bool.and_eq_true, List.all_eq_true] at hn
            exact ⟨fun v hv s hs => ⟨fn, hn.1 v hv s hs⟩, fun s hs => ⟨fn, hn.2 s hs⟩⟩)
      | keepRaw s => exact (good_keepRaw (ih s fo hok)).nr_mono (NR.imp fun fn hn => by simp [noRaw] at hn)
      | nullable s =>
        simp only [ok, Bool.and_eq_true, Bool.not_eq_true', List.contains_eq_mem, decide_eq_false_iff_not] at hok
        exact (good_nullable (ih s fo hok.1.1) hok.1.2 hok.2).nr_mono (NR.child fun _ => rfl)
      | set s => exact (good_set (ih s fo hok)).nr_mono (NR.child fun _ => rfl)
      | maybeIndef s => exact (good_maybeIndef (ih s fo hok)).nr_mono (NR.child fun _ => rfl)
      | kvPairs k x =>
        simp only [ok, Bool.and_eq_true] at hok
        exact (good_kvPairs (ih k fo hok.1) (ih x fo hok.2)).nr_mono
          (NR.imp fun fn hn => by simp only [noRaw, Bool.and_eq_true] at hn; exact ⟨⟨fn, hn.1⟩, ⟨fn, hn.2⟩⟩)
      | cborWrap s => exact (good_cborWrap (ih s fo hok)).nr_mono (NR.child fun _ => rfl)
      | tagWrap t s =>
        simp only [ok, Bool.and_eq_true] at hok
        exact (good_tagWrap t (ih s fo hok.2)).nr_mono (NR.child fun _ => rfl)
      | emptyMap => exact good_emptyMap _
      | zeroOrOne s => exact (good_zeroOrOne (ih s fo hok)).nr_mono (NR.child fun _ => rfl)
      | any => exact good_any _
      | ref i =>
        obtain ⟨en, hget, h1, h2, h3⟩ := ok_ref hv hok
        rw [enc_ref hget, dec_ref hget]
        refine (ih en.schema okFuel h1).mono (by simpa only [kinds, hget] using h2) (NR.imp fun fn hn => ⟨okFuel, h3 ?_⟩)
        simpa only [noRaw, hget] using hn
      | custom i =>
        obtain ⟨c, hget⟩ := ok_custom hok
        rw [enc_custom hget, dec_custom hget]
        exact (hc i c hget).mono (by simp only [kinds, hget]; exact fun _ h => h) (NR.imp fun fn hn => by simp [noRaw] at hn)

end PallasVerif.Schema
