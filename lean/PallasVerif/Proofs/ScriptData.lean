import PallasVerif.Model.ScriptData
import PallasVerif.Proofs.Cbor
import PallasVerif.Proofs.Slices
/-! Lemmas for C08, about `Model/ScriptData`: `insert` keeps the BTreeMap invariant `keysAsc`; under it the order
    `canonical_order` produces is the keys with a leading 0 moved to the end (`moveZeroLast`), and it ascends in a
    rank `ck` that orders languages the way both canonical CBOR orders put their written keys; a witness-set field is a
    map value in the sense of `Proofs/Slices`; the written item is well formed. -/
namespace PallasVerif.ScriptData
open PallasVerif.Cbor PallasVerif.PlutusData

/-- the model's `keysAsc` is core's `Pairwise (· < ·)`, in which the proofs below reason -/
theorem keysAsc_iff : ∀ ks : List Nat, keysAsc ks = true ↔ ks.Pairwise (· < ·)
  | [] => by simp [keysAsc]
  | [_] => by simp [keysAsc]
  | a :: b :: r => by
    simp only [keysAsc, Bool.and_eq_true, decide_eq_true_eq, keysAsc_iff (b :: r), List.pairwise_cons (a := a)]
    exact ⟨fun h => ⟨fun c hc => by
      rcases List.mem_cons.1 hc with rfl | hc
      · exact h.1
      · exact Nat.lt_trans h.1 (List.rel_of_pairwise_cons h.2 hc), h.2⟩, fun h => ⟨h.1 b (by simp), h.2⟩⟩

theorem mem_keys_insert {k : Nat} {v : CostModel} {b : Nat} {m : LanguageViews} :
    b ∈ keys (insert k v m) → b = k ∨ b ∈ keys m := by
  fun_induction insert k v m with
  | case4 k' v' r _ _ ih => -- `k' < k`: the insertion goes on in `r`
    simp only [keys, List.map_cons, List.mem_cons] at ih ⊢
    rintro (rfl | h)
    · exact .inr (.inl rfl)
    · exact (ih h).imp_right .inr
  | _ => simp [keys]

theorem insert_keysAsc (k : Nat) (v : CostModel) (m : LanguageViews) (h : keysAsc (keys m) = true) :
    keysAsc (keys (insert k v m)) = true := by
  rw [keysAsc_iff] at h ⊢
  fun_induction insert k v m with
  | case1 => simp [keys]
  | case2 k' v' r hlt => -- `k < k'`: put in front
    exact List.pairwise_cons.2 ⟨fun b hb => by
      rcases List.mem_cons.1 hb with rfl | hb
      · exact hlt
      · exact Nat.lt_trans hlt (List.rel_of_pairwise_cons h hb), h⟩
  | case3 => exact h -- `k = k'`: the value replaced, the keys as before
  | case4 k' v' r _ _ ih => -- `k' < k`: the insertion goes on in `r`
    exact List.pairwise_cons.2 ⟨fun b hb => by
      rcases mem_keys_insert hb with rfl | hb
      · show k' < b; omega
      · exact List.rel_of_pairwise_cons h hb, ih h.of_cons⟩

theorem foldl_insert_keysAsc (xs : List (Nat × CostModel)) : ∀ m : LanguageViews, keysAsc (keys m) = true →
    keysAsc (keys (xs.foldl (fun m kv => insert kv.1 kv.2 m) m)) = true := by
  induction xs with
  | nil => intro m h; exact h
  | cons x xs ih => intro m h; exact ih _ (insert_keysAsc x.1 x.2 m h)

theorem sortInsert_of_le (k : Nat) : ∀ xs : List Nat, (∀ x ∈ xs, k ≤ x) → sortInsert k xs = k :: xs
  | [], _ => rfl
  | x :: xs, h => by simp [sortInsert, h x (by simp)]

theorem sortNat_of_asc : ∀ xs : List Nat, xs.Pairwise (· < ·) → sortNat xs = xs
  | [], _ => rfl
  | x :: xs, h => by
    simp only [sortNat, sortNat_of_asc xs h.of_cons]
    exact sortInsert_of_le x xs fun y hy => Nat.le_of_lt (List.rel_of_pairwise_cons h hy)

theorem filter_ne_zero_of_pos (xs : List Nat) (h : ∀ x ∈ xs, 0 < x) : xs.filter (· ≠ 0) = xs := by
  apply List.filter_eq_self.mpr
  intro x hx; have := h x hx; simp; omega

theorem not_contains_zero_of_pos (xs : List Nat) (h : ∀ x ∈ xs, 0 < x) : xs.contains 0 = false := by
  rw [Bool.eq_false_iff]; intro hc
  have := h 0 (by simpa using hc); omega

/-- a leading 0 (PlutusV1, whose key `41 00` sorts after every uint key) moved to the end -/
def moveZeroLast : List Nat → List Nat
  | 0 :: r => r ++ [0]
  | ks => ks

theorem orderOf_eq (ks : List Nat) (h : keysAsc ks = true) : orderOf ks = moveZeroLast ks := by
  rw [keysAsc_iff] at h
  unfold orderOf moveZeroLast
  cases ks with
  | nil => simp [sortNat]
  | cons a r =>
    have hrpos : ∀ x ∈ r, 0 < x := fun x hx => Nat.zero_lt_of_lt (List.rel_of_pairwise_cons h hx)
    cases a with
    | zero =>
      simp only [List.filter_cons, ne_eq, not_true_eq_false, decide_false, Bool.false_eq_true, if_false,
        List.contains_cons, BEq.rfl, Bool.true_or, if_true]
      rw [filter_ne_zero_of_pos r hrpos, sortNat_of_asc r h.of_cons]
    | succ a =>
      have hall : ∀ x ∈ (a + 1) :: r, 0 < x := List.forall_mem_cons.2 ⟨a.succ_pos, hrpos⟩
      simp only []
      rw [filter_ne_zero_of_pos _ hall, sortNat_of_asc _ h, not_contains_zero_of_pos _ hall]
      simp

theorem canonicalOrder_eq (m : LanguageViews) (h : keysAsc (keys m) = true) :
    canonicalOrder m = moveZeroLast (keys m) := orderOf_eq (keys m) h

/-- RFC 7049 §3.9 canonical map-key order (what Cardano uses): shorter encoding first, equal lengths
    bytewise -/
def canonLt (a b : Bytes) : Bool :=
  decide (a.length < b.length) || (decide (a.length = b.length) && (cmpBytes a b == .lt))

/-- RFC 8949 §4.2.1 deterministic order: plain bytewise lexicographic -/
def bytewiseLt (a b : Bytes) : Bool := cmpBytes a b == .lt

def keyBytes (lang : Nat) : Bytes := (keyItem lang).encode

/-- a numeric rank that orders languages the way their key encodings are ordered. The constants only
    separate the three forms of a key for `l < 256`: one byte `l` (`0 < l < 24`) below two bytes `18 l`
    (rank `1000 + l`) below the byte string `41 00` of language 0 (rank 100000). -/
def ck (l : Nat) : Nat := if l = 0 then 100000 else if l < 24 then l else 1000 + l

theorem keyBytes_zero : keyBytes 0 = [0x41, 0x00] := by decide

theorem keyBytes_small (l : Nat) (h0 : l ≠ 0) (h : l < 24) : keyBytes l = [UInt8.ofNat l] := by
  simp [keyBytes, keyItem, h0, mkUInt, minHead, h, Item.encode, Head.encode, initByte]

theorem keyBytes_big (l : Nat) (h : 24 ≤ l) (h2 : l < 256) : keyBytes l = [0x18, UInt8.ofNat l] := by
  have h0 : l ≠ 0 := by omega
  have h1 : ¬ l < 24 := by omega
  simp [keyBytes, keyItem, h0, mkUInt, minHead, h1, h2, Item.encode, Head.encode, initByte, be]

theorem keyBytes_cases (a : Nat) (ha : a < 256) :
    (a = 0 ∧ keyBytes a = [0x41, 0x00] ∧ ck a = 100000) ∨
    (∃ x : UInt8, x.toNat = a ∧ a ≠ 0 ∧ a < 24 ∧ keyBytes a = [x] ∧ ck a = a) ∨
    (∃ x : UInt8, x.toNat = a ∧ 24 ≤ a ∧ keyBytes a = [0x18, x] ∧ ck a = 1000 + a) := by
  fun_cases ck a with
  -- language 0; one byte; `18 l`
  | case1 h0 => exact .inl ⟨h0, h0 ▸ keyBytes_zero, rfl⟩
  | case2 h0 h1 => exact .inr (.inl ⟨.ofNat a, toNat_ofNat_lt a ha, h0, h1, keyBytes_small a h0 h1, rfl⟩)
  | case3 h0 h1 => exact .inr (.inr ⟨.ofNat a, toNat_ofNat_lt a ha, by omega, keyBytes_big a (by omega) ha, rfl⟩)

theorem lt_of_head_lt {x y : UInt8} {xs ys : Bytes} (h : x.toNat < y.toNat) (hl : xs.length ≤ ys.length) :
    canonLt (x :: xs) (y :: ys) = true ∧ bytewiseLt (x :: xs) (y :: ys) = true := by
  have e : compare x.toNat y.toNat = .lt := Nat.compare_eq_lt.2 h
  simp only [canonLt, bytewiseLt, cmpBytes, e, List.length_cons, beq_self_eq_true, Bool.and_true, Bool.or_eq_true,
    decide_eq_true_eq, and_true]
  omega

theorem lt_cons_self (x : UInt8) (xs ys : Bytes) :
    canonLt (x :: xs) (x :: ys) = canonLt xs ys ∧ bytewiseLt (x :: xs) (x :: ys) = bytewiseLt xs ys := by
  simp [canonLt, bytewiseLt, cmpBytes]

/-- languages ascending in the rank are written with keys ascending in both orders. Of the nine pairs of key shapes
    (language 0; one byte; `18 l`, in this order for `a`, then for `b`) the ranks exclude four; in the others the first
    byte decides (`l < 18 < 41`), or after an equal `18` the second -/
theorem keyBytes_lt_of_ck (a b : Nat) (ha : a < 256) (hb : b < 256) (h : ck a < ck b) :
    canonLt (keyBytes a) (keyBytes b) = true ∧ bytewiseLt (keyBytes a) (keyBytes b) = true := by
  rcases keyBytes_cases a ha with ⟨a0, ea, ca⟩ | ⟨x, hx, a0, a1, ea, ca⟩ | ⟨x, hx, a1, ea, ca⟩ <;>
  rcases keyBytes_cases b hb with ⟨b0, eb, cb⟩ | ⟨y, hy, b0, b1, eb, cb⟩ | ⟨y, hy, b1, eb, cb⟩ <;>
    rw [ea, eb] <;> rw [ca, cb] at h
  · omega
  · omega
  · omega
  · exact lt_of_head_lt (by rw [hx]; show a < 65; omega) (Nat.zero_le _)
  · exact lt_of_head_lt (by rw [hx, hy]; exact h) (Nat.le_refl _)
  · exact lt_of_head_lt (by rw [hx]; exact a1) (Nat.zero_le _)
  · exact lt_of_head_lt (by decide) (Nat.le_refl _)
  · omega
  · rw [(lt_cons_self _ _ _).1, (lt_cons_self _ _ _).2]
    exact lt_of_head_lt (by rw [hx, hy]; omega) (Nat.le_refl _)

theorem ck_zero : ck 0 = 100000 := rfl

theorem ck_lt_ck_zero (l : Nat) (h0 : 0 < l) (h : l < 256) : ck l < ck 0 := by
  rw [ck_zero]; fun_cases ck l <;> omega

theorem ck_mono (a b : Nat) (h0 : 0 < a) (h : a < b) : ck a < ck b := by
  fun_cases ck a <;> fun_cases ck b <;> omega

/-- each element is `lt` its successor -/
def chain (lt : Bytes → Bytes → Bool) : List Bytes → Bool
  | [] => true
  | [_] => true
  | a :: b :: r => lt a b && chain lt (b :: r)

theorem chain_of_pairwise (lt : Bytes → Bytes → Bool) : ∀ l : List Bytes, l.Pairwise (lt · · = true) → chain lt l = true
  | [], _ => rfl
  | [_], _ => rfl
  | a :: b :: r, h => by
    simp only [chain, Bool.and_eq_true]
    exact ⟨List.rel_of_pairwise_cons h (by simp), chain_of_pairwise lt (b :: r) h.of_cons⟩

/-- the written order ascends in the rank `ck`: it is the positive keys, on which `ck` is monotone, then the 0 if there
    is one, which ranks above them all (read off `orderOf` itself: the sort does nothing to ascending keys) -/
theorem canonicalOrder_pairwise (m : LanguageViews) (h : keysAsc (keys m) = true) (hb : ∀ k ∈ keys m, k < 256) :
    (canonicalOrder m).Pairwise (ck · < ck ·) := by
  rw [keysAsc_iff] at h
  have pos : ∀ {a}, a ∈ (keys m).filter (· ≠ 0) → a ∈ keys m ∧ 0 < a := fun ha => by
    simpa [Nat.pos_iff_ne_zero] using List.mem_filter.1 ha
  have hc : ((keys m).filter (· ≠ 0)).Pairwise (ck · < ck ·) :=
    (h.filter _).imp_of_mem fun ha _ hab => ck_mono _ _ (pos ha).2 hab
  unfold canonicalOrder orderOf
  rw [sortNat_of_asc _ (h.filter _)]
  split
  · exact List.pairwise_append.2 ⟨hc, List.pairwise_singleton _ _, fun a ha b hb' => by
      obtain rfl := List.mem_singleton.1 hb'
      exact ck_lt_ck_zero a (pos ha).2 (hb a (pos ha).1)⟩
  · exact hc

theorem canonicalOrder_perm (m : LanguageViews) (h : keysAsc (keys m) = true) :
    (canonicalOrder m).Perm (keys m) := by
  rw [canonicalOrder_eq m h]
  fun_cases moveZeroLast (keys m)
  · exact List.perm_append_comm
  · exact .refl _

theorem canonicalOrder_mem (m : LanguageViews) (h : keysAsc (keys m) = true) (k : Nat) :
    k ∈ canonicalOrder m ↔ k ∈ keys m := (canonicalOrder_perm m h).mem_iff

theorem canonicalOrder_length (m : LanguageViews) (h : keysAsc (keys m) = true) :
    (canonicalOrder m).length = m.length := by
  rw [(canonicalOrder_perm m h).length_eq]; simp [keys]

/-- `fieldOf` on the flat child list is `TxView.mapGet` on the paired one, and `wsEntries` the child list that
    `Item.mapEntries?` pairs up: a witness-set field is a map value in the sense of `Proofs/Slices` -/
theorem fieldOf_eq_mapGet (k : Nat) : ∀ es : List Item, fieldOf k es = TxView.mapGet k (pairUp es)
  | [] | [_] => rfl
  | key :: x :: rest => by simp only [fieldOf, pairUp, TxView.mapGet, fieldOf_eq_mapGet k rest]

theorem mapEntries_eq_wsEntries (i : Item) : i.mapEntries? = (wsEntries i).map pairUp := by
  fun_cases wsEntries i <;> simp [Item.mapEntries?, *]

/-- the value inhabits the Rust types: at most 2^32 coefficients per model (any `Vec` that fits in
    memory), each an `i64`, language ids `u8` -/
def costFits (cm : CostModel) : Bool :=
  decide (cm.length < 4294967296) && cm.all fun c => decide (-(9223372036854775808 : Int) ≤ c) && decide (c < 9223372036854775808)

def viewsFit (m : LanguageViews) : Bool :=
  decide (m.length < u64Bound) && m.all fun kv => decide (kv.1 < 256) && costFits kv.2

theorem lookup_mem (k : Nat) (m : LanguageViews) (cm : CostModel) : lookup k m = some cm → (k, cm) ∈ m := by
  fun_induction lookup k m with
  | case1 => exact nofun
  | case2 v r => rintro ⟨⟩; exact List.mem_cons_self ..
  | case3 k' v r _ ih => exact fun h => List.mem_cons_of_mem _ (ih h)

theorem mkInt_encode_length (c : Int) : (mkInt c).encode.length ≤ 9 := by
  fun_cases mkInt c <;> exact head_encode_length_le _ (minHead_wf _ _ (by decide))

theorem encodeList_mkInt_length (cm : CostModel) : (encodeList (cm.map mkInt)).length ≤ 9 * cm.length := by
  induction cm with
  | nil => simp [encodeList]
  | cons c cs ih =>
    have h1 := mkInt_encode_length c
    simp only [List.map_cons, encodeList, List.length_append, List.length_cons]; omega

theorem wfList_mkInt (cm : CostModel) : wfList (cm.map mkInt) = true := by
  induction cm with
  | nil => rfl
  | cons c cs ih =>
    simp only [List.map_cons, wfList, Bool.and_eq_true]
    exact ⟨mkInt_wf c, ih⟩

theorem costFits_iff (cm : CostModel) : costFits cm = true ↔
    cm.length < 4294967296 ∧ ∀ c ∈ cm, -(9223372036854775808 : Int) ≤ c ∧ c < 9223372036854775808 := by
  simp [costFits, List.all_eq_true]

theorem valueItem_wf (l : Nat) (cm : CostModel) (h : costFits cm = true) : (valueItem l cm).wf = true := by
  rw [costFits_iff] at h
  fun_cases valueItem l cm
  · have hl := encodeList_mkInt_length cm
    exact mkBytes_wf _ (by simp [Item.encode]; omega)
  · exact mkArray_wf _ (by simp; omega) (wfList_mkInt cm)

theorem keyItem_wf (l : Nat) : (keyItem l).wf = true := by
  fun_cases keyItem l
  · decide
  · exact mkUInt_wf l

theorem entryItems_wf (m : LanguageViews) (hm : viewsFit m = true) :
    ∀ ls : List Nat, wfList (entryItems m ls) = true ∧ (entryItems m ls).length = 2 * ls.length
  | [] => by simp [entryItems, wfList]
  | l :: ls => by
    obtain ⟨ih1, ih2⟩ := entryItems_wf m hm ls
    have hv : costFits ((lookup l m).getD []) = true := by
      cases hlk : lookup l m with
      | none => decide
      | some cm =>
        have := lookup_mem l m cm hlk
        simp only [viewsFit, Bool.and_eq_true, List.all_eq_true] at hm
        exact (hm.2 _ this).2
    simp only [entryItems, wfList, Bool.and_eq_true, List.length_cons]
    exact ⟨⟨keyItem_wf l, valueItem_wf l _ hv, ih1⟩, by omega⟩

theorem viewsItem_wf (m : LanguageViews) (h : keysAsc (keys m) = true) (hm : viewsFit m = true) :
    (viewsItem m).wf = true := by
  obtain ⟨w1, w2⟩ := entryItems_wf m hm (canonicalOrder m)
  have hlen : m.length < u64Bound := by
    simp only [viewsFit, Bool.and_eq_true, decide_eq_true_eq] at hm; exact hm.1
  simp [viewsItem, Item.wf, minHead_wf 5 _ (by decide), minHead_major, minHead_ai_ne,
    minHead_val 5 m.length (by unfold u64Bound at hlen; omega), seqCount, w1, w2, canonicalOrder_length m h]

end PallasVerif.ScriptData
