import PallasVerif.Proofs.P2PInv
/-! `error_count` of every tracked peer is bounded by the number of events handled so far (`step_err`), so
    the `u32` increment in `on_errored` cannot overflow on histories shorter than 2^32 (`run_total`). -/
namespace PallasVerif.P2P

def ErrLe (n : Nat) (s : St) : Prop := ∀ p st, s.peers p = some st → st.errorCount ≤ n

theorem ErrLe.mono {n m : Nat} {s : St} (h : ErrLe n s) (hnm : n ≤ m) : ErrLe m s :=
  fun p st hp => Nat.le_trans (h p st hp) hnm

theorem ErrLe.set {n : Nat} {s f : St} {p : Nat} {st' : Peer} (h : ErrLe n s)
    (hp : f.peers = setPeer s.peers p st') (he : st'.errorCount ≤ n) : ErrLe n f := by
  intro q st hq
  rw [hp] at hq
  by_cases e : q = p
  · subst e; rw [setPeer_same] at hq; cases hq; exact he
  · rw [setPeer_other _ _ e] at hq; exact h q st hq

theorem Handled.errLe {n : Nat} {s f : St} {p : Nat} {g : Peer → Peer} (h : Handled s p g f) (e : ErrLe n s)
    (hg : ∀ st, s.peers p = some st → (g st).errorCount ≤ n) : ErrLe n f := by
  cases h with
  | untracked => exact e
  | visit hp v k => exact e.set v.peers (by rw [k.err]; exact hg _ hp)

theorem onDiscovered_err {n : Nat} {s f : St} {p : Nat} (h : onDiscovered s p = some f) (e : ErrLe n s) : ErrLe n f := by
  obtain ⟨st1, hpeers, -, -, her⟩ := onDiscovered_spec h
  exact ErrLe.set e hpeers (by rw [her]; exact Nat.zero_le n)

theorem moveDiscovered_err {n : Nat} {s f : St} {taken : List Nat} (h : moveDiscovered s taken = some f)
    (e : ErrLe n s) : ErrLe n f := by
  unfold moveDiscovered at h
  split at h
  · cases h
  · split at h
    · cases h; exact e
    · refine discAll_preserves (fun _ hi _ h1 => onDiscovered_err h1 hi) _ ?_ h
      exact e

theorem housekeeping_err {n : Nat} {s f : St} {ord taken : List Nat} (h : housekeeping s ord taken = some f)
    (e : ErrLe n s) : ErrLe n f := by
  obtain ⟨s1, h1, h2⟩ := housekeeping_spec h
  exact moveDiscovered_err h2 (hkAll_preserves (fun p hi h1 => (hkPeer_spec h1).errLe hi (hi p)) ord e h1)

theorem inboundMsg_err {n : Nat} {s f : St} {p : Nat} {m : Msg} (h : inboundMsg s p m = some f) (e : ErrLe n s) :
    ErrLe n f := by
  rcases inboundMsg_spec h with ⟨-, rfl⟩ | ⟨st, st1, new, hp, v, k⟩
  · exact e
  · exact ErrLe.set e v.peers (by rw [k.err]; exact e p st hp)

theorem step_err {n : Nat} {s f : St} {e : Ev} (h : step s e = some f) (he : ErrLe n s) : ErrLe (n + 1) f := by
  -- only `error` uses the room; everything else keeps the weaker bound
  have hm : ErrLe (n + 1) { s with out := [] } := he.mono (Nat.le_succ n)
  unfold step at h
  cases e with
  | includePeer p =>
    dsimp only at h
    split at h
    · cases h; exact hm
    · exact onDiscovered_err h hm
  | housekeeping ord taken | idle ord taken => exact housekeeping_err h hm
  | startSync | requestBlocks r | sendTx | fetchEb p eb | fetchEbTxs p eb => cases h; exact hm
  | continueSync p | demotePeer p => cases h; exact (onTagged_handled _ p _).errLe hm (hm p)
  | banPeer p =>
    cases h
    split <;> exact (onTagged_handled _ p _).errLe hm (hm p)
  | connected p => cases h; exact (onConnected_handled _ p).errLe hm (hm p)
  | disconnected p => cases h; exact (onDisconnected_handled _ p).errLe hm (hm p)
  | recv p ms => exact inboundAll_preserves (fun _ hi h1 => inboundMsg_err h1 hi) ms hm h
  | sent p m =>
    cases h
    exact (outboundMsg_handled _ p m).errLe hm (fun st hp => by rw [applyMsg_err]; exact hm p st hp)
  | error p => exact (onErrored_handled h).errLe hm (fun st hp => Nat.succ_le_succ (he p st hp))

theorem run_total :
    ∀ (h : List Ev) (s : St) (n : Nat), Inv s → ErrLe n s → n + h.length < u32Bound →
      ∃ f, run s h = some f ∧ Inv f ∧ ErrLe (n + h.length) f := by
  intro h
  induction h with
  | nil => intro s n hi he _; exact ⟨s, rfl, hi, he⟩
  | cons e es ih =>
    intro s n hi he hl
    simp only [List.length_cons] at hl
    have hr : ErrRoom s e := by
      intro p st _ hp
      have := he p st hp
      omega
    obtain ⟨f1, h1, g1⟩ := step_good e hi hr
    obtain ⟨f, h2, hi2, he2⟩ := ih f1 (n + 1) g1.inv (step_err h1 he) (by omega)
    refine ⟨f, ?_, hi2, ?_⟩
    · simp only [run, h1, h2]
    · simp only [List.length_cons]; rw [show n + (es.length + 1) = n + 1 + es.length by omega]; exact he2

theorem init_err (cfg : Cfg) : ErrLe 0 (St.init cfg) := by
  intro p st hp; simp [St.init] at hp

end PallasVerif.P2P
