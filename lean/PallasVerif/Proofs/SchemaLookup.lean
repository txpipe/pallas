import PallasVerif.Model.Schema
/-!
  The lookups of the model (`findVariant`, `findIdx`, `findAltByPos`, `findAltByTy`, `findField`) are core's `find?`
  (on `zipIdx` where a position is returned), so what is found is an entry of the table. The static check's
  `distinctNats`, `altsDisjoint`, `increasingFrom` are `Pairwise` relations, each of which keeps every earlier entry
  from matching the key of a later one: an entry of the table is found under its own key (`find?_of_pairwise`).
-/
namespace PallasVerif.Schema

/-- every entry before `x` stands in `R` to it, and that rules out `p` -/
theorem find?_of_pairwise {α} {R : α → α → Prop} {p : α → Bool} {x : α} (hx : p x = true)
    (hR : ∀ a, R a x → p a = false) : ∀ {l : List α}, l.Pairwise R → x ∈ l → l.find? p = some x
  | a :: l, hl, hm => by
    rw [List.pairwise_cons] at hl
    rw [List.find?_cons]
    rcases List.mem_cons.mp hm with rfl | hm
    · rw [hx]
    · rw [hR a (hl.1 x hm)]; exact find?_of_pairwise hx hR hl.2 hm

theorem distinctNats_iff (l : List Nat) : distinctNats l = true ↔ l.Nodup := by
  induction l with
  | nil => simp [distinctNats]
  | cons n r ih => simp [distinctNats, ih]

theorem distinctNats_append (a b : List Nat) (h : distinctNats (a ++ b) = true) :
    distinctNats a = true ∧ ∀ x, x ∈ a → x ∉ b := by
  rw [distinctNats_iff, List.nodup_append] at h
  exact ⟨(distinctNats_iff a).mpr h.1, fun x ha hb => h.2.2 x ha x hb rfl⟩

theorem findVariant_eq {α} (i : Int) : ∀ (vs : List (Nat × α)) (k : Nat),
    findVariant i k vs = ((vs.zipIdx k).find? fun q => (q.1.1 : Int) == i).map fun q => (q.2, q.1.2)
  | [], _ => rfl
  | (n, a) :: vs, k => by
    by_cases h : (n : Int) = i <;> simp [findVariant, h, findVariant_eq i vs (k + 1)]

theorem findVariant_of_getElem {α} {vs : List (Nat × α)} {pos n : Nat} {a : α}
    (hd : distinctNats (vs.map (·.1)) = true) (h : vs[pos]? = some (n, a)) : findVariant (n : Int) 0 vs = some (pos, a) := by
  have hp : (vs.zipIdx 0).Pairwise fun x y => x.1.1 ≠ y.1.1 := by
    rw [distinctNats_iff, ← List.zipIdx_map_fst 0 vs, List.map_map] at hd
    exact List.pairwise_map.mp hd
  rw [findVariant_eq, find?_of_pairwise (x := ((n, a), pos)) (by simp) (fun q hq => by simpa [Int.natCast_inj] using hq) hp
    (List.mk_mem_zipIdx_iff_getElem?.mpr h)]
  rfl

theorem getElem_of_findVariant_zero {α} {vs : List (Nat × α)} {n pos : Nat} {a : α}
    (hf : findVariant (n : Int) 0 vs = some (pos, a)) : vs[pos]? = some (n, a) := by
  rw [findVariant_eq, Option.map_eq_some_iff] at hf
  obtain ⟨⟨⟨m, b⟩, j⟩, hf, he⟩ := hf
  cases he
  have hm : m = n := by simpa [Int.natCast_inj] using List.find?_some hf
  exact hm ▸ List.mk_mem_zipIdx_iff_getElem?.mp (List.mem_of_find?_eq_some hf)

theorem findVariant_eq_none {α} (vs : List (Nat × α)) (x : Nat) :
    findVariant (x : Int) 0 vs = none ↔ (vs.all (fun v => v.1 != x)) = true := by
  simp only [findVariant_eq, Option.map_eq_none_iff, List.find?_eq_none, List.all_eq_true]
  constructor
  · intro h v hv
    obtain ⟨j, hj⟩ := List.getElem?_of_mem hv
    simpa [Int.natCast_inj] using h (v, j) (List.mk_mem_zipIdx_iff_getElem?.mpr hj)
  · intro h q hq
    simpa [Int.natCast_inj] using h q.1 (List.mem_zipIdx_iff_getElem?.mp hq |> List.mem_of_getElem?)

theorem findIdx_eq_findVariant (i : Int) : ∀ (vs : List Nat) (k : Nat),
    findIdx i k vs = (findVariant i k (vs.map (fun n => (n, ())))).map (·.1)
  | [], _ => rfl
  | n :: vs, k => by
    by_cases h : (n : Int) = i <;> simp [findIdx, findVariant, h, findIdx_eq_findVariant i vs (k + 1)]

theorem findAltByPos_eq (pos : Nat) : ∀ (alts : List (Nat × List Ty × Schema)),
    findAltByPos pos alts = (alts.find? (·.1 == pos)).map (·.2.2)
  | [] => rfl
  | a :: r => by
    by_cases h : a.1 = pos <;> simp [findAltByPos, h, findAltByPos_eq pos r]

theorem findAltByPos_mem (alts : List (Nat × List Ty × Schema)) (pos : Nat) (s : Schema)
    (h : findAltByPos pos alts = some s) : ∃ tys, (pos, tys, s) ∈ alts := by
  rw [findAltByPos_eq, Option.map_eq_some_iff] at h
  obtain ⟨⟨p, tys, s'⟩, hf, rfl⟩ := h
  have hp : p = pos := by simpa using List.find?_some hf
  exact ⟨tys, hp ▸ List.mem_of_find?_eq_some hf⟩

theorem findAltByPos_of_mem (alts : List (Nat × List Ty × Schema)) (p : Nat) (tys : List Ty) (s : Schema)
    (hd : distinctNats (alts.map (·.1)) = true) (hm : (p, tys, s) ∈ alts) : findAltByPos p alts = some s := by
  rw [findAltByPos_eq, find?_of_pairwise (by simp) (fun a ha => by simpa using ha)
    (List.pairwise_map.mp ((distinctNats_iff _).mp hd)) hm]
  rfl

theorem findAltByTy_eq (t : Ty) : ∀ (alts : List (Nat × List Ty × Schema)),
    findAltByTy t alts = (alts.find? (·.2.1.contains t)).map fun a => (a.1, a.2.2)
  | [] => rfl
  | a :: r => by
    by_cases h : t ∈ a.2.1 <;> simp [findAltByTy, h, findAltByTy_eq t r]

theorem findAltByTy_mem (alts : List (Nat × List Ty × Schema)) (t p s) (h : findAltByTy t alts = some (p, s)) :
    ∃ tys, (p, tys, s) ∈ alts := by
  rw [findAltByTy_eq, Option.map_eq_some_iff] at h
  obtain ⟨⟨p', tys, s'⟩, hf, he⟩ := h
  cases he
  exact ⟨tys, List.mem_of_find?_eq_some hf⟩

theorem altsDisjoint_pairwise : ∀ (alts : List (Nat × List Ty × Schema)), altsDisjoint alts = true →
    alts.Pairwise fun a b => ∀ t, t ∈ b.2.1 → t ∉ a.2.1
  | [], _ => .nil
  | a :: r, h => by
    simp only [altsDisjoint, disjoint, Bool.and_eq_true, List.all_eq_true, Bool.not_eq_true', List.contains_eq_mem,
      decide_eq_false_iff_not] at h
    exact List.pairwise_cons.mpr ⟨fun b hb t ht hta => h.1 b hb t hta ht, altsDisjoint_pairwise r h.2⟩

theorem findAltByTy_of_mem (alts : List (Nat × List Ty × Schema)) (p tys s t)
    (hd : altsDisjoint alts = true) (hm : (p, tys, s) ∈ alts) (ht : t ∈ tys) : findAltByTy t alts = some (p, s) := by
  rw [findAltByTy_eq, find?_of_pairwise (by simpa using ht) (fun a ha => by simpa using ha t ht)
    (altsDisjoint_pairwise alts hd) hm]
  rfl

theorem increasingFrom_cons (lo idx : Nat) (s : Schema) (fs : List (Nat × Schema)) :
    increasingFrom lo ((idx, s) :: fs) = true ↔ lo ≤ idx ∧ idx < 2 ^ 63 ∧ increasingFrom (idx + 1) fs = true := by
  simp [increasingFrom, and_assoc]

theorem increasingFrom_pairwise : ∀ (fs : List (Nat × Schema)) lo, increasingFrom lo fs = true →
    (∀ p, p ∈ fs → lo ≤ p.1 ∧ p.1 < 2 ^ 63) ∧ fs.Pairwise fun a b => a.1 < b.1
  | [], _, _ => ⟨by simp, .nil⟩
  | (idx, s) :: fs, lo, hi => by
    rw [increasingFrom_cons] at hi
    obtain ⟨hb, hp⟩ := increasingFrom_pairwise fs (idx + 1) hi.2.2
    refine ⟨?_, List.pairwise_cons.mpr ⟨fun b hb' => (hb b hb').1, hp⟩⟩
    intro p hp
    rcases List.mem_cons.mp hp with rfl | hp
    · exact ⟨hi.1, hi.2.1⟩
    · exact ⟨by have := (hb p hp).1; omega, (hb p hp).2⟩

theorem increasingFrom_length : ∀ (fs : List (Nat × Schema)) lo, lo ≤ 2 ^ 63 → increasingFrom lo fs = true →
    lo + fs.length ≤ 2 ^ 63 := by
  intro fs
  induction fs with
  | nil => intro lo h _; simpa using h
  | cons q fs ih =>
    intro lo _ hi
    obtain ⟨idx, s⟩ := q
    rw [increasingFrom_cons] at hi
    have := ih (idx + 1) (by omega) hi.2.2
    simp; omega

theorem findField_eq (i : Int) : ∀ (fs : List (Nat × Schema)), findField i fs = fs.find? fun p => (p.1 : Int) == i
  | [] => rfl
  | (idx, s) :: fs => by
    by_cases h : (idx : Int) = i <;> simp [findField, h, findField_eq i fs]

/-- `2 ^ 63`: the map layout reads its keys with `i64()` -/
theorem findField_fields {fs : List (Nat × Schema)} (hi : increasingFrom 0 fs = true) :
    ∀ p, p ∈ fs → findField (p.1 : Int) fs = some p ∧ p.1 < 2 ^ 63 := by
  obtain ⟨hb, hp⟩ := increasingFrom_pairwise fs 0 hi
  exact fun p hm => ⟨by
    rw [findField_eq, find?_of_pairwise (by simp) (fun a ha => by simp; omega) hp hm], (hb p hm).2⟩

end PallasVerif.Schema
