import Mathlib.Analysis.Complex.Exponential
import PallasVerif.Model.RefMath
import PallasVerif.Proofs.Decimal
/-! Real-number reading of the stored integers at the default precision 34 (C15, C16): `toReal z = z / 10^34`;
    a fixed-point product `scale (a * b)` is the exact product rounded down by at most one ulp, a truncating
    division by an integer is off by at most one ulp, downwards on non-negatives. Each fact also stands as a
    rule saying how a bound on the operands passes to the result — an upper bound on non-negatives
    (`toReal_scale_mul_le_of_le`, `toReal_tdiv_le`), an error bound for either sign (`toReal_scale_mul_near`,
    `toReal_tdiv_near`) — so that a bound on an iterated computation is an induction with one rule per
    operation. (`ONE`, the stored 1, is `Model/RefMath`'s name for `10^34`; the C15/C16 theorems name
    `toReal` as `Proofs.ExpCmp.toReal`, hence the namespace.) -/
namespace PallasVerif.Proofs.ExpCmp
open PallasVerif.Decimal PallasVerif.RefMath PallasVerif.Proofs.Decimal

noncomputable def toReal (z : Int) : ℝ := (z : ℝ) / (P : ℝ)

theorem P_real_pos : (0 : ℝ) < (P : ℝ) := by exact_mod_cast P_pos

theorem toReal_le {a b : Int} (h : a ≤ b) : toReal a ≤ toReal b :=
  div_le_div_of_nonneg_right (by exact_mod_cast h) P_real_pos.le

theorem toReal_lt {a b : Int} (h : a < b) : toReal a < toReal b :=
  div_lt_div_of_pos_right (by exact_mod_cast h) P_real_pos

theorem toReal_ONE : toReal ONE = 1 := div_self P_real_pos.ne'

theorem toReal_zero : toReal 0 = 0 := by rw [toReal, Int.cast_zero, zero_div]

theorem toReal_nonneg {z : Int} (hz : 0 ≤ z) : 0 ≤ toReal z := toReal_zero ▸ toReal_le hz

theorem toReal_add (a b : Int) : toReal (a + b) = toReal a + toReal b := by
  simp only [toReal, Int.cast_add, add_div]

theorem toReal_sub (a b : Int) : toReal (a - b) = toReal a - toReal b := by
  simp only [toReal, Int.cast_sub, sub_div]

theorem toReal_neg (a : Int) : toReal (-a) = -toReal a := by
  simp only [toReal, Int.cast_neg, neg_div]

theorem toReal_mul_int (a b : Int) : toReal (a * b) = toReal a * (b : ℝ) := by
  simp only [toReal, Int.cast_mul, mul_div_right_comm]

theorem toReal_natAbs (a : Int) : toReal (a.natAbs : Int) = |toReal a| := by
  simp only [toReal, Int.natCast_natAbs, Int.cast_abs, abs_div, abs_of_pos P_real_pos]

/-- the exact product of two stored numbers, before `scale` -/
theorem toReal_mul_div (a b : Int) : toReal (a * b) / (P : ℝ) = toReal a * toReal b := by
  simp only [toReal, Int.cast_mul]; ring

theorem abs_toReal_le_one {x : Int} (hx : -P ≤ x) (hx1 : x ≤ P) : |toReal x| ≤ 1 := by
  have h1 := toReal_le hx
  have h2 := toReal_le hx1
  rw [toReal_neg] at h1
  exact abs_le.mpr ⟨by rwa [← toReal_ONE], by rwa [← toReal_ONE]⟩

theorem toReal_scale_mul_le (a b : Int) : toReal (scale (a * b)) ≤ toReal a * toReal b := by
  rw [← toReal_mul_div, toReal, toReal, div_le_div_iff_of_pos_right P_real_pos, le_div_iff₀ P_real_pos]
  exact_mod_cast (scale_bounds (a * b)).1

theorem toReal_scale_mul_le_of_le {a b : Int} {A B : ℝ} (ha : 0 ≤ a) (hb : 0 ≤ b) (hA : toReal a ≤ A)
    (hB : toReal b ≤ B) : toReal (scale (a * b)) ≤ A * B :=
  (toReal_scale_mul_le a b).trans (mul_le_mul hA hB (toReal_nonneg hb) ((toReal_nonneg ha).trans hA))

theorem toReal_scale_mul_abs (a b : Int) : |toReal (scale (a * b)) - toReal a * toReal b| ≤ 1 / (P : ℝ) := by
  rw [abs_sub_comm, abs_of_nonneg (sub_nonneg.mpr (toReal_scale_mul_le a b)), sub_le_comm,
    ← toReal_mul_div, ← sub_div, toReal, toReal, div_le_div_iff_of_pos_right P_real_pos, sub_le_iff_le_add,
    div_le_iff₀ P_real_pos]
  exact_mod_cast (scale_bounds (a * b)).2.le

theorem toReal_tdiv_sub (a d : Int) (hd : 0 < d) :
    toReal (a.tdiv d) - toReal a / (d : ℝ) = -(toReal (a.tmod d) / (d : ℝ)) := by
  have hdr : (d : ℝ) ≠ 0 := by exact_mod_cast hd.ne'
  have h : toReal a = toReal (a.tdiv d) * (d : ℝ) + toReal (a.tmod d) := by
    rw [← toReal_mul_int, ← toReal_add, Int.tdiv_mul_add_tmod]
  rw [h, add_div, mul_div_cancel_right₀ _ hdr, sub_add_cancel_left]

theorem toReal_tdiv_le {a d : Int} {A : ℝ} (ha : 0 ≤ a) (hd : 0 < d) (hA : toReal a ≤ A) :
    toReal (a.tdiv d) ≤ A / (d : ℝ) := by
  have hdr : (0 : ℝ) < (d : ℝ) := by exact_mod_cast hd
  have := toReal_tdiv_sub a d hd
  have := div_nonneg (toReal_nonneg (Int.tmod_nonneg d ha)) hdr.le
  have := div_le_div_of_nonneg_right hA hdr.le
  linarith

theorem toReal_tdiv_abs (a d : Int) (hd : 0 < d) :
    |toReal (a.tdiv d) - toReal a / (d : ℝ)| ≤ 1 / (P : ℝ) := by
  have hdr : (0 : ℝ) < (d : ℝ) := by exact_mod_cast hd
  have hr : |toReal (a.tmod d)| ≤ toReal d :=
    toReal_natAbs _ ▸ toReal_le (Int.le_of_lt (natAbs_tmod_lt a d hd))
  rw [toReal_tdiv_sub a d hd, abs_neg, abs_div, abs_of_pos hdr, div_le_iff₀ hdr]
  simpa only [toReal, div_mul_eq_mul_div, one_mul] using hr

/-- `div a b` (`div_eq_tdiv`): the exact quotient of the two stored numbers, off by at most one ulp -/
theorem toReal_div_abs (a b : Int) (hb : 0 < b) :
    |toReal ((a * P).tdiv b) - toReal a / toReal b| ≤ 1 / (P : ℝ) := by
  have h := toReal_tdiv_abs (a * P) b hb
  rwa [toReal_mul_int, ← div_div_eq_mul_div] at h

/-- an error `v` in the first factor passes through a fixed-point product with `|b| ≤ 1` unchanged, plus the
    product's own ulp -/
theorem toReal_scale_mul_near {a b : Int} {A v : ℝ} (hb : |toReal b| ≤ 1) (hA : |toReal a - A| ≤ v) :
    |toReal (scale (a * b)) - A * toReal b| ≤ 1 / (P : ℝ) + v := by
  have h : |toReal a * toReal b - A * toReal b| ≤ v := by
    rw [← sub_mul, abs_mul]
    exact (mul_le_mul hA hb (abs_nonneg _) ((abs_nonneg _).trans hA)).trans_eq (mul_one v)
  exact (abs_sub_le _ _ _).trans (add_le_add (toReal_scale_mul_abs a b) h)

/-- a division by `d ≥ 2` halves the inherited error `v` and adds its own ulp -/
theorem toReal_tdiv_near {a d : Int} {A v : ℝ} (hd : 2 ≤ d) (hA : |toReal a - A| ≤ v) :
    |toReal (a.tdiv d) - A / (d : ℝ)| ≤ 1 / (P : ℝ) + v / 2 := by
  have hdr : (2 : ℝ) ≤ (d : ℝ) := by exact_mod_cast hd
  have h : |toReal a / (d : ℝ) - A / (d : ℝ)| ≤ v / 2 := by
    rw [← sub_div, abs_div, abs_of_pos (two_pos.trans_le hdr)]
    exact div_le_div₀ ((abs_nonneg _).trans hA) hA two_pos hdr
  exact (abs_sub_le _ _ _).trans (add_le_add (toReal_tdiv_abs a d (by omega)) h)

end PallasVerif.Proofs.ExpCmp
