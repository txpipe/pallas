import PallasVerif.Model.FeeSize
/-!
# C36 — Fee and size limits use the ledger's transaction size

The ledger measures a transaction, for the fee and for the size limit, as the length of its
serialisation without the phase-2 validity flag: one byte of array head, the body, the witness
set, and the auxiliary data or a one-byte `null` (`ledgerSize`, stated here from the CDDL, not from
the code).

* `validator_size_eq_ledger_size` — the size the validators use (all four post-Byron eras, through
  `MultiEraTx::size`) is `ledgerSize`, for every transaction below 4 GiB.
* `fee_boundary_accept` / `fee_boundary_reject`, `size_boundary_accept` / `size_boundary_reject` — each rule alone, for
  any size: a fee of exactly `b + a * size` passes and one lovelace less is `FeeBelowMin`; a limit of exactly `size`
  passes and one byte less is `MaxTxSizeExceeded` (the minimum is computed in `u64`; `fee_formula_fits`: it always
  fits for `u32` coefficients and sizes).
* `accept_iff` — in every era the two rules together accept exactly when `b + a * ledgerSize ≤ fee` and
  `ledgerSize ≤ max`, in either rule order; `boundary_accept`, `boundary_reject_fee`, `boundary_reject_size` are its
  boundary cases.
* `old_sizes_off_by_one` — the sizes the unchanged tree computes (DESIGN §6 #23) differ from the ledger size for every
  transaction, so no boundary theorem holds of them.
-/
namespace PallasVerif.Props.C36
open PallasVerif.FeeSize

/-- CDDL: `transaction = [body, witness_set, bool, aux / null]`, measured without the `bool`:
    1 byte array head + parts (the head of a 3- or 4-element definite array is one byte) -/
def ledgerSize (p : Parts) : Nat := 1 + p.body + p.wits + (match p.aux with | some a => a | none => 1)

theorem traverse_size_eq_ledger_size (p : Parts) : traverseSize p = ledgerSize p := by
  unfold traverseSize auxDataSize ledgerSize
  cases p.aux <;> simp <;> omega

theorem validator_size_eq_ledger_size (p : Parts) (h : ledgerSize p ≤ U32_MAX) :
    validatorSize p = ledgerSize p := by
  unfold validatorSize
  rw [traverse_size_eq_ledger_size]
  exact Nat.mod_eq_of_lt (by omega)

theorem fee_formula_fits (a b size : Nat) (ha : a ≤ U32_MAX) (hb : b ≤ U32_MAX) (hs : size ≤ U32_MAX) :
    b + a * size ≤ U64_MAX :=
  Nat.le_trans (Nat.add_le_add hb (Nat.mul_le_mul ha hs)) (by decide)

/-- with the minimum representable in `u64` the two overflow guards are dead and the fee rule is the comparison -/
theorem checkMinFee_of_fits (fee a b size : Nat) (h : b + a * size ≤ U64_MAX) :
    checkMinFee fee a b size = if fee < b + a * size then .feeBelowMin else .ok := by
  rw [checkMinFee, if_neg (Nat.not_lt.mpr (Nat.le_trans (Nat.le_add_left _ _) h)), if_neg (Nat.not_lt.mpr h)]

theorem guard_ok_iff {c : Prop} [Decidable c] {e : Res} (he : e ≠ .ok) : (if c then e else .ok) = .ok ↔ ¬ c := by
  rw [ite_eq_right_iff]
  exact ⟨fun h hc => he (h hc), fun h hc => absurd hc h⟩

theorem checkMinFee_ok_iff (fee a b size : Nat) (h : b + a * size ≤ U64_MAX) :
    checkMinFee fee a b size = .ok ↔ b + a * size ≤ fee := by
  rw [checkMinFee_of_fits fee a b size h, guard_ok_iff (e := .feeBelowMin) nofun, Nat.not_lt]

theorem checkTxSize_ok_iff (size maxSize : Nat) : checkTxSize size maxSize = .ok ↔ size ≤ maxSize := by
  rw [checkTxSize, guard_ok_iff (e := .maxTxSizeExceeded) nofun, Nat.not_lt]

/-- the pair's verdict is always that of one of its two rules, so it panics only if one of them does (C33) -/
theorem feeAndSize_verdict (era : Era) (p : Parts) (fee a b maxSize : Nat) :
    (feeAndSize era p fee a b maxSize = .ok ↔
      checkMinFee fee a b (validatorSize p) = .ok ∧ checkTxSize (validatorSize p) maxSize = .ok) ∧
    (feeAndSize era p fee a b maxSize = checkMinFee fee a b (validatorSize p) ∨
     feeAndSize era p fee a b maxSize = checkTxSize (validatorSize p) maxSize) := by
  cases era <;> simp only [feeAndSize]
  · cases checkTxSize (validatorSize p) maxSize <;> simp
  all_goals cases checkMinFee fee a b (validatorSize p) <;> simp

theorem fee_boundary_accept (a b size : Nat) (h : b + a * size ≤ U64_MAX) :
    checkMinFee (b + a * size) a b size = .ok :=
  (checkMinFee_ok_iff _ a b size h).mpr (Nat.le_refl _)

theorem fee_boundary_reject (a b size : Nat) (h : b + a * size ≤ U64_MAX) (hpos : 0 < b + a * size) :
    checkMinFee (b + a * size - 1) a b size = .feeBelowMin := by
  rw [checkMinFee_of_fits _ a b size h, if_pos (Nat.sub_one_lt (Nat.ne_of_gt hpos))]

theorem size_boundary_accept (size : Nat) : checkTxSize size size = .ok :=
  (checkTxSize_ok_iff size size).mpr (Nat.le_refl _)

theorem size_boundary_reject (size : Nat) (hpos : 0 < size) :
    checkTxSize size (size - 1) = .maxTxSizeExceeded := by
  rw [checkTxSize, if_pos (Nat.sub_one_lt (Nat.ne_of_gt hpos))]

/-- **The property, whole rule pair.** -/
theorem accept_iff (era : Era) (p : Parts) (fee a b maxSize : Nat)
    (hsz : ledgerSize p ≤ U32_MAX) (hmin : b + a * ledgerSize p ≤ U64_MAX) :
    feeAndSize era p fee a b maxSize = .ok ↔ (b + a * ledgerSize p ≤ fee ∧ ledgerSize p ≤ maxSize) := by
  rw [(feeAndSize_verdict era p fee a b maxSize).1, validator_size_eq_ledger_size p hsz, checkMinFee_ok_iff _ _ _ _ hmin, checkTxSize_ok_iff]

theorem boundary_accept (era : Era) (p : Parts) (a b : Nat)
    (hsz : ledgerSize p ≤ U32_MAX) (hmin : b + a * ledgerSize p ≤ U64_MAX) :
    feeAndSize era p (b + a * ledgerSize p) a b (ledgerSize p) = .ok :=
  (accept_iff era p _ a b _ hsz hmin).mpr ⟨Nat.le_refl _, Nat.le_refl _⟩

theorem boundary_reject_fee (era : Era) (p : Parts) (a b maxSize : Nat)
    (hsz : ledgerSize p ≤ U32_MAX) (hmin : b + a * ledgerSize p ≤ U64_MAX) (hpos : 0 < b + a * ledgerSize p) :
    feeAndSize era p (b + a * ledgerSize p - 1) a b maxSize ≠ .ok := by
  intro h
  exact absurd ((accept_iff era p _ a b maxSize hsz hmin).mp h).1 (Nat.not_le.mpr (Nat.sub_one_lt (Nat.ne_of_gt hpos)))

theorem boundary_reject_size (era : Era) (p : Parts) (fee a b : Nat)
    (hsz : ledgerSize p ≤ U32_MAX) (hmin : b + a * ledgerSize p ≤ U64_MAX) :
    feeAndSize era p fee a b (ledgerSize p - 1) ≠ .ok := by
  intro h
  have h0 : 0 < ledgerSize p := by unfold ledgerSize; omega
  exact absurd ((accept_iff era p fee a b _ hsz hmin).mp h).2 (Nat.not_le.mpr (Nat.sub_one_lt (Nat.ne_of_gt h0)))

/-- The unchanged tree: the Alonzo-compatible helper is 1 (aux present) or 2 (absent) bytes short, the
    Babbage/Conway re-encoding one byte long — for every transaction. -/
theorem old_sizes_off_by_one (p : Parts) :
    oldAlonzoCompSize p < ledgerSize p ∧ oldReencodeSize p = ledgerSize p + 1 := by
  unfold oldAlonzoCompSize oldReencodeSize ledgerSize
  cases p.aux <;> simp <;> omega

private def p1 : Parts := ⟨200, 100, none⟩
example : ledgerSize p1 = 302 := by decide
example : validatorSize p1 = 302 := by decide
example : feeAndSize .conway p1 (155381 + 44 * 302) 44 155381 302 = .ok := by decide
example : feeAndSize .conway p1 (155381 + 44 * 302 - 1) 44 155381 302 = .feeBelowMin := by decide
example : feeAndSize .conway p1 (155381 + 44 * 302) 44 155381 301 = .maxTxSizeExceeded := by decide
example : feeAndSize .shelleyMA p1 0 44 155381 301 = .maxTxSizeExceeded := by decide
example : feeAndSize .alonzo p1 0 44 155381 301 = .feeBelowMin := by decide
example : feeAndSize .babbage ⟨200, 100, some 50⟩ 1000 1 649 351 = .ok := by decide
example : checkMinFee 0 4294967295 0 2 = .feeBelowMin := by decide
example : oldReencodeSize p1 = 303 ∧ oldAlonzoCompSize p1 = 300 := by decide

end PallasVerif.Props.C36
