import PallasVerif.Proofs.P2PView
/-! What each visitor of the initiator does on its own, said once per visitor. The emitters queue nothing
    or one request for their own peer that the specification permits in the peer's tracked view (`Emits`, indexed by
    the protocols and closed under `++`, so that what a visit queues is read off the `++` of its emitters);
    the housekeeping visitors that return a record or a state write one field of it; the inbound visitors
    leave tag, error count, specification view and an empty peer-sharing state alone (`Kept`) and queue
    events only (`Quiet`). -/
namespace PallasVerif.P2P

theorem sendsTo_append (p : Nat) (a b : List Out) : sendsTo p (a ++ b) = sendsTo p a ++ sendsTo p b := by
  induction a with
  | nil => rfl
  | cons o os ih =>
    cases o with
    | send q m =>
      simp only [List.cons_append, sendsTo]
      split
      · simp only [List.cons_append, ih]
      · exact ih
    | connect q | disconnect q | event e => simpa only [List.cons_append, sendsTo] using ih

theorem mem_sendsTo {p : Nat} {m : Msg} {os : List Out} : m ∈ sendsTo p os ↔ Out.send p m ∈ os := by
  induction os with
  | nil => simp [sendsTo]
  | cons o os ih =>
    cases o with
    | send q m' =>
      simp only [sendsTo]
      by_cases hq : q = p
      · subst hq; simp [ih]
      · simp only [hq, if_false, ih, List.mem_cons, Out.send.injEq]
        constructor
        · exact fun h => Or.inr h
        · rintro (⟨h1, _⟩ | h)
          · exact absurd h1.symm hq
          · exact h
    | connect q | disconnect q | event e => simp [sendsTo, ih]

theorem sendsTo_cons_other {p q : Nat} (m : Msg) (os : List Out) (h : q ≠ p) :
    sendsTo q (.send p m :: os) = sendsTo q os := by
  simp only [sendsTo]; rw [if_neg (fun e => h e.symm)]

theorem sendsTo_cons_same (p : Nat) (m : Msg) (os : List Out) : sendsTo p (.send p m :: os) = m :: sendsTo p os := by
  simp only [sendsTo, if_true]

theorem sendsTo_nil_of_nosend {p : Nat} {os : List Out} (h : ∀ m, Out.send p m ∉ os) : sendsTo p os = [] := by
  cases hs : sendsTo p os with
  | nil => rfl
  | cons m ms => exact absurd (mem_sendsTo.mp (hs ▸ List.mem_cons_self ..)) (h m)

def Distinct (ms : List Msg) : Prop := ms.Pairwise (fun a b => a.proto ≠ b.proto)

/-- what emitters of the protocols `P` queue in a visit of `p` whose record is `st`: requests for `p` that the
    specification permits in the view of `st`, no `Connect`, and at most one request per protocol of `P`, in the order
    of `P` (`protos`) -/
structure Emits (P : List Proto) (p : Nat) (st : Peer) (o : List Out) : Prop where
  send : ∀ q m, Out.send q m ∈ o → q = p ∧ Permits st m
  noconn : ∀ q, Out.connect q ∉ o
  protos : ((sendsTo p o).map Msg.proto).Sublist P

theorem Emits.nil {P : List Proto} {p : Nat} {st : Peer} : Emits P p st [] :=
  ⟨fun _ _ h => (nomatch h), fun _ h => (nomatch h), List.nil_sublist P⟩

theorem Emits.one {P : List Proto} {p : Nat} {st : Peer} {m : Msg} (hp : Permits st m) (hx : m.proto ∈ P) :
    Emits P p st [.send p m] := by
  refine ⟨fun q m' hm => ?_, by simp, by rw [sendsTo_cons_same]; exact List.singleton_sublist.mpr hx⟩
  rw [List.mem_singleton] at hm; cases hm; exact ⟨rfl, hp⟩

theorem Emits.append {P Q : List Proto} {p : Nat} {st : Peer} {a b : List Out} (ha : Emits P p st a)
    (hb : Emits Q p st b) : Emits (P ++ Q) p st (a ++ b) :=
  ⟨fun q m hm => (List.mem_append.mp hm).elim (ha.send q m) (hb.send q m),
   fun q hm => (List.mem_append.mp hm).elim (ha.noconn q) (hb.noconn q),
   by rw [sendsTo_append, List.map_append]; exact ha.protos.append hb.protos⟩

/-- emitters of different protocols: a connection never gets two `Send`s of one protocol from one visit
    (`GLink.emitAll` needs that) -/
theorem Emits.dist {P : List Proto} {p : Nat} {st : Peer} {o : List Out} (h : Emits P p st o) (hP : P.Nodup) :
    Distinct (sendsTo p o) :=
  List.pairwise_map.mp (hP.sublist h.protos)

theorem keepaliveHk_emits (t p : Nat) (st : Peer) : Emits [.ka] p st (keepaliveHk t p st) := by
  unfold keepaliveHk
  split
  · split
    · rename_i r hk
      exact .one (by simp [Permits, Emittable, Msg.proto, viewOf, clientStep, cKa, viewKa, hk]) (.head _)
    · exact .nil
  · exact .nil

theorem discoveryHk_emits {s : St} {p : Nat} {st : Peer} {o : List Out} (ho : discoveryHk s p st = some o) :
    Emits [.ps] p st o := by
  revert ho
  fun_cases discoveryHk s p st <;> intro ho <;> cases ho
  case case2 hav _ _ =>  -- the request is sent: the peer is available, so its peer-sharing is in `Idle(Empty)`
    unfold discoveryAvailable at hav
    simp only [Bool.and_eq_true, beq_iff_eq] at hav
    exact .one (by simp [Permits, Emittable, Msg.proto, viewOf, clientStep, cPs, viewPs, hav.2]) (.head _)
  all_goals exact .nil

theorem blockfetchHk_emits (s : St) (p : Nat) (st : Peer) : Emits [.bf] p st (blockfetchHk s p st).2 := by
  unfold blockfetchHk
  split
  · exact .nil
  · split
    · rename_i hc
      exact .one (by simp [Permits, Emittable, Msg.proto, viewOf, clientStep, cBf, viewBf, hc.2]) (.head _)
    · exact .nil

theorem blockfetchHk_send {s : St} {p q : Nat} {st : Peer} {m : Msg} (h : Out.send q m ∈ (blockfetchHk s p st).2) :
    q = p ∧ Permits st m :=
  (blockfetchHk_emits s p st).send q m h

theorem chainsyncHk_emits (s : St) (p : Nat) (st : Peer) : Emits [.cs] p st (chainsyncHk s p st) := by
  unfold chainsyncHk
  split
  · rename_i hc
    have hn := hc.2.2.2
    cases hcs : st.cs with
    | idle d => exact .one (by simp [Permits, Emittable, Msg.proto, viewOf, clientStep, cCs, viewCs, hcs]) (.head _)
    | _ => simp [CsSt.isNew, hcs] at hn
  · exact .nil

theorem chainsyncTagged_emits (p : Nat) (st : Peer) : Emits [.cs] p st (chainsyncTagged p st) := by
  unfold chainsyncTagged
  split
  · rename_i hc
    have hi := hc.2.1
    cases hcs : st.cs with
    | idle d => exact .one (by simp [Permits, Emittable, Msg.proto, viewOf, clientStep, cCs, viewCs, hcs]) (.head _)
    | _ => simp [CsSt.isIdle, hcs] at hi
  · exact .nil

theorem leiosnotifyHk_emits (p : Nat) (st : Peer) : Emits [.ln] p st (leiosnotifyHk p st) := by
  unfold leiosnotifyHk
  split
  · rename_i hc
    exact .one (by simp [Permits, Emittable, Msg.proto, viewOf, clientStep, cLn, viewLn, hc.2]) (.head _)
  · exact .nil

theorem leiosfetchHk_emits (s : St) (p : Nat) (st : Peer) : Emits [.lf] p st (leiosfetchHk s p st).2 := by
  unfold leiosfetchHk
  split
  · rename_i hc
    split
    · rename_i r rest _
      refine .one ?_ (.head _)
      cases r <;> simp [Permits, Emittable, Msg.proto, viewOf, clientStep, cLf, viewLf, lfReqMsg, hc.2]
    · exact .nil
  · exact .nil

theorem proposeHandshake_emits (p : Nat) (st : Peer) : Emits [.hs] p st (proposeHandshake p st) := by
  unfold proposeHandshake
  split
  · rename_i hc
    exact .one (by simp [Permits, Emittable, Msg.proto, viewOf, clientStep, cHs, viewHs, hc]) (.head _)
  · exact .nil

/-- all that matters of what `visit_errored` and the inbound visitors queue (a `Disconnect`, events) -/
def Quiet (o : List Out) : Prop := (∀ q m, Out.send q m ∉ o) ∧ ∀ q, Out.connect q ∉ o

theorem quiet_nil : Quiet [] := ⟨fun _ _ h => (nomatch h), fun _ h => (nomatch h)⟩

theorem quiet_event (e : Event) : Quiet [.event e] := ⟨by simp, by simp⟩

theorem Quiet.append {a b : List Out} (ha : Quiet a) (hb : Quiet b) : Quiet (a ++ b) :=
  ⟨fun q m h => (List.mem_append.mp h).elim (ha.1 q m) (hb.1 q m), fun q h => (List.mem_append.mp h).elim (ha.2 q) (hb.2 q)⟩

theorem connectionHk_spec (p : Nat) (st : Peer) :
    (∃ c, (connectionHk p st).1 = { st with conn := c }) ∧ (∀ q m, Out.send q m ∉ (connectionHk p st).2) ∧
      ∀ q, Out.connect q ∈ (connectionHk p st).2 → q = p ∧ needsConnection st = true := by
  unfold connectionHk
  cases hn : needsConnection st
  · simp only [Bool.false_eq_true, if_false]; split <;> exact ⟨⟨st.conn, rfl⟩, by simp, by simp⟩
  · simp only [if_true]; split <;> exact ⟨⟨_, rfl⟩, by simp, by simp⟩

theorem connectionErrored_quiet (p : Nat) (st : Peer) : Quiet (connectionErrored p st) := by
  unfold connectionErrored; split
  · exact ⟨by simp, by simp⟩
  · exact quiet_nil

theorem blockfetchHk_fst (s : St) (p : Nat) (st : Peer) : ∃ q, (blockfetchHk s p st).1 = { s with bfQueue := q } := by
  unfold blockfetchHk; split
  · exact ⟨s.bfQueue, rfl⟩
  · split
    · exact ⟨_, rfl⟩
    · exact ⟨s.bfQueue, rfl⟩

theorem blockfetchHk_peers (s : St) (p : Nat) (st : Peer) : (blockfetchHk s p st).1.peers = s.peers := by
  obtain ⟨q, h⟩ := blockfetchHk_fst s p st; rw [h]

theorem blockfetchHk_out (s : St) (p : Nat) (st : Peer) : (blockfetchHk s p st).1.out = s.out := by
  obtain ⟨q, h⟩ := blockfetchHk_fst s p st; rw [h]

theorem blockfetchHk_noconn (s : St) (p q : Nat) (st : Peer) : Out.connect q ∉ (blockfetchHk s p st).2 :=
  (blockfetchHk_emits s p st).noconn q

theorem leiosfetchHk_fst (s : St) (p : Nat) (st : Peer) : ∃ q, (leiosfetchHk s p st).1 = { s with lfQueue := q } := by
  unfold leiosfetchHk; split
  · split
    · exact ⟨_, rfl⟩
    · exact ⟨s.lfQueue, rfl⟩
  · exact ⟨s.lfQueue, rfl⟩

/-- what every inbound visitor leaves alone in the record; `ps`: `viewPs` does not tell `Idle(Empty)` from the other
    idle states, and `GLink` (`P2PAsync`) needs the former kept -/
structure Kept (st st' : Peer) : Prop where
  tag : st'.tag = st.tag
  err : st'.errorCount = st.errorCount
  view : viewOf st' = viewOf st
  ps : st.ps = .idle none → st'.ps = .idle none

theorem Kept.refl (st : Peer) : Kept st st := ⟨rfl, rfl, rfl, id⟩

theorem Kept.trans {a b c : Peer} (h1 : Kept a b) (h2 : Kept b c) : Kept a c :=
  ⟨h2.tag.trans h1.tag, h2.err.trans h1.err, h2.view.trans h1.view, fun h => h2.ps (h1.ps h)⟩

theorem handshakeInbound_spec (p : Nat) (st : Peer) :
    Kept st (handshakeInbound p st).1 ∧ Quiet (handshakeInbound p st).2 := by
  unfold handshakeInbound; split
  · split
    · exact ⟨⟨rfl, rfl, rfl, id⟩, quiet_event _⟩
    · exact ⟨Kept.refl st, quiet_nil⟩
  · exact ⟨Kept.refl st, quiet_nil⟩

/-- `try_take_peers` parks peer-sharing in `Done`, which is `Idle` in the view, and only from `Idle(Response)` -/
theorem discoveryInbound_spec (s : St) (st : Peer) :
    Kept st (discoveryInbound s st).2 ∧ ∃ d, (discoveryInbound s st).1 = { s with discovered := d } := by
  unfold discoveryInbound; split
  · split
    · rename_i peers hps
      exact ⟨⟨rfl, rfl, by simp only [viewOf, hps, viewPs], fun h => by rw [h] at hps; cases hps⟩, _, rfl⟩
    · exact ⟨Kept.refl st, s.discovered, rfl⟩
  · exact ⟨Kept.refl st, s.discovered, rfl⟩

theorem blockfetchInbound_quiet (p : Nat) (st : Peer) : Quiet (blockfetchInbound p st) := by
  unfold blockfetchInbound; split
  · exact quiet_event _
  · exact quiet_nil

theorem blockfetchInbound_noconn (p q : Nat) (st : Peer) : Out.connect q ∉ blockfetchInbound p st :=
  (blockfetchInbound_quiet p st).2 q

theorem chainsyncInbound_spec (p : Nat) (st : Peer) :
    Kept st (chainsyncInbound p st).1 ∧ Quiet (chainsyncInbound p st).2 := by
  unfold chainsyncInbound; split
  · exact ⟨Kept.refl st, quiet_nil⟩
  · cases hcs : st.cs with
    | idle d =>
      -- `drain` leaves `Idle(Drained)`, the same class; `violation` is not in the view
      have hv : ∀ v : Bool, viewOf { st with cs := .idle .drained, violation := v } = viewOf st := by
        intro v; simp only [viewOf, viewCs, hcs]
      simp only [CsSt.drain]
      cases d <;> first
        | exact ⟨⟨rfl, rfl, hv _, id⟩, quiet_event _⟩
        | exact ⟨⟨rfl, rfl, hv _, id⟩, quiet_nil⟩
    | _ => simp only [CsSt.drain]; exact ⟨Kept.refl st, quiet_nil⟩

theorem leiosnotifyInbound_spec (p : Nat) (st : Peer) :
    Kept st (leiosnotifyInbound p st).1 ∧ Quiet (leiosnotifyInbound p st).2 := by
  unfold leiosnotifyInbound
  cases hln : st.ln with
  | idle b =>
    cases b <;> simp only [LnSt.drain]
    · exact ⟨Kept.refl st, quiet_nil⟩
    · exact ⟨⟨rfl, rfl, by simp only [viewOf, viewLn, hln], id⟩, quiet_event _⟩
  | _ => simp only [LnSt.drain]; exact ⟨Kept.refl st, quiet_nil⟩

theorem leiosfetchInbound_spec (p : Nat) (st : Peer) :
    Kept st (leiosfetchInbound p st).1 ∧ Quiet (leiosfetchInbound p st).2 := by
  unfold leiosfetchInbound
  cases hlf : st.lf with
  | idle r =>
    cases r <;> simp only [LfSt.drain]
    · exact ⟨Kept.refl st, quiet_nil⟩
    · exact ⟨⟨rfl, rfl, by simp only [viewOf, viewLf, hlf], id⟩, quiet_event _⟩
  | _ => simp only [LfSt.drain]; exact ⟨Kept.refl st, quiet_nil⟩

/-- inbound visitors one after the other: the records compose, the queues append -/
theorem inbound_trans {a b c : Peer} {o1 o2 : List Out} (h1 : Kept a b ∧ Quiet o1) (h2 : Kept b c ∧ Quiet o2) :
    Kept a c ∧ Quiet (o1 ++ o2) :=
  ⟨h1.1.trans h2.1, h1.2.append h2.2⟩

end PallasVerif.P2P
