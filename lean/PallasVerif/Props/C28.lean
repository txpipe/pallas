import PallasVerif.Proofs.P2PProtoTie
import PallasVerif.Proofs.P2PAsync
/-!
# C28 — The P2P initiator never violates a protocol it speaks

Model: the initiator model of C27/C29 (`Model/P2PInitiator.lean`) composed in `Model/P2PNet.lean` with
the specification tables of DESIGN.md Appendix A and, per peer, a connection that keeps the
emitted-but-unconfirmed `Send`s, the messages still on the wire, a specification-conformant
responder's view and its undelivered replies. A schedule (`List Sched`) interleaves commands
(including repeated housekeeping) with `connect / confirm / arrive / reply / deliver / drop / fail`
steps in any order; the responder *observes a violation* when it consumes a message the
specification does not permit in its view.

* `FullStatement` — no schedule makes the responder observe a violation. It is **false** on the
  faithful model (`initiator_conformant_fails_at_witness`): protocol state only advances on `Sent`,
  so two housekeeping passes before the first confirmation emit `KeepAlive` twice (DESIGN §6 #16;
  the same holds for ShareRequest, FindIntersect, RequestRange, leios requests).
* `emit_permitted_by_own_view` (all states, all events, all iteration orders): every `Send` the
  initiator queues is permitted by the specification *in the view the initiator itself tracks* for
  that peer. This is the guard discipline of every emitter (keepalive, discovery, blockfetch,
  chainsync housekeeping and tagged, leios notify/fetch, handshake proposal).
* `initiator_conformant_delayed` — no violation is observed on the **general** schedule semantics
  (`List Sched`, `sysRun`: `Sent` confirmations, arrivals at the responder, replies and deliveries
  delayed and interleaved arbitrarily) for every schedule in `InDomain`, i.e. satisfying three side
  conditions: (a) `EmitOK` — no step queues a `Send` of protocol X for a connection that still has an
  unconfirmed `Send` of X; (b) a reply of protocol X is not delivered while the X request on that
  connection is unconfirmed (a real connection reports `Sent` before the answer can be read); (c) the
  iteration order of a housekeeping pass names no peer twice (`SStep.ok`; it is the order of a map).
  `emitOK_complement` says that the negation of (a) is literally the situation of the known finding
  (a `Send` queued while an earlier `Send` of the same protocol on that connection is unconfirmed):
  at one state and one output list it is the push-negation of the definition; with (b) and (c) granted, a schedule leaves
  the domain exactly at a step where that situation arises. `inDomainB` is a
  computable, sound domain check; the #16 witness is outside the domain, a delayed-confirmation
  variant of it is inside.
* `initiator_conformant_partial` — the same on **lock-step schedules** (`List SStep`, `syncRun`: every step
  that feeds an event to the initiator is followed at once by the `Sent` confirmation of each `Send`
  it queued and by its arrival at the responder — "each Send is confirmed before the next
  housekeeping", what the repository's tests do), for any number
  of peers, any commands (repeated housekeeping, include, start/continue-sync, block and EB requests,
  ban/demote), any hash-map iteration order (without repetition: `SStep.ok`), any timing and choice of
  the responder's replies, any batching of their delivery, and any drops, errors and reconnects.
  It is a corollary of `initiator_conformant_delayed`: a lock-step run is a run of the general semantics
  on a schedule that lies in `InDomain`, because between two lock-step steps no connection has anything
  unconfirmed (`lockstep_schedule`, `Proofs/P2PDomain.lean`). `lockstep_is_schedule` /
  `lockstep_run_is_schedule` are the first half of that on its own, without the conditions on the run.

Not proved: schedules violating (b) (a reply overtaking the confirmation of its request); they are
sampled by the `p2p_sched` stream only (no violation found there).
-/
namespace PallasVerif.Props.C28
open PallasVerif.P2P

def FullStatement : Prop :=
  ∀ (cfg : Cfg) (sched : List Sched) (y : Sys), sysRun (Sys.init cfg) sched = some y → y.observed = []

def cfgW : Cfg := { maxPeers := 2, maxWarm := 2, maxHot := 2, maxErr := 1 }

/-- include, connect, handshake, then two housekeeping passes with no `Sent` in between -/
def witness : List Sched :=
  [.ev (.includePeer 0), .ev (.housekeeping [0] []), .connect 0, .confirm 0, .arrive 0, .reply 0 .hs 0,
   .deliver 0 0, .ev (.housekeeping [0] []), .ev (.housekeeping [0] []), .arrive 0, .arrive 0, .arrive 0]

theorem witness_observed :
    (sysRun (Sys.init cfgW) witness).map (fun y => y.observed.map (fun o => (o.peer, o.view.ka, o.msg))) =
      some [(0, SKa.server, Msg.ka (.keepAlive 65535))] := by decide

theorem initiator_conformant_fails_at_witness : ¬ FullStatement := by
  intro h
  -- `h` at the run that `witness_observed` evaluates says nothing was observed there
  have h2 := witness_observed
  cases hr : sysRun (Sys.init cfgW) witness with
  | none => rw [hr] at h2; cases h2
  | some y =>
    rw [hr] at h2
    simp only [Option.map_some, Option.some.injEq, h cfgW witness y hr] at h2
    cases h2

/-- **own view permits**: of the four conjuncts of `Permits` that `step_emit_permitted` gives, the one that says the
    specification permits `m` in the tracked view -/
theorem emit_permitted_by_own_view (s s' : St) (e : Ev) (h : step s e = some s') (p : Nat) (m : Msg)
    (hm : Out.send p m ∈ s'.out) : ∃ st, s.peers p = some st ∧ (clientStep (viewOf st) m).isSome = true := by
  obtain ⟨st, h1, h2⟩ := step_emit_permitted h p m hm
  exact ⟨st, h1, h2.2.1⟩

/-- **conformance with delayed confirmations** (third bullet of the header) -/
theorem initiator_conformant_delayed (cfg : Cfg) (sched : List Sched) (hd : InDomain (Sys.init cfg) sched) (y : Sys)
    (h : sysRun (Sys.init cfg) sched = some y) : y.observed = [] :=
  (gen_run sched (gen_init cfg) hd h).obs

theorem emitOK_complement (y : Sys) (outs : List Out) :
    ¬ EmitOK y outs ↔ ∃ p l m m', y.links p = .up l ∧ m ∈ sendsTo p outs ∧ m' ∈ l.unconfirmed ∧ m'.proto = m.proto := by
  constructor
  · intro h
    apply Classical.byContradiction
    intro hn
    apply h
    intro p l hl m hm m' hm' he
    exact hn ⟨p, l, m, m', hl, hm, hm', he⟩
  · intro ⟨p, l, m, m', hl, hm, hm', he⟩ h
    exact h p l hl m hm m' hm' he

theorem inDomain_of_check (y : Sys) (sched : List Sched) (h : inDomainB y sched = true) : InDomain y sched :=
  inDomainB_sound sched y h

theorem lockstep_is_schedule (y : Sys) (a : SStep) : ∃ tail : List Sched, sysRun y (a.toSched :: tail) = syncStep y a :=
  (syncStep_is_schedule y a).imp' settleOf (fun _ h => h.1)

theorem lockstep_run_is_schedule : ∀ (ss : List SStep) (y : Sys), ∃ sched : List Sched, sysRun y sched = syncRun y ss :=
  fun ss y => (lockstep_schedule ss y).imp (fun _ h => h.1)

/-- **conformance on lock-step schedules**: the lock-step run is a run on a schedule in the domain -/
theorem initiator_conformant_partial (cfg : Cfg) (ss : List SStep) (hok : ∀ a, a ∈ ss → a.ok) (y : Sys)
    (h : syncRun (Sys.init cfg) ss = some y) : y.observed = [] := by
  obtain ⟨sched, hr, hd⟩ := lockstep_schedule ss (Sys.init cfg)
  exact initiator_conformant_delayed cfg sched (hd (fun _ _ hl => nomatch hl) hok) y (hr.trans h)

/-- a lock-step schedule: a housekeeping pass that connects, the handshake, then three more passes with a keep-alive
    reply and a peer-sharing reply in between — four requests reach the responder (the proposal; KeepAlive and ShareRequest; KeepAlive),
    none is a violation -/
def lockstep : List SStep :=
  [.cmd (.includePeer 0), .cmd (.housekeeping [0] []), .connect 0, .reply 0 .hs 0, .deliver 0 0,
   .cmd (.housekeeping [0] []), .cmd (.housekeeping [0] []), .reply 0 .ka 0, .reply 0 .ps 1, .deliver 0 1,
   .cmd (.housekeeping [0] [7, 8])]

example : ∀ a, a ∈ lockstep → a.ok := by
  intro a ha
  simp only [lockstep, List.mem_cons, List.mem_nil_iff, or_false] at ha
  rcases ha with rfl | rfl | rfl | rfl | rfl | rfl | rfl | rfl | rfl | rfl | rfl <;> simp [SStep.ok]

example : (syncRun (Sys.init cfgW) lockstep).map
    (fun y => (y.observed.length, (match y.links 0 with | .up l => some (l.w.hs, l.w.ka, l.w.ps) | _ => none), y.st.cold)) =
    some (0, some (SHs.done, SKa.server, SPs.idle), [7]) := by decide

/-- the keep-alive machine used by the model is that of the sources (table regenerated on every run); all eight
    machines: `C29.protocol_machines_match_source` -/
theorem keepalive_machine_matches_source (s : KaSt) (m : KaMsg) :
    (PallasVerif.Gen.FsmN2.keepalive.step (KaSt.cls s) (KaMsg.kind m)).next? = (s.apply m).map KaSt.cls :=
  ka_matches_source s m

/-- the #16 witness is outside the domain (the second of its two passes after the handshake queues KeepAlive while the
    first one's is unconfirmed) … -/
example : inDomainB (Sys.init cfgW) witness = false := by decide

/-- … while this schedule is inside it and conformant: the proposal reaches the responder and is
    answered before its `Sent` arrives; KeepAlive and ShareRequest reach the responder, and KeepAlive
    is even answered, while both are still unconfirmed; the confirmations come late and out of step
    with the arrivals; the last KeepAlive is still unconfirmed at the end -/
def delayed : List Sched :=
  [.ev (.includePeer 0), .ev (.housekeeping [0] []), .connect 0, .arrive 0, .reply 0 .hs 0, .confirm 0, .deliver 0 0,
   .ev (.housekeeping [0] []), .arrive 0, .reply 0 .ka 0, .arrive 0, .confirm 0, .reply 0 .ps 1, .confirm 0,
   .deliver 0 1, .ev (.housekeeping [0] []), .arrive 0]

example : inDomainB (Sys.init cfgW) delayed = true := by decide

example : (sysRun (Sys.init cfgW) delayed).map (fun y => (y.observed.length,
    (match y.links 0 with | .up l => some (l.unconfirmed.length, l.toResp.length) | _ => none), y.st.discovered)) =
    some (0, some (1, 0), [8, 7]) := by
  decide

end PallasVerif.Props.C28
