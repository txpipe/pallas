import PallasVerif.Model.PlutusData
import PallasVerif.Proofs.Cbor
import PallasVerif.Proofs.PlutusDataTags
/-!
  Order laws for the PlutusData comparison (C07).

  `Laws f`: `f` is the three-way comparison of a total preorder — core's `Std.TransCmp` as a structure, in which
  the laws of `cmpList`, `cmpKvs`, `cmpMag` are stated; `cmp` itself has the core instance.

  `key : PData → List Int` writes a value as a stream of integers such that the order core Lean puts
  on `List Int` (lexicographic, a proper prefix is smaller) is `cmp`: `key_then` says that comparing
  two streams that begin with keys first compares the keyed values and goes on behind them only when
  they are equal (no key is a proper prefix of another). So `cmp = compareOn key`, and the laws are the
  instance `Std.TransCmp (compareOn key)` of core, read as `Laws` by `Laws.of_key`. What the key does not
  contain (the definite/indefinite flag, `any_constructor` beside a tag other than 102) the comparison
  does not see.

  The laws are proved for the total `cmp` and carried to `cmp?` on `wfTag` values by `cmp?_eq_cmp`.
-/
namespace PallasVerif.PlutusData
open PallasVerif.Cbor

structure Laws {α : Type} (f : α → α → Ordering) : Prop where
  swap : ∀ a b, f a b = (f b a).swap
  eqc : ∀ a b c, f a b = .eq → f a c = f b c
  ltt : ∀ a b c, f a b = .lt → f b c ≠ .gt → f a c = .lt

theorem Laws.of_transCmp {α : Type} (f : α → α → Ordering) [Std.TransCmp f] : Laws f where
  swap _ _ := Std.OrientedCmp.eq_swap
  eqc _ _ _ h := Std.TransCmp.congr_left h
  ltt _ _ _ h h' := Std.TransCmp.lt_of_lt_of_isLE h (Ordering.ne_gt_iff_isLE.1 h')

theorem Laws.of_key {α β : Type} [Ord β] [Std.TransOrd β] {f : α → α → Ordering} (k : α → β)
    (h : ∀ a b, f a b = compare (k a) (k b)) : Laws f := by
  have e : f = compareOn k := funext fun a => funext fun b => h a b
  rw [e]
  exact .of_transCmp _

theorem eq_left_of_key {α β : Type} [Ord β] {f : α → α → Ordering} {k : α → β}
    (h : ∀ a b, f a b = compare (k a) (k b)) {a a' : α} (e : k a = k a') (b : α) : f a b = f a' b := by
  rw [h, e, ← h]

theorem Laws.eq_symm {α : Type} {f : α → α → Ordering} (L : Laws f) (a b : α) (h : f a b = .eq) : f b a = .eq := by
  have := L.swap b a; rw [h] at this; simpa using this

theorem compare_cast (x y : Nat) : compare (x : Int) (y : Int) = compare x y := by
  rcases natCompare_cases x y with ⟨h, e⟩ | ⟨h, e⟩ | ⟨h, e⟩ <;> rw [e]
  · exact Int.compare_eq_lt.2 (by omega)
  · exact Int.compare_eq_eq.2 (by omega)
  · exact Int.compare_eq_gt.2 (by omega)

/-- `1, b` for every byte and `0` at the end: no such stream is a proper prefix of another, and `cmpBytes` (a proper
    prefix is smaller) is core's order on them -/
def keyByteStr : Bytes → List Int
  | [] => [0]
  | b :: bs => 1 :: (b.toNat : Int) :: keyByteStr bs

theorem keyByteStr_then : ∀ (l r : Bytes) (s t : List Int),
    compare (keyByteStr l ++ s) (keyByteStr r ++ t) = (cmpBytes l r).then (compare s t)
  | [], [], s, t => by
    simp only [keyByteStr, cmpBytes, List.cons_append, List.nil_append, List.compare_cons_cons]; rfl
  | [], _ :: _, s, t | _ :: _, [], s, t => rfl
  | a :: as, b :: bs, s, t => by
    simp only [keyByteStr, cmpBytes, List.cons_append, List.compare_cons_cons, compare_cast, keyByteStr_then as bs]
    cases compare a.toNat b.toNat <;> rfl

theorem cmpBytes_eq_key (l r : Bytes) : cmpBytes l r = compare (keyByteStr l) (keyByteStr r) := by
  simpa using (keyByteStr_then l r [] []).symm

theorem laws_cmpMag : Laws cmpMag :=
  .of_key (fun l => (l.length : Int) :: keyByteStr l) fun l r => by
    simp only [cmpMag, List.compare_cons_cons, compare_cast, cmpBytes_eq_key]
    cases compare l.length r.length <;> rfl

/-- the magnitude `to_bytes` computes -/
def BigInt.mag (b : BigInt) : Nat := ofBe b.toBytes.2

/-- the integer the comparison sees: sign flag applied to the magnitude. (`BigNInt bs` is ranked
    `−bs`, not CBOR's `−1 − bs`; `−0 = +0`; an `Int` is ranked by `|i| mod 2^128`, which is `|i|` for
    every value of the Rust type.) -/
def BigInt.rank (b : BigInt) : Int := if b.toBytes.1 then -(b.mag : Int) else (b.mag : Int)

/-- no leading zero byte: on such strings comparing length first and bytes second (`cmpMag`) is comparing
    the numbers (`cmpMag_eq_compare`) -/
def Stripped : Bytes → Prop
  | [] => True
  | b :: _ => b ≠ 0

theorem stripZeros_stripped (bs : Bytes) : Stripped (stripZeros bs) := by
  induction bs with
  | nil => simp [stripZeros, Stripped]
  | cons b bs ih =>
    simp only [stripZeros]
    split
    · exact ih
    · simpa [Stripped]

theorem ofBe_stripZeros (bs : Bytes) : ofBe (stripZeros bs) = ofBe bs := by
  induction bs with
  | nil => rfl
  | cons b bs ih =>
    simp only [stripZeros]
    split
    · rename_i h; subst h; simp [ofBe, ih]
    · rfl

theorem stripZeros_length_le (bs : Bytes) : (stripZeros bs).length ≤ bs.length := by
  induction bs with
  | nil => simp [stripZeros]
  | cons b bs ih => simp only [stripZeros]; split <;> simp <;> omega

theorem stripped_lb (b : UInt8) (bs : Bytes) (h : Stripped (b :: bs)) : 256 ^ bs.length ≤ ofBe (b :: bs) := by
  simp only [Stripped] at h
  have : b.toNat ≠ 0 := fun e => h (UInt8.toNat_inj.mp (by simpa using e))
  have : 1 * 256 ^ bs.length ≤ b.toNat * 256 ^ bs.length := Nat.mul_le_mul_right _ (by omega)
  simp only [ofBe]; omega

theorem stripped_isEmpty (l : Bytes) (h : Stripped l) : l.isEmpty = true ↔ ofBe l = 0 := by
  cases l with
  | nil => simp [ofBe]
  | cons b bs =>
    have := stripped_lb b bs h
    have : 0 < 256 ^ bs.length := Nat.pow_pos (by decide)
    simp; omega

theorem compare_radix (a b : Nat) {P x y : Nat} (hx : x < P) (hy : y < P) :
    compare (a * P + x) (b * P + y) = (compare a b).then (compare x y) := by
  rcases natCompare_cases a b with ⟨h, e⟩ | ⟨rfl, e⟩ | ⟨h, e⟩ <;> rw [e]
  · have := Nat.mul_le_mul_right P h
    rw [Nat.succ_mul] at this
    exact Nat.compare_eq_lt.2 (by omega)
  · rcases natCompare_cases x y with ⟨h2, e2⟩ | ⟨h2, e2⟩ | ⟨h2, e2⟩ <;> rw [e2]
    · exact Nat.compare_eq_lt.2 (by omega)
    · exact Nat.compare_eq_eq.2 (by omega)
    · exact Nat.compare_eq_gt.2 (by omega)
  · have := Nat.mul_le_mul_right P h
    rw [Nat.succ_mul] at this
    exact Nat.compare_eq_gt.2 (by omega)

theorem cmpBytes_eq_compare : ∀ l r : Bytes, l.length = r.length → cmpBytes l r = compare (ofBe l) (ofBe r)
  | [], [], _ => rfl
  | a :: as, b :: bs, h => by
    simp only [List.length_cons, Nat.add_right_cancel_iff] at h
    have hx := ofBe_lt as
    rw [h] at hx
    rw [cmpBytes, ofBe, ofBe, h, compare_radix _ _ hx (ofBe_lt bs), ← cmpBytes_eq_compare as bs h]
    cases compare a.toNat b.toNat <;> rfl

theorem stripped_len_lt (l r : Bytes) (hr : Stripped r) (h : l.length < r.length) : ofBe l < ofBe r := by
  cases r with
  | nil => simp at h
  | cons b bs =>
    have h1 := stripped_lb b bs hr
    have h2 := ofBe_lt l
    have : 256 ^ l.length ≤ 256 ^ bs.length := Nat.pow_le_pow_right (by decide) (by simp at h; omega)
    omega

theorem cmpMag_eq_compare (l r : Bytes) (hl : Stripped l) (hr : Stripped r) :
    cmpMag l r = compare (ofBe l) (ofBe r) := by
  unfold cmpMag
  rcases natCompare_cases l.length r.length with ⟨h, e⟩ | ⟨h, e⟩ | ⟨h, e⟩
  · rw [e]; exact (Nat.compare_eq_lt.2 (stripped_len_lt l r hr h)).symm
  · rw [e]; exact cmpBytes_eq_compare l r h
  · rw [e]; exact (Nat.compare_eq_gt.2 (stripped_len_lt r l hl h)).symm

theorem BigInt.toBytes_stripped (b : BigInt) : Stripped b.toBytes.2 := by
  cases b <;> exact stripZeros_stripped _

theorem compare_neg_neg (x y : Nat) : compare (-(x : Int)) (-(y : Int)) = (compare x y).swap := by
  rcases natCompare_cases x y with ⟨h, e⟩ | ⟨h, e⟩ | ⟨h, e⟩ <;> rw [e]
  · exact Int.compare_eq_gt.2 (by omega)
  · exact Int.compare_eq_eq.2 (by omega)
  · exact Int.compare_eq_lt.2 (by omega)

theorem cmpBig_eq_compare_rank (a b : BigInt) : cmpBig a b = compare a.rank b.rank := by
  have ha := a.toBytes_stripped
  have hb := b.toBytes_stripped
  have ea := stripped_isEmpty _ ha
  have eb := stripped_isEmpty _ hb
  have hm := cmpMag_eq_compare _ _ ha hb
  unfold cmpBig BigInt.rank BigInt.mag
  -- (`simp only []` unfolds the `let`s.) From here the sign flags are arbitrary, and of the magnitudes only `ea`, `eb`
  -- and `hm` are used
  simp only []
  generalize a.toBytes.2 = l at *
  generalize b.toBytes.2 = r at *
  generalize a.toBytes.1 = sa
  generalize b.toBytes.1 = sb
  rw [hm]
  by_cases h0 : ofBe l = 0 ∧ ofBe r = 0
  · have h1 := ea.2 h0.1
    have h2 := eb.2 h0.2
    rw [h1, h2, h0.1, h0.2]
    cases sa <;> cases sb <;> simp
  · have hne : (l.isEmpty && r.isEmpty) = false := by
      cases hl : l.isEmpty <;> cases hr : r.isEmpty <;> simp
      exact h0 ⟨ea.1 hl, eb.1 hr⟩
    rw [hne]
    cases sa <;> cases sb <;> simp
    · exact (compare_cast _ _).symm
    · exact (Int.compare_eq_gt.2 (by omega)).symm
    · exact (Int.compare_eq_lt.2 (by omega)).symm
    · exact (compare_neg_neg _ _).symm

mutual
/-- the stream of a value: the rank of its variant, then its payload; a list is `1, x` for every
    element and `0` at the end -/
def key : PData → List Int
  | .constr t a _ fs => 0 :: (cidx t a : Int) :: keyList fs
  | .map _ kvs => 1 :: keyKvs kvs
  | .array _ xs => 2 :: keyList xs
  | .int x => [3, x.rank]
  | .bytes bs => 4 :: keyByteStr bs
def keyList : List PData → List Int
  | [] => [0]
  | x :: xs => 1 :: (key x ++ keyList xs)
def keyKvs : List (PData × PData) → List Int
  | [] => [0]
  | (k, v) :: xs => 1 :: (key k ++ (key v ++ keyKvs xs))
end

mutual
theorem key_then : ∀ (a b : PData) (s t : List Int),
    compare (key a ++ s) (key b ++ t) = (cmp a b).then (compare s t)
  | .constr i a d fs, b, s, t => by
    cases b with
    | constr j a' d' fs' =>
      simp only [key, cmp, List.cons_append, List.compare_cons_cons, compare_cast, keyList_then fs]
      cases compare (cidx i a) (cidx j a') <;> rfl
    -- against another variant both sides are the comparison of the two variant ranks
    | _ => rfl
  | .map d kvs, b, s, t => by
    cases b with
    | map d' kvs' => simp only [key, cmp, List.cons_append, List.compare_cons_cons, keyKvs_then kvs]; rfl
    | _ => rfl
  | .array d xs, b, s, t => by
    cases b with
    | array d' ys => simp only [key, cmp, List.cons_append, List.compare_cons_cons, keyList_then xs]; rfl
    | _ => rfl
  | .int x, b, s, t => by
    cases b with
    | int y =>
      simp only [key, cmp, List.cons_append, List.nil_append, List.compare_cons_cons, cmpBig_eq_compare_rank]; rfl
    | _ => rfl
  | .bytes x, b, s, t => by
    cases b with
    | bytes y => simp only [key, cmp, List.cons_append, List.compare_cons_cons, keyByteStr_then x]; rfl
    | _ => rfl
theorem keyList_then : ∀ (xs ys : List PData) (s t : List Int),
    compare (keyList xs ++ s) (keyList ys ++ t) = (cmpList xs ys).then (compare s t)
  | [], [], s, t => by
    simp only [keyList, cmpList, List.cons_append, List.nil_append, List.compare_cons_cons]; rfl
  | [], _ :: _, s, t | _ :: _, [], s, t => rfl
  | x :: xs, y :: ys, s, t => by
    simp only [keyList, cmpList, List.cons_append, List.append_assoc, List.compare_cons_cons, key_then x,
      keyList_then xs]
    cases cmp x y <;> rfl
theorem keyKvs_then : ∀ (xs ys : List (PData × PData)) (s t : List Int),
    compare (keyKvs xs ++ s) (keyKvs ys ++ t) = (cmpKvs xs ys).then (compare s t)
  | [], [], s, t => by
    simp only [keyKvs, cmpKvs, List.cons_append, List.nil_append, List.compare_cons_cons]; rfl
  | [], _ :: _, s, t | _ :: _, [], s, t => rfl
  | (k, v) :: xs, (k', v') :: ys, s, t => by
    simp only [keyKvs, cmpKvs, List.cons_append, List.append_assoc, List.compare_cons_cons, key_then k,
      key_then v, keyKvs_then xs]
    cases cmp k k' <;> cases cmp v v' <;> rfl
end

theorem cmp_eq_key (a b : PData) : cmp a b = compare (key a) (key b) := by
  simpa using (key_then a b [] []).symm

theorem cmpList_eq_key (xs ys : List PData) : cmpList xs ys = compare (keyList xs) (keyList ys) := by
  simpa using (keyList_then xs ys [] []).symm

theorem cmpKvs_eq_key (xs ys : List (PData × PData)) : cmpKvs xs ys = compare (keyKvs xs) (keyKvs ys) := by
  simpa using (keyKvs_then xs ys [] []).symm

/-- C07 takes its laws from core through this instance -/
instance : Std.TransCmp cmp := by
  rw [show cmp = compareOn key from funext fun a => funext fun b => cmp_eq_key a b]; infer_instance

theorem laws_cmp : Laws cmp := .of_transCmp cmp
theorem laws_cmpList : Laws cmpList := .of_key keyList cmpList_eq_key
theorem laws_cmpKvs : Laws cmpKvs := .of_key keyKvs cmpKvs_eq_key

theorem cmp_swap : ∀ a b : PData, cmp a b = (cmp b a).swap := laws_cmp.swap
theorem cmpList_swap : ∀ xs ys : List PData, cmpList xs ys = (cmpList ys xs).swap := laws_cmpList.swap
theorem cmpKvs_swap : ∀ xs ys : List (PData × PData), cmpKvs xs ys = (cmpKvs ys xs).swap := laws_cmpKvs.swap

theorem cmpList_eqc : ∀ xs ys zs : List PData, cmpList xs ys = .eq → cmpList xs zs = cmpList ys zs :=
  laws_cmpList.eqc
theorem cmpKvs_eqc : ∀ xs ys zs : List (PData × PData), cmpKvs xs ys = .eq → cmpKvs xs zs = cmpKvs ys zs :=
  laws_cmpKvs.eqc

theorem cmpList_ltt : ∀ xs ys zs : List PData, cmpList xs ys = .lt → cmpList ys zs ≠ .gt → cmpList xs zs = .lt :=
  laws_cmpList.ltt
theorem cmpKvs_ltt : ∀ xs ys zs : List (PData × PData), cmpKvs xs ys = .lt → cmpKvs ys zs ≠ .gt → cmpKvs xs zs = .lt :=
  laws_cmpKvs.ltt

mutual
theorem cmp?_eq_cmp : ∀ a b : PData, wfTag a = true → wfTag b = true → cmp? a b = some (cmp a b)
  | .constr t a d fs, b => by
    intro ha hb
    cases b <;> simp only [cmp?, cmp]
    rename_i t' a' d' fs'
    simp only [wfTag, Bool.and_eq_true, Option.isSome_iff_exists] at ha hb
    obtain ⟨⟨i, hi⟩, hfs⟩ := ha
    obtain ⟨⟨j, hj⟩, hfs'⟩ := hb
    rw [hi, hj, cidx_of_some hi, cidx_of_some hj]
    simp only []
    cases compare i j <;> simp only []
    exact cmpList?_eq_cmpList fs fs' hfs hfs'
  | .map d kvs, b => by
    intro ha hb
    cases b <;> simp only [cmp?, cmp]
    simp only [wfTag] at ha hb
    exact cmpKvs?_eq_cmpKvs _ _ ha hb
  | .array d xs, b => by
    intro ha hb
    cases b <;> simp only [cmp?, cmp]
    simp only [wfTag] at ha hb
    exact cmpList?_eq_cmpList _ _ ha hb
  | .int _, b | .bytes _, b => by
    intro _ _
    cases b <;> simp only [cmp?, cmp]
theorem cmpList?_eq_cmpList : ∀ xs ys : List PData, wfTagList xs = true → wfTagList ys = true →
    cmpList? xs ys = some (cmpList xs ys)
  | [], ys => by intro _ _; cases ys <;> simp [cmpList?, cmpList]
  | x :: xs, [] => by intro _ _; simp [cmpList?, cmpList]
  | x :: xs, y :: ys => by
    intro ha hb
    simp only [wfTagList, Bool.and_eq_true] at ha hb
    simp only [cmpList?, cmpList, cmp?_eq_cmp x y ha.1 hb.1]
    cases cmp x y <;> simp only []
    exact cmpList?_eq_cmpList xs ys ha.2 hb.2
theorem cmpKvs?_eq_cmpKvs : ∀ xs ys : List (PData × PData), wfTagKvs xs = true → wfTagKvs ys = true →
    cmpKvs? xs ys = some (cmpKvs xs ys)
  | [], ys => by intro _ _; cases ys <;> simp [cmpKvs?, cmpKvs]
  | (k, v) :: xs, [] => by intro _ _; simp [cmpKvs?, cmpKvs]
  | (k, v) :: xs, (k', v') :: ys => by
    intro ha hb
    simp only [wfTagKvs, Bool.and_eq_true] at ha hb
    simp only [cmpKvs?, cmpKvs, cmp?_eq_cmp k k' ha.1.1 hb.1.1, cmp?_eq_cmp v v' ha.1.2 hb.1.2]
    cases cmp k k' <;> simp only []
    cases cmp v v' <;> simp only []
    exact cmpKvs?_eq_cmpKvs xs ys ha.2 hb.2
end

mutual
theorem key_eraseDef : ∀ a : PData, key (eraseDef a) = key a
  | .constr t a d fs => by simp only [eraseDef, key, keyList_eraseDef fs]
  | .map d kvs => by simp only [eraseDef, key, keyKvs_eraseDef kvs]
  | .array d xs => by simp only [eraseDef, key, keyList_eraseDef xs]
  | .int _ | .bytes _ => rfl
theorem keyList_eraseDef : ∀ xs : List PData, keyList (eraseDefList xs) = keyList xs
  | [] => rfl
  | x :: xs => by simp only [eraseDefList, keyList, key_eraseDef x, keyList_eraseDef xs]
theorem keyKvs_eraseDef : ∀ xs : List (PData × PData), keyKvs (eraseDefKvs xs) = keyKvs xs
  | [] => rfl
  | (k, v) :: xs => by simp only [eraseDefKvs, keyKvs, key_eraseDef k, key_eraseDef v, keyKvs_eraseDef xs]
end

theorem cmpList_eraseDef_left : ∀ xs ys : List PData, cmpList (eraseDefList xs) ys = cmpList xs ys :=
  fun xs => eq_left_of_key cmpList_eq_key (keyList_eraseDef xs)
theorem cmpKvs_eraseDef_left : ∀ xs ys : List (PData × PData), cmpKvs (eraseDefKvs xs) ys = cmpKvs xs ys :=
  fun xs => eq_left_of_key cmpKvs_eq_key (keyKvs_eraseDef xs)

theorem cmp_eraseDef (a b : PData) : cmp (eraseDef a) (eraseDef b) = cmp a b := by
  rw [cmp_eq_key, key_eraseDef, key_eraseDef, ← cmp_eq_key]

mutual
theorem key_normAny : ∀ a : PData, key (normAny a) = key a
  | .constr t a d fs => by simp only [normAny, key, cidx_normAny, keyList_normAny fs]
  | .map d kvs => by simp only [normAny, key, keyKvs_normAny kvs]
  | .array d xs => by simp only [normAny, key, keyList_normAny xs]
  | .int _ | .bytes _ => rfl
theorem keyList_normAny : ∀ xs : List PData, keyList (normAnyList xs) = keyList xs
  | [] => rfl
  | x :: xs => by simp only [normAnyList, keyList, key_normAny x, keyList_normAny xs]
theorem keyKvs_normAny : ∀ xs : List (PData × PData), keyKvs (normAnyKvs xs) = keyKvs xs
  | [] => rfl
  | (k, v) :: xs => by simp only [normAnyKvs, keyKvs, key_normAny k, key_normAny v, keyKvs_normAny xs]
end

theorem cmp_normAny_left : ∀ a b : PData, cmp (normAny a) b = cmp a b :=
  fun a => eq_left_of_key cmp_eq_key (key_normAny a)
theorem cmpList_normAny_left : ∀ xs ys : List PData, cmpList (normAnyList xs) ys = cmpList xs ys :=
  fun xs => eq_left_of_key cmpList_eq_key (keyList_normAny xs)
theorem cmpKvs_normAny_left : ∀ xs ys : List (PData × PData), cmpKvs (normAnyKvs xs) ys = cmpKvs xs ys :=
  fun xs => eq_left_of_key cmpKvs_eq_key (keyKvs_normAny xs)

mutual
theorem wfTag_normAny : ∀ a : PData, wfTag a = true → wfTag (normAny a) = true
  | .constr t a d fs => by
    simp only [wfTag, normAny, Bool.and_eq_true]
    exact fun h => ⟨by rw [constrIndex_normAny]; exact h.1, wfTagList_normAny fs h.2⟩
  | .map d kvs => by simp only [wfTag, normAny]; exact wfTagKvs_normAny kvs
  | .array d xs => by simp only [wfTag, normAny]; exact wfTagList_normAny xs
  | .int _ | .bytes _ => by simp [wfTag, normAny]
theorem wfTagList_normAny : ∀ xs : List PData, wfTagList xs = true → wfTagList (normAnyList xs) = true
  | [] => by simp [wfTagList, normAnyList]
  | x :: xs => by
    simp only [wfTagList, normAnyList, Bool.and_eq_true]
    exact fun h => ⟨wfTag_normAny x h.1, wfTagList_normAny xs h.2⟩
theorem wfTagKvs_normAny : ∀ xs : List (PData × PData), wfTagKvs xs = true → wfTagKvs (normAnyKvs xs) = true
  | [] => by simp [wfTagKvs, normAnyKvs]
  | (k, v) :: xs => by
    simp only [wfTagKvs, normAnyKvs, Bool.and_eq_true]
    exact fun h => ⟨⟨wfTag_normAny k h.1.1, wfTag_normAny v h.1.2⟩, wfTagKvs_normAny xs h.2⟩
end

mutual
theorem wfTag_eraseDef : ∀ a : PData, wfTag (eraseDef a) = wfTag a
  | .constr t a d fs => by simp only [wfTag, eraseDef, wfTagList_eraseDef fs]
  | .map d kvs => by simp only [wfTag, eraseDef, wfTagKvs_eraseDef kvs]
  | .array d xs => by simp only [wfTag, eraseDef, wfTagList_eraseDef xs]
  | .int _ | .bytes _ => by simp [wfTag, eraseDef]
theorem wfTagList_eraseDef : ∀ xs : List PData, wfTagList (eraseDefList xs) = wfTagList xs
  | [] => by simp [wfTagList, eraseDefList]
  | x :: xs => by simp only [wfTagList, eraseDefList, wfTag_eraseDef x, wfTagList_eraseDef xs]
theorem wfTagKvs_eraseDef : ∀ xs : List (PData × PData), wfTagKvs (eraseDefKvs xs) = wfTagKvs xs
  | [] => by simp [wfTagKvs, eraseDefKvs]
  | (k, v) :: xs => by simp only [wfTagKvs, eraseDefKvs, wfTag_eraseDef k, wfTag_eraseDef v, wfTagKvs_eraseDef xs]
end

end PallasVerif.PlutusData
