import PallasVerif.Gen.PanicSitesC33
import PallasVerif.Model.PhaseOneArith
import PallasVerif.Model.NativeScript
import PallasVerif.Proofs.Guarded
import PallasVerif.Props.C34
import PallasVerif.Props.C35
import PallasVerif.Props.C36
import PallasVerif.Props.C37
import PallasVerif.Props.C39
/-!
# C33 — Phase-1 validation is total  (level: `other`)

The property is a statement about ~6 kLoC of Rust (five era validators and `utils.rs`). What is **proved** here:

* the panic inventory: `Gen/PanicSitesC33.lean` is regenerated on every run from `phase1/*.rs`, `utils.rs`, `utils/*.rs`
  (`lib/scan_panics_c33.py`); `panic_sites_all_audited` holds only while every syntactic panic site has an entry in the
  audited allow-list `lib/panic_audit_C33.json`;
* the script / datum / redeemer / minting-policy / language / metadata / script-integrity rules have no partial operation in
  their own code (`script_rule_sites_benign`, from the inventory); as total functions of observations they are in
  `Model/Rules.lean` (C38);
* for every rule that has a Lean model (the models of C34–C37 and C39, which transcribe the code as it stands after the
  C33 `fix:` commits, plus `Model/PhaseOneArith.lean` for the leftover arithmetic) the verdict is never `panic`, for
  all inputs in the ranges of the Rust types: the `…_total` theorems below. Where a rule has a property of its own, its
  totality comes from that file: for C34, C35 and C37 it is one half of the one statement about the rule; for C36 and C39 it
  follows, under the ranges of the Rust types, from what the file says the rule computes (`C36.checkMinFee_of_fits`,
  `C36.feeAndSize_verdict`, `C39.validate_txs_spec`);
* `validate_total`: the Alonzo / Babbage / Conway validator assembled from these rules in source order
  (`modelledRules`), with first-failure semantics, never panics (`firstFailure_total`: nor would any other order of
  rules that do not panic); the Shelley-MA and Byron rules are not assembled into a validator.

What is **not** modelled (decided by search only: stream `valtotal`, mutated fixtures and synthesized extremes under
`catch_unwind`): UTxO look-ups and address decoding, the hashing / encoding those rules call, certificates (beyond the
deposit and MIR totals), the Byron witness rule, and everything the validators call in `pallas-traverse`,
`pallas-addresses`, `pallas-primitives` and `pallas-codec`.
-/
namespace PallasVerif.Props.C33

theorem panic_sites_all_audited : Gen.PanicSitesC33.unaudited = [] := by decide
theorem all_anchored_files_scanned : Gen.PanicSitesC33.filesScanned = Gen.PanicSitesC33.filesExpected := by decide
theorem inventory_nonempty : 40 ≤ Gen.PanicSitesC33.sites.length := by decide

/-- the Rust functions of the script, datum, redeemer, minting-policy, language and script-integrity rules -/
def scriptRuleFns : List String :=
  ["check_minting", "check_witness_set", "check_witnesses", "check_needed_scripts", "check_needed_scripts_are_included", "check_datums",
   "check_input_datum_hash_in_witness_set", "check_datums_from_witness_set_in_inputs_or_outputs", "check_redeemers",
   "mk_plutus_script_redeemer_pointers", "redeemer_pointers_coincide", "check_languages", "tx_languages", "available_langs", "allowed_langs",
   "block_langs", "compute_all_outputs", "check_script_data_hash", "cost_model_cbor", "cost_model_for_tx", "get_script_hash_from_reference_input",
   "get_reference_script_hashes", "check_well_formedness", "check_auxiliary_data", "check_metadata"]

/-- the two facts below in one statement, so that the kernel evaluates the filter once (a site is
    `(file, fn, kind, verdict)`: `s.2.1` its function, `s.2.2.2` the audited verdict) -/
theorem script_rule_sites :
    (Gen.PanicSitesC33.sites.filter (fun s => scriptRuleFns.contains s.2.1)).all
      (fun s => s.2.2.2 == "method-named-unwrap" || s.2.2.2 == "infallible") = true ∧
    5 ≤ (Gen.PanicSitesC33.sites.filter (fun s => scriptRuleFns.contains s.2.1)).length := by decide +kernel

/-- every syntactic panic site inside those functions is `KeepRaw::unwrap` / `CborWrap::unwrap` (a method named `unwrap`, no
    panic) or the infallible `Vec` encoder of `cost_model_cbor`: their own code has no partial operation, so their totality
    rests on the callee crates only (searched, not proved) -/
theorem script_rule_sites_benign :
    (Gen.PanicSitesC33.sites.filter (fun s => scriptRuleFns.contains s.2.1)).all
      (fun s => s.2.2.2 == "method-named-unwrap" || s.2.2.2 == "infallible") = true := script_rule_sites.1
theorem script_rule_sites_nonempty : 5 ≤ (Gen.PanicSitesC33.sites.filter (fun s => scriptRuleFns.contains s.2.1)).length :=
  script_rule_sites.2

theorem exunits_total (era : ExUnits.Era) (w : ExUnits.Wits) (maxMem maxSteps : Nat) :
    ExUnits.checkTxExUnits era w maxMem maxSteps ≠ .panic :=
  (C37.checkTxExUnits_total_sound era w maxMem maxSteps).1

/-- `minfee_b as u64 + minfee_a as u64 * size as u64` cannot overflow for `u32` operands -/
theorem min_fee_total (fee a b size : Nat) (ha : a ≤ FeeSize.U32_MAX) (hb : b ≤ FeeSize.U32_MAX)
    (hs : size ≤ FeeSize.U32_MAX) : FeeSize.checkMinFee fee a b size ≠ .panic := by
  rw [C36.checkMinFee_of_fits fee a b size (C36.fee_formula_fits a b size ha hb hs)]
  exact ite_ne nofun nofun

theorem tx_size_total (size maxSize : Nat) : FeeSize.checkTxSize size maxSize ≠ .panic := ite_ne nofun nofun

/-- the `as u32` cast of `get_*_tx_size` -/
theorem validatorSize_le (p : FeeSize.Parts) : FeeSize.validatorSize p ≤ FeeSize.U32_MAX :=
  Nat.le_of_lt_succ (Nat.mod_lt _ (Nat.succ_pos _))

theorem fee_and_size_total (era : FeeSize.Era) (p : FeeSize.Parts) (fee a b maxSize : Nat)
    (ha : a ≤ FeeSize.U32_MAX) (hb : b ≤ FeeSize.U32_MAX) : FeeSize.feeAndSize era p fee a b maxSize ≠ .panic := by
  rcases (C36.feeAndSize_verdict era p fee a b maxSize).2 with h | h <;> rw [h]
  · exact min_fee_total fee a b _ ha hb (validatorSize_le p)
  · exact tx_size_total (FeeSize.validatorSize p) maxSize

theorem collateral_total (paid fee percentage : Nat) (hp : paid ≤ PhaseOneArith.U64_MAX)
    (hf : fee ≤ PhaseOneArith.U64_MAX) (hc : percentage ≤ PhaseOneArith.U32_MAX) :
    PhaseOneArith.collateralEnough paid fee percentage ≠ .panic := by
  have h1 : fee * percentage ≤ PhaseOneArith.U128_MAX := Nat.le_trans (Nat.mul_le_mul hf hc) (by decide)
  have h2 : paid * 100 ≤ PhaseOneArith.U128_MAX := Nat.le_trans (Nat.mul_le_mul_right 100 hp) (by decide)
  unfold PhaseOneArith.collateralEnough
  rw [if_neg (Nat.not_lt.mpr h1), if_neg (Nat.not_lt.mpr h2)]
  exact ite_ne nofun nofun

/-- under protocol parameters below `2^32` (every network: 4310, 34482, 1000000/27) and value sizes below `2^31`
    words (no in-memory transaction is larger) the unchecked `u64` product cannot overflow -/
theorem min_lovelace_total (lovelace coinsPerUnit words overhead : Nat) (hc : coinsPerUnit ≤ PhaseOneArith.U32_MAX)
    (hw : words + overhead ≤ 2147483648) :
    PhaseOneArith.checkMinLovelace lovelace coinsPerUnit words overhead ≠ .panic := by
  have h1 : words + overhead ≤ PhaseOneArith.U64_MAX := Nat.le_trans hw (by decide)
  have h2 : coinsPerUnit * (words + overhead) ≤ PhaseOneArith.U64_MAX := Nat.le_trans (Nat.mul_le_mul hc hw) (by decide)
  unfold PhaseOneArith.checkMinLovelace PhaseOneArith.minLovelace
  rw [if_neg (Nat.not_lt.mpr h1), if_neg (Nat.not_lt.mpr h2)]
  exact ite_ne nofun nofun

/-- deposits below `2^40` lovelace (500 ADA and 2 ADA on every network) times fewer than `2^20` certificates -/
theorem deposits_total (poolDeposit poolCount keyDeposit keyCount : Nat)
    (h1 : poolDeposit ≤ 1099511627776) (h2 : keyDeposit ≤ 1099511627776) (h3 : poolCount ≤ 1048576) (h4 : keyCount ≤ 1048576) :
    PhaseOneArith.totalDeposits poolDeposit poolCount keyDeposit keyCount ≠ none := by
  have a := Nat.mul_le_mul h1 h3
  have b := Nat.mul_le_mul h2 h4
  have n1 : poolDeposit * poolCount ≤ PhaseOneArith.U64_MAX := Nat.le_trans a (by decide)
  have n2 : keyDeposit * keyCount ≤ PhaseOneArith.U64_MAX := Nat.le_trans b (by decide)
  have n3 : poolDeposit * poolCount + keyDeposit * keyCount ≤ PhaseOneArith.U64_MAX :=
    Nat.le_trans (Nat.add_le_add a b) (by decide)
  unfold PhaseOneArith.totalDeposits
  rw [if_neg (Nat.not_lt.mpr n1), if_neg (Nat.not_lt.mpr n2), if_neg (Nat.not_lt.mpr n3)]
  nofun

theorem mir_total (pot : Nat) (amounts : List Nat) : PhaseOneArith.mirWithinPot pot amounts ≠ .panic := by
  unfold PhaseOneArith.mirWithinPot
  cases PhaseOneArith.checkedTotal 0 amounts with
  | none => nofun
  | some t => exact ite_ne nofun nofun

section collateral
open PhaseOneArith

theorem subU64_panics_iff (f s : Int) : subU64 f s = .panic ↔ f < s := by
  unfold subU64; split <;> simp_all

theorem guarded_sub {c : Prop} [Decidable c] {f s : Int} (hc : c → s ≤ f) :
    (if c then subU64 f s else .err).Sat False fun d => s ≤ f ∧ d = f - s := by
  by_cases h : c
  · rw [if_pos h, subU64, if_neg (Int.not_lt.mpr (hc h))]; exact ⟨hc h, rfl⟩
  · rw [if_neg h]; trivial

theorem lovelaceDiffOrFail_sat (a b : Value.Value) :
    (lovelaceDiffOrFail a b).Sat False fun d => coinV b ≤ coinV a ∧ d = coinV a - coinV b := by
  cases a <;> cases b
  · exact guarded_sub id
  · trivial
  · exact guarded_sub (·.1)
  · exact guarded_sub (·.1)

/-- `lovelace_diff_or_fail` / `conway_lovelace_diff_or_fail`: every arm that subtracts does so under `f >= s` -/
theorem lovelace_diff_total (a b : Value.Value) : lovelaceDiffOrFail a b ≠ .panic :=
  (lovelaceDiffOrFail_sat a b).np

theorem coinV_eq (v : Value.Value) : coinV v = Value.coinOf v := by cases v <;> rfl

theorem returnValue_coin (conway legacy : Bool) (ret : Option Value.Value) (hret : ∀ r, ret = some r → 0 ≤ coinV r) :
    0 ≤ coinV (returnValue conway legacy ret) := by
  cases ret with
  | none => simp [returnValue, coinV]
  | some r =>
    have := hret r rfl
    cases r <;> simp only [returnValue]
    · exact this
    · split <;> exact this

/-- each addition is checked; Conway's `first().unwrap()` needs the list non-empty -/
theorem collateralSum_sat (conway : Bool) (ins : List Value.Value) (hne : conway = true → ins ≠ [])
    (hins : ∀ v ∈ ins, coinV v ≤ Value.U64_MAX) :
    (collateralSum conway ins).Sat False fun input => coinV input ≤ Value.U64_MAX := by
  unfold collateralSum
  cases conway with
  | false => exact (C34.sumFrom_empty_sat ins).imp fun r h => coinV_eq r ▸ h.2.2.1
  | true =>
    cases ins with
    | nil => exact absurd rfl (hne rfl)
    | cons i is =>
      exact (Value.conwaySumFrom_sat is i).imp fun r h => coinV_eq r ▸ h.2.2.1 (coinV_eq i ▸ hins i List.mem_cons_self)

/-- **Babbage / Conway `check_collaterals_assets` never panics**; the non-empty list Conway needs is what
    `check_collaterals_number` has established before. -/
theorem collateral_balance_total (conway legacy : Bool) (ins : List Value.Value) (ret : Option Value.Value)
    (fee pct : Nat) (total : Option Nat) (hne : conway = true → ins ≠ [])
    (hins : ∀ v ∈ ins, coinV v ≤ Value.U64_MAX) (hret : ∀ r, ret = some r → 0 ≤ coinV r)
    (hf : fee ≤ U64_MAX) (hc : pct ≤ U32_MAX) :
    collateralBalance conway legacy ins ret fee pct total ≠ .panic := by
  unfold collateralBalance
  rcases (collateralSum_sat conway ins hne hins).out with h | ⟨input, h, hle⟩ <;> simp only [h]
  · nofun
  rcases (lovelaceDiffOrFail_sat input (returnValue conway legacy ret)).out with h | ⟨_, h, hb, rfl⟩ <;> simp only [h]
  · nofun
  have hnat : (coinV input - coinV (returnValue conway legacy ret)).toNat ≤ U64_MAX := by
    have := returnValue_coin conway legacy ret hret
    -- `Value.U64_MAX : Int` in `hle` and `PhaseOneArith.U64_MAX : Nat` in the goal are the same numeral
    exact Int.toNat_le.mpr (Int.le_trans (by omega) hle)
  cases hce : collateralEnough (coinV input - coinV (returnValue conway legacy ret)).toNat fee pct with
  | panic => exact absurd hce (collateral_total _ _ _ hnat hf hc)
  | rejected => simp
  | ok =>
    cases total with
    | none => simp
    | some t => exact ite_ne nofun nofun

/-- **`check_collaterals` (number, then assets) never panics**: the count check discharges the non-emptiness that
    Conway's `first().unwrap()` needs — no hypothesis about the list is left -/
theorem collateral_rule_total (conway legacy : Bool) (maxInputs : Nat) (ins : List Value.Value) (ret : Option Value.Value)
    (fee pct : Nat) (total : Option Nat)
    (hins : ∀ v ∈ ins, coinV v ≤ Value.U64_MAX) (hret : ∀ r, ret = some r → 0 ≤ coinV r)
    (hf : fee ≤ U64_MAX) (hc : pct ≤ U32_MAX) :
    collateralRule conway legacy maxInputs ins ret fee pct total ≠ .panic := by
  unfold collateralRule
  split
  · simp
  · rename_i hne
    split
    · simp
    · exact collateral_balance_total conway legacy ins ret fee pct total (fun _ h => by simp [h] at hne) hins hret hf hc

/-- Alonzo `check_collaterals_assets` (products in `u128`) -/
theorem collateral_alonzo_total (fee pct : Nat) (hf : fee ≤ U64_MAX) (hc : pct ≤ U32_MAX) :
    ∀ ins : List Value.Value, (∀ v ∈ ins, coinV v ≤ Value.U64_MAX) → collateralAlonzo fee pct ins ≠ .panic := by
  intro ins h
  fun_induction collateralAlonzo fee pct ins with
  | case1 | case3 | case4 => nofun  -- no input left; an input below the percentage; an input with assets
  -- the percentage check panics: never
  | case2 v rest hp => exact absurd hp (collateral_total _ _ _ (Int.toNat_le.mpr (h v List.mem_cons_self)) hf hc)
  | case5 v rest _ _ ih => exact ih (List.forall_mem_cons.mp h).2  -- the input passes: on to the next

-- non-vacuity: the arms, and what the missing guard would do
example : lovelaceDiffOrFail (.multi 7 [("p", [("a", 3)])]) (.multi 5 [("p", [("a", 3)])]) = .ok 2 := by decide
example : lovelaceDiffOrFail (.multi 5 [("p", [("a", 3)])]) (.multi 7 [("p", [("a", 3)])]) = .err := by decide
example : lovelaceDiffOrFail (.multi 7 [("p", [("a", 3)])]) (.multi 5 [("p", [("a", 4)])]) = .err := by decide
example : lovelaceDiffOrFail (.multi 7 []) (.coin 7) = .ok 0 := by decide
example : lovelaceDiffOrFail (.coin 7) (.multi 1 []) = .err := by decide
example : subU64 5 7 = .panic := by decide
example : collateralBalance true false [.multi 5000000 [("p", [("a", 3)])]] (some (.multi 7000000 [("p", [("a", 3)])])) 200000 150 none = .nonLovelace := by decide
example : collateralBalance false false [.coin 5000000, .coin 1] (some (.coin 4000000)) 200000 150 (some 1000001) = .ok := by decide
example : collateralBalance false false [.coin 5000000] none 200000 150 (some 1) = .annotation := by decide
example : collateralAlonzo 200000 150 [.coin 300000, .multi 300000 [("p", [("a", 1)])]] = .nonLovelace := by decide
end collateral

section native
open NativeScript

mutual
theorem eval_total (keys : List String) (low upp : Option Nat) : (s : NS) → fits s = true → eval keys low upp s ≠ none
  | .pubkey _, _ | .invalidBefore _, _ | .invalidHereafter _, _ => by simp [eval]
  | .all l, h => by
    simp only [fits, Bool.and_eq_true] at h
    simp only [eval]; exact evalAll_total keys low upp l h.2
  | .any l, h => by
    simp only [fits, Bool.and_eq_true] at h
    simp only [eval]; exact evalAny_total keys low upp l h.2
  | .nOfK n l, h => by
    simp only [fits, Bool.and_eq_true, decide_eq_true_eq] at h
    simp only [eval]
    have := count_total keys low upp l 0 h.2 (by omega)
    cases hc : count keys low upp 0 l with
    | none => exact absurd hc this
    | some c => simp
theorem evalAll_total (keys : List String) (low upp : Option Nat) : (l : List NS) → fitsList l = true → evalAll keys low upp l ≠ none
  | [], _ => by simp [evalAll]
  | s :: rest, h => by
    simp only [fitsList, Bool.and_eq_true] at h
    have h1 := eval_total keys low upp s h.1
    have h2 := evalAll_total keys low upp rest h.2
    simp only [evalAll]
    cases he : eval keys low upp s with
    | none => exact absurd he h1
    | some b => cases b <;> simp [h2]
theorem evalAny_total (keys : List String) (low upp : Option Nat) : (l : List NS) → fitsList l = true → evalAny keys low upp l ≠ none
  | [], _ => by simp [evalAny]
  | s :: rest, h => by
    simp only [fitsList, Bool.and_eq_true] at h
    have h1 := eval_total keys low upp s h.1
    have h2 := evalAny_total keys low upp rest h.2
    simp only [evalAny]
    cases he : eval keys low upp s with
    | none => exact absurd he h1
    | some b => cases b <;> simp [h2]
/-- the `u32` count cannot overflow: it never exceeds the number of sub-scripts seen so far -/
theorem count_total (keys : List String) (low upp : Option Nat) : (l : List NS) → (acc : Nat) → fitsList l = true →
    acc + l.length ≤ U32_MAX → count keys low upp acc l ≠ none
  | [], _, _, _ => by simp [count]
  | s :: rest, acc, h, hb => by
    simp only [fitsList, Bool.and_eq_true] at h
    have h1 := eval_total keys low upp s h.1
    simp only [List.length_cons] at hb
    simp only [count]
    cases he : eval keys low upp s with
    | none => exact absurd he h1
    | some b =>
      have hle : acc + (if b = true then 1 else 0) ≤ acc + 1 := by cases b <;> simp
      simp only
      rw [if_neg (by omega)]
      exact count_total keys low upp rest _ h.2 (by omega)
end

theorem checkNativeScripts_eq_evalAll (keys : List String) (low upp : Option Nat) :
    ∀ l : List NS, checkNativeScripts keys low upp l = evalAll keys low upp l := by
  intro l
  induction l with
  | nil => simp only [checkNativeScripts, evalAll]
  | cons s rest ih => simp only [checkNativeScripts, evalAll, ih]

theorem native_scripts_total (keys : List String) (low upp : Option Nat) : ∀ l : List NS, fitsList l = true →
    checkNativeScripts keys low upp l ≠ none := by
  intro l h
  rw [checkNativeScripts_eq_evalAll]
  exact evalAll_total keys low upp l h

/-- n-of-k is `count ≥ n` on the full count, so `n = 0` holds for every list -/
theorem nOfK_zero (keys : List String) (low upp : Option Nat) (l : List NS) (h : fits (.nOfK 0 l) = true) :
    eval keys low upp (.nOfK 0 l) = some true := by
  have := eval_total keys low upp (.nOfK 0 l) h
  simp only [eval] at this ⊢
  cases hc : count keys low upp 0 l with
  | none => simp [hc] at this
  | some c => simp

example : eval ["a"] none none (.nOfK 0 [.pubkey "a", .pubkey "b"]) = some true := by decide
example : eval ["a"] none none (.nOfK 1 [.pubkey "a", .pubkey "b"]) = some true := by decide
example : eval ["a"] none none (.nOfK 2 [.pubkey "a", .pubkey "b"]) = some false := by decide
example : eval ["a", "b"] none none (.nOfK 3 [.pubkey "a", .pubkey "b"]) = some false := by decide
example : eval [] none none (.nOfK 0 []) = some true := by decide
example : eval [] none none (.all []) = some true ∧ eval [] none none (.any []) = some false := by decide
example : eval [] (some 100) (some 200) (.all [.invalidBefore 100, .invalidHereafter 200]) = some true := by decide
example : eval [] (some 100) (some 200) (.any [.invalidBefore 101, .invalidHereafter 199]) = some false := by decide
example : eval [] none none (.any [.invalidBefore 0, .invalidHereafter 0]) = some false := by decide
example : eval ["a"] (some 5) none (.all [.nOfK 1 [.any [.pubkey "x", .pubkey "a"], .invalidBefore 9], .nOfK 0 []]) = some true := by decide
end native

theorem preservation_total (ins outs : List Value.Value) (fee : Int) (mint : Option Value.MA) :
    Value.checkPreservation ins outs fee mint ≠ .panic :=
  (C34.checkPreservation_total_sound ins outs fee mint).1

theorem preservation_total_shelleyMA (shelley : Bool) (ins outs : List Value.Value) (fee : Int) (mint : Option Value.MA) :
    Value.checkPreservationShelleyMA shelley ins outs fee mint ≠ .panic :=
  (C34.checkPreservationShelleyMA_total_sound shelley ins outs fee mint).1

theorem preservation_total_conway (ins outs : List Value.Value) (fee : Int) (mint : Option Value.MA) :
    Value.checkPreservationConway ins outs fee mint ≠ .panic :=
  (C34.checkPreservationConway_total_sound ins outs fee mint).1

theorem byron_fees_total (ins outs : List Int) (size summand multiplier : Int) (onlyRedeem : Bool) :
    Value.byronCheckFees ins outs size summand multiplier onlyRedeem ≠ .panic :=
  (C34.byronCheckFees_total_sound ins outs size summand multiplier onlyRedeem).1

section witnesses
open Witness
variable {H : Type} [DecidableEq H] (hash : Bytes → H) (verify : Bytes → Bytes → Bytes → Bool)

theorem witness_total (conway : Bool) (req : Option (List H)) (wits : Option (List Wit))
    (ins : List (InputView H)) (msg : Bytes) : checkWitnessSet hash verify conway req wits ins msg ≠ .panic :=
  (C35.checkWitnessSet_yields hash verify conway req wits ins msg).np

theorem witness_total_shelley (wits : Option (List Wit)) (ins : List (InputView H)) (nativeOk : Bool) (msg : Bytes) :
    checkWitnessesShelley hash verify wits ins nativeOk msg ≠ .panic :=
  (C35.checkWitnessesShelley_yields hash verify wits ins nativeOk msg).np
end witnesses

/-- `validate_txs` panics only through the `usize → u32` index conversion, i.e. never up to `2^32` transactions -/
theorem validate_txs_total {S T E : Type} (step : ValidateTxs.Step S T E) (s : S) (txs : List T)
    (hlen : txs.length ≤ ValidateTxs.U32_MAX + 1) : (ValidateTxs.validateTxs step s txs).2 ≠ .panic := by
  rw [C39.validate_txs_spec step s txs hlen]
  cases C39.applyInOrder step s 0 txs <;> nofun

inductive Verdict where
  | ok | rejected | panic
  deriving DecidableEq, Repr

/-- an era validator: the rules in order, the first verdict that is not `ok` is the result (`?` after each check) -/
def firstFailure : List Verdict → Verdict
  | [] => .ok
  | .ok :: rest => firstFailure rest
  | v :: _ => v

theorem firstFailure_total (vs : List Verdict) (h : ∀ v ∈ vs, v ≠ .panic) : firstFailure vs ≠ .panic := by
  induction vs with
  | nil => nofun
  | cons v rest ih =>
    cases v with
    | ok => exact ih (fun w hw => h w (List.mem_cons_of_mem _ hw))
    | rejected => nofun
    | panic => exact absurd rfl (h .panic List.mem_cons_self)

def ofFee : FeeSize.Res → Verdict
  | .ok => .ok | .panic => .panic | _ => .rejected
def ofValue : Value.Res → Verdict
  | .ok => .ok | .panic => .panic | _ => .rejected
def ofEx : ExUnits.Res → Verdict
  | .ok => .ok | .panic => .panic | _ => .rejected
def ofArith : PhaseOneArith.Res → Verdict
  | .ok => .ok | .panic => .panic | .rejected => .rejected
def ofColl : PhaseOneArith.CollRes → Verdict
  | .ok => .ok | .panic => .panic | _ => .rejected
def ofWit : Witness.R Unit → Verdict
  | .ok () => .ok | .panic => .panic | .err _ => .rejected

theorem ofFee_total {r : FeeSize.Res} (h : r ≠ .panic) : ofFee r ≠ .panic := by
  cases r <;> first | exact absurd rfl h | nofun
theorem ofValue_total {r : Value.Res} (h : r ≠ .panic) : ofValue r ≠ .panic := by
  cases r <;> first | exact absurd rfl h | nofun
theorem ofEx_total {r : ExUnits.Res} (h : r ≠ .panic) : ofEx r ≠ .panic := by
  cases r <;> first | exact absurd rfl h | nofun
theorem ofArith_total {r : PhaseOneArith.Res} (h : r ≠ .panic) : ofArith r ≠ .panic := by
  cases r <;> first | exact absurd rfl h | nofun
theorem ofColl_total {r : PhaseOneArith.CollRes} (h : r ≠ .panic) : ofColl r ≠ .panic := by
  cases r <;> first | exact absurd rfl h | nofun
theorem ofWit_total {r : Witness.R Unit} (h : r ≠ .panic) : ofWit r ≠ .panic := by
  cases r <;> first | exact absurd rfl h | nofun

/-- everything the modelled rules of an Alonzo / Babbage / Conway validator look at -/
structure TxView (H : Type) where
  feeEra : FeeSize.Era
  exEra : ExUnits.Era
  parts : FeeSize.Parts
  fee : Nat
  minfeeA : Nat
  minfeeB : Nat
  maxSize : Nat
  alonzoEra : Bool                      -- Alonzo: per-input collateral rule; Babbage / Conway: the balance
  collateralIns : List Value.Value     -- values of the collateral inputs' UTxO entries
  collateralReturn : Option Value.Value
  legacyReturn : Bool
  totalCollateral : Option Nat
  maxCollateralInputs : Nat
  collateralPercentage : Nat
  outputs : List (Nat × Nat)          -- (lovelace, value size in words) of each output
  coinsPerUnit : Nat
  overhead : Nat
  spent : List Value.Value
  produced : List Value.Value
  mint : Option Value.MA
  exWits : ExUnits.Wits
  maxMem : Nat
  maxSteps : Nat
  conway : Bool
  requiredSigners : Option (List H)
  witnesses : Option (List Witness.Wit)
  inputViews : List (Witness.InputView H)
  txId : Witness.Bytes

/-- the quantities are in the ranges of their Rust types and the parameters are those of a Cardano network -/
structure InRange {H : Type} (v : TxView H) : Prop where
  a : v.minfeeA ≤ FeeSize.U32_MAX
  b : v.minfeeB ≤ FeeSize.U32_MAX
  fee : v.fee ≤ PhaseOneArith.U64_MAX
  collIns : ∀ x ∈ v.collateralIns, PhaseOneArith.coinV x ≤ Value.U64_MAX
  collRet : ∀ r, v.collateralReturn = some r → 0 ≤ PhaseOneArith.coinV r
  pct : v.collateralPercentage ≤ PhaseOneArith.U32_MAX
  coins : v.coinsPerUnit ≤ PhaseOneArith.U32_MAX
  words : ∀ o ∈ v.outputs, o.2 + v.overhead ≤ 2147483648

/-- the modelled rules of the Alonzo / Babbage / Conway validators in the order of `validate_<era>_tx` (the Conway flavour
    of the value rule when `conway`) -/
def modelledRules {H : Type} [DecidableEq H] (hash : Witness.Bytes → H) (verify : Witness.Bytes → Witness.Bytes → Witness.Bytes → Bool)
    (v : TxView H) : List Verdict :=
  [ ofFee (FeeSize.checkMinFee v.fee v.minfeeA v.minfeeB (FeeSize.validatorSize v.parts)),
    ofColl (if v.alonzoEra then PhaseOneArith.collateralAlonzo v.fee v.collateralPercentage v.collateralIns
            else PhaseOneArith.collateralRule v.conway v.legacyReturn v.maxCollateralInputs v.collateralIns v.collateralReturn v.fee v.collateralPercentage v.totalCollateral),
    ofValue (if v.conway then Value.checkPreservationConway v.spent v.produced v.fee v.mint
             else Value.checkPreservation v.spent v.produced v.fee v.mint) ]
  ++ v.outputs.map (fun o => ofArith (PhaseOneArith.checkMinLovelace o.1 v.coinsPerUnit o.2 v.overhead))
  ++ [ ofFee (FeeSize.checkTxSize (FeeSize.validatorSize v.parts) v.maxSize),
       ofEx (ExUnits.checkTxExUnits v.exEra v.exWits v.maxMem v.maxSteps),
       ofWit (Witness.checkWitnessSet hash verify v.conway v.requiredSigners v.witnesses v.inputViews v.txId) ]

/-- **Totality of the modelled rule set.** -/
theorem validate_total {H : Type} [DecidableEq H] (hash : Witness.Bytes → H)
    (verify : Witness.Bytes → Witness.Bytes → Witness.Bytes → Bool) (v : TxView H) (hr : InRange v) :
    firstFailure (modelledRules hash verify v) ≠ .panic := by
  apply firstFailure_total
  intro x hx
  simp only [modelledRules, List.mem_append, List.mem_cons, List.mem_map, List.not_mem_nil, or_false] at hx
  rcases hx with ((rfl | rfl | rfl) | ⟨o, ho, rfl⟩) | (rfl | rfl | rfl)
  · exact ofFee_total (min_fee_total _ _ _ _ hr.a hr.b (validatorSize_le _))
  · exact ofColl_total (ite_ne (collateral_alonzo_total _ _ hr.fee hr.pct _ hr.collIns)
      (collateral_rule_total _ _ _ _ _ _ _ _ hr.collIns hr.collRet hr.fee hr.pct))
  · exact ofValue_total (ite_ne (preservation_total_conway _ _ _ _) (preservation_total _ _ _ _))
  · exact ofArith_total (min_lovelace_total _ _ _ _ hr.coins (hr.words o ho))
  · exact ofFee_total (tx_size_total _ _)
  · exact ofEx_total (exunits_total _ _ _ _)
  · exact ofWit_total (witness_total hash verify _ _ _ _ _)

example : PhaseOneArith.collateralEnough 18446744073709551615 18446744073709551615 4294967295 = .rejected := by decide
example : PhaseOneArith.collateralEnough 7500000 5000000 150 = .ok := by decide
example : PhaseOneArith.checkMinLovelace 1000000 4310 3 160 = .ok := by decide
example : PhaseOneArith.checkMinLovelace 0 18446744073709551615 3 160 = .panic := by decide   -- arbitrary parameters can overflow
example : PhaseOneArith.mirWithinPot 100 [18446744073709551615, 5] = .rejected := by decide
example : FeeSize.checkMinFee 0 4294967295 4294967295 4294967295 = .feeBelowMin := by decide
example : firstFailure [.ok, .rejected, .panic] = .rejected := by decide

end PallasVerif.Props.C33
