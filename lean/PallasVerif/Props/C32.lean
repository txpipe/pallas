import PallasVerif.Model.Time
import PallasVerif.Gen.Consts
/-!
# C32 — Slot, epoch and wall-clock conversions are mutually consistent

`Model/Time.lean` transcribes `pallas-traverse/src/time.rs` (checked `u64` arithmetic, a panic is
`none`); `Gen/Consts.lean` is regenerated from `wellknown.rs` on every run.

**Full statement** (`FullStatement g`): for every absolute slot below `2^40`, converting to
(epoch, slot-in-epoch) succeeds, the slot-in-epoch is smaller than the era's epoch size *in slots*,
converting back yields the slot (`RelOK`), the wall clock advances by exactly the era's slot length
from this slot to the next (`ClockStep`) and is strictly increasing (`ClockMono`).

The unchanged tree does **not** satisfy it (DESIGN §6 #18, #19; both demanded by the test
`calc_matches_testnet_values`, hence recorded as known findings, not repaired):

* `compute_era_epoch` reduces the slot modulo the epoch length in *seconds*; with 20 s Byron slots
  every Byron-era slot `s` with `s % epoch_seconds ≥ epoch_slots` breaks `RelOK`
  (`full_fails_mainnet`, `full_fails_preprod`, `full_fails_testnet`; exact region: `byron_relok_iff`).
* the legacy-testnet record has `byron_known_time + shelley_known_slot·20 ≠ shelley_known_time`, so
  its clock jumps back 10780 s at the era boundary (`clock_step_fails_testnet`,
  `clock_mono_fails_testnet`, `not_clock_agree_testnet`).

**Proved part** (`c32_partial`, generic in any record satisfying the decidable predicate `WFGenesis`,
instantiated for mainnet / preview / preprod by `decide` on the generated constants): `RelOK` for every
Shelley-era slot and for exactly those Byron-era slots with `s % epoch_seconds < epoch_slots`
(in particular all slots of the first Byron epoch); `ClockStep` and `ClockMono` for *all* slots.
For preview (no Byron era) this is the full statement (`c32_full_preview`). For the legacy testnet
the arithmetic half (`WFArith`) holds and gives the same `RelOK` region plus the clock laws inside
each era (`c32_partial_testnet`). Nothing is left unproved about the model; the remainder is the
two recorded defects of the code itself.
-/
namespace PallasVerif.Props.C32
open PallasVerif.Time PallasVerif.Gen.Consts

/-- the property's slot range -/
def slotBound : Nat := 2 ^ 40

/-- the era's epoch size in slots -/
def epochSize (g : Genesis) (slot : Nat) : Nat :=
  if slot < g.shelleyKnownSlot then g.byronEpochLength / g.byronSlotLength
  else g.shelleyEpochLength / g.shelleySlotLength

def slotLength (g : Genesis) (slot : Nat) : Nat :=
  if slot < g.shelleyKnownSlot then g.byronSlotLength else g.shelleySlotLength

/-- to (epoch, slot-in-epoch) and back: in range, and the original slot -/
def RelOK (g : Genesis) (slot : Nat) : Prop :=
  match absoluteSlotToRelative g slot with
  | some (e, r) => r < epochSize g slot ∧ relativeSlotToAbsolute g e r = some slot
  | none => False

def ClockStep (g : Genesis) (slot : Nat) : Prop :=
  match slotToWallclock g slot, slotToWallclock g (slot + 1) with
  | some a, some b => b = a + slotLength g slot
  | _, _ => False

def ClockMono (g : Genesis) (s t : Nat) : Prop :=
  match slotToWallclock g s, slotToWallclock g t with
  | some a, some b => a < b
  | _, _ => False

instance (g : Genesis) (slot : Nat) : Decidable (RelOK g slot) := by
  unfold RelOK; split <;> infer_instance
instance (g : Genesis) (slot : Nat) : Decidable (ClockStep g slot) := by
  unfold ClockStep; split <;> infer_instance
instance (g : Genesis) (s t : Nat) : Decidable (ClockMono g s t) := by
  unfold ClockMono; split <;> infer_instance

/-- The property at full strength, for one genesis record. -/
def FullStatement (g : Genesis) : Prop :=
  ∀ slot, slot < slotBound →
    RelOK g slot ∧ ClockStep g slot ∧ ∀ t, slot < t → t < slotBound → ClockMono g slot t

/-- Byron-era slots on which the code's remainder (mod seconds) coincides with the remainder
    mod slots; every Shelley-era slot qualifies. -/
def GoodSlot (g : Genesis) (slot : Nat) : Prop :=
  g.shelleyKnownSlot ≤ slot ∨ slot % g.byronEpochLength < g.byronEpochLength / g.byronSlotLength

instance (g : Genesis) (slot : Nat) : Decidable (GoodSlot g slot) := by
  unfold GoodSlot; infer_instance

/-- What is proved for every well-formed record (see module doc). -/
def PartialStatement (g : Genesis) : Prop :=
  ∀ slot, slot < slotBound →
    (GoodSlot g slot → RelOK g slot) ∧ ClockStep g slot ∧
      ∀ t, slot < t → t < slotBound → ClockMono g slot t

/-- arithmetic side: slot length divides epoch length, Shelley slots last one second, the Shelley
    start is a whole number of Byron epochs, everything small enough for `u64`. -/
def WFArith (g : Genesis) : Prop :=
  0 < g.byronSlotLength ∧ g.byronSlotLength < 2 ^ 16 ∧
  0 < g.byronEpochLength ∧ g.byronEpochLength < 2 ^ 32 ∧
  g.byronEpochLength % g.byronSlotLength = 0 ∧
  g.shelleySlotLength = 1 ∧
  0 < g.shelleyEpochLength ∧ g.shelleyEpochLength < 2 ^ 32 ∧
  g.byronKnownSlot = 0 ∧
  g.shelleyKnownSlot < 2 ^ 40 ∧
  g.shelleyKnownSlot % (g.byronEpochLength / g.byronSlotLength) = 0 ∧
  g.byronKnownTime < 2 ^ 40 ∧ g.shelleyKnownTime < 2 ^ 40

/-- the two linear clocks agree at the era boundary -/
def ClockAgree (g : Genesis) : Prop :=
  g.byronKnownTime + g.shelleyKnownSlot * g.byronSlotLength = g.shelleyKnownTime

def WFGenesis (g : Genesis) : Prop := WFArith g ∧ ClockAgree g

instance (g : Genesis) : Decidable (WFArith g) := by unfold WFArith; infer_instance
instance (g : Genesis) : Decidable (ClockAgree g) := by unfold ClockAgree; infer_instance
instance (g : Genesis) : Decidable (WFGenesis g) := by unfold WFGenesis; infer_instance

theorem wf_mainnet : WFGenesis mainnet := by decide
theorem wf_preview : WFGenesis preview := by decide
theorem wf_preprod : WFGenesis preprod := by decide
theorem wf_arith_testnet : WFArith testnet := by decide
theorem not_clock_agree_testnet : ¬ ClockAgree testnet := by decide

-- the witnesses of DESIGN §6 #18 (there and back gives another slot) and #19 (the testnet clock goes back), and the
-- full statement refuted at them
theorem rel_mainnet_21600 : absoluteSlotToRelative mainnet 21600 = some (1, 21600) ∧
    relativeSlotToAbsolute mainnet 1 21600 = some 43200 := by decide
theorem rel_mainnet_500000 : absoluteSlotToRelative mainnet 500000 = some (23, 68000) ∧
    relativeSlotToAbsolute mainnet 23 68000 = some 564800 := by decide
theorem full_fails_mainnet : ¬ FullStatement mainnet :=
  fun h => absurd (h 21600 (by decide)).1 (by decide)
theorem full_fails_preprod : ¬ FullStatement preprod :=
  fun h => absurd (h 21600 (by decide)).1 (by decide)
theorem full_fails_testnet : ¬ FullStatement testnet :=
  fun h => absurd (h 21600 (by decide)).1 (by decide)

theorem clock_testnet_boundary : slotToWallclock testnet 1598399 = some 1595978396 ∧
    slotToWallclock testnet 1598400 = some 1595967616 := by decide
theorem clock_step_fails_testnet : ¬ ClockStep testnet 1598399 := by decide
theorem clock_mono_fails_testnet : ¬ ClockMono testnet 1598399 1598400 := by decide
theorem full_fails_testnet_clock : ¬ FullStatement testnet :=
  fun h => clock_step_fails_testnet (h 1598399 (by decide)).2.1

theorem computeEraEpoch_eq {x l L : Nat} (hL : 0 < L) (h : x * l < U64) :
    computeEraEpoch x l L = some (x * l / L, x % L) := by
  rw [computeEraEpoch, if_neg (Nat.ne_of_gt hL), if_neg (Nat.not_le.2 h)]

theorem computeAbs_eq {e s L l : Nat} (h1 : e * L < U64) (hl : 0 < l) (h2 : e * L / l + s < U64) :
    computeAbsoluteSlotWithinEra e s L l = some (e * L / l + s) := by
  rw [computeAbsoluteSlotWithinEra, if_neg (Nat.not_le.2 h1), if_neg (Nat.ne_of_gt hl),
    if_neg (Nat.not_le.2 h2)]

theorem linear_eq {ks kt l q : Nat} (h0 : ks ≤ q) (h1 : (q - ks) * l < U64)
    (h2 : kt + (q - ks) * l < U64) :
    computeLinearTimestamp ks kt l q = some (kt + (q - ks) * l) := by
  rw [computeLinearTimestamp, if_neg (Nat.not_lt.2 h0), if_neg (Nat.not_le.2 h1),
    if_neg (Nat.not_le.2 h2)]

theorem mul_lt_56 {a b : Nat} (ha : a < 2 ^ 40) (hb : b < 2 ^ 16) : a * b < 2 ^ 56 :=
  Nat.lt_of_lt_of_le (Nat.mul_lt_mul'' ha hb) (by decide)

theorem mul_lt_U64 {a b : Nat} (ha : a < 2 ^ 40) (hb : b < 2 ^ 16) : a * b < U64 :=
  Nat.lt_trans (mul_lt_56 ha hb) (by decide)

theorem add_lt_U64 {a b : Nat} (ha : a < 2 ^ 40) (hb : b < 2 ^ 56) : a + b < U64 :=
  Nat.lt_trans (Nat.add_lt_add ha hb) (by decide)

/-- A record whose arithmetic side is well-formed, over its free parameters: Byron slots of `l`
    seconds, Byron epochs of `n` slots, the Shelley era starting after `k` Byron epochs, Shelley
    epochs of `E` one-second slots. The proofs below are about this shape. -/
theorem WFArith.shape {g : Genesis} (h : WFArith g) :
    ∃ l n k E bt st, g = ⟨n * l, l, 0, bt, E, 1, k * n, st⟩ ∧
      0 < l ∧ l < 2 ^ 16 ∧ 0 < n ∧ 0 < E ∧ k * n < 2 ^ 40 ∧ bt < 2 ^ 40 ∧ st < 2 ^ 40 := by
  obtain ⟨L, l, ks, bt, E, sl, K, st⟩ := g
  obtain ⟨hl, hl16, hL, -, hd, rfl, hE, -, rfl, hK, hKd, hbt, hst⟩ := h
  have hLl : L / l * l = L := Nat.div_mul_cancel (Nat.dvd_of_mod_eq_zero hd)
  have hKn : K / (L / l) * (L / l) = K := Nat.div_mul_cancel (Nat.dvd_of_mod_eq_zero hKd)
  refine ⟨l, L / l, K / (L / l), E, bt, st, by rw [hLl, hKn], hl, hl16, ?_, hE, by rwa [hKn], hbt, hst⟩
  exact Nat.div_pos (Nat.le_of_dvd hL (Nat.dvd_of_mod_eq_zero hd)) hl

theorem shelleyStartEpoch_eq {l n k E bt st : Nat} (hl : 0 < l) (hn : 0 < n)
    (h : k * n * l < U64) : shelleyStartEpoch ⟨n * l, l, 0, bt, E, 1, k * n, st⟩ = some k := by
  simp only [shelleyStartEpoch]
  rw [computeEraEpoch_eq (Nat.mul_pos hn hl) h, Nat.mul_div_mul_right _ _ hl, Nat.mul_div_cancel _ hn]

theorem computeAbs_byron {e s n l : Nat} (hl : 0 < l) (h1 : e * n * l < U64) (h2 : e * n + s < U64) :
    computeAbsoluteSlotWithinEra e s (n * l) l = some (e * n + s) := by
  have hd : e * (n * l) / l = e * n := by rw [← Nat.mul_assoc, Nat.mul_div_cancel _ hl]
  rw [computeAbs_eq (by rwa [← Nat.mul_assoc]) hl (by rwa [hd]), hd]

theorem relok_shelley {g : Genesis} (h : WFArith g) {slot : Nat}
    (hs : g.shelleyKnownSlot ≤ slot) (hb : slot < slotBound) : RelOK g slot := by
  obtain ⟨l, n, k, E, bt, st, rfl, hl, hl16, hn, hE, hK, -, -⟩ := h.shape
  -- `slot = k * n + x`, which goes to `(k + x / E, x % E)` and back
  change k * n ≤ slot at hs
  obtain ⟨x, rfl⟩ := Nat.exists_eq_add_of_le hs
  have lt {a : Nat} (ha : a ≤ k * n + x) : a < U64 :=
    Nat.lt_of_le_of_lt ha (Nat.lt_trans hb (by decide))
  have hKl := mul_lt_U64 hK hl16
  have hdm : x / E * E + x % E = x := Nat.div_add_mod' x E
  simp only [RelOK, absoluteSlotToRelative, relativeSlotToAbsolute, epochSize,
    shelleyStartEpoch_eq hl hn hKl]
  -- out: the Shelley branch, `compute_era_epoch` on `x` with one-second slots
  rw [if_neg (Nat.not_lt.2 hs), Nat.add_sub_cancel_left,
    computeEraEpoch_eq hE (by rw [Nat.mul_one]; exact lt (Nat.le_add_left _ _)), Nat.mul_one]
  have hep : k + x / E < U64 :=
    lt (Nat.add_le_add (Nat.le_mul_of_pos_right k hn) (Nat.div_le_self x E))
  simp only [if_neg (Nat.not_le.2 hep), if_neg (Nat.not_lt.2 hs), Nat.div_one]
  refine ⟨Nat.mod_lt x hE, ?_⟩
  -- back: `k + x / E` is not below the start epoch `k`; the Byron part is `k * n` slots, the Shelley part
  -- `x / E * E + x % E`
  rw [if_neg (Nat.not_lt.2 (Nat.le_add_right _ _)), Nat.add_sub_cancel_left,
    computeAbs_byron hl hKl (lt (Nat.le_add_right _ _)),
    computeAbs_eq (lt (Nat.le_trans (Nat.div_mul_le_self x E) (Nat.le_add_left _ _))) Nat.one_pos
      (by rw [Nat.div_one, hdm]; exact lt (Nat.le_add_left _ _)),
    Nat.div_one, hdm]
  simp only [Nat.add_zero, if_neg (Nat.not_le.2 (lt (Nat.le_refl _)))]

/-- Byron-era slots: exactly those whose remainder modulo the epoch length in seconds is
    smaller than the epoch size in slots survive the conversion (the rest is finding #18). -/
theorem byron_relok_iff {g : Genesis} (h : WFArith g) {slot : Nat}
    (hs : slot < g.shelleyKnownSlot) :
    RelOK g slot ↔ slot % g.byronEpochLength < g.byronEpochLength / g.byronSlotLength := by
  obtain ⟨l, n, k, E, bt, st, rfl, hl, hl16, hn, hE, hK, -, -⟩ := h.shape
  -- `slot` goes to `(slot / n, slot % (n * l))` and that to `slot / n * n + slot % (n * l)`
  change slot < k * n at hs
  have hs40 : slot < 2 ^ 40 := Nat.lt_trans hs hK
  have hsl := mul_lt_U64 hs40 hl16
  have hdl : slot / n * n ≤ slot := Nat.div_mul_le_self slot n
  simp only [RelOK, absoluteSlotToRelative, relativeSlotToAbsolute, epochSize,
    shelleyStartEpoch_eq hl hn (mul_lt_U64 hK hl16)]
  -- out: the Byron branch, `slot * l / (n * l) = slot / n`
  rw [if_pos hs, computeEraEpoch_eq (Nat.mul_pos hn hl) hsl, Nat.mul_div_mul_right _ _ hl]
  -- back: `slot / n` is below the start epoch `k`, so the Byron formula again; the epoch size is `n * l / l = n`
  simp only [if_pos hs, if_pos ((Nat.div_lt_iff_lt_mul hn).2 hs), Nat.mul_div_cancel _ hl]
  rw [computeAbs_byron hl (Nat.lt_of_le_of_lt (Nat.mul_le_mul_right l hdl) hsl)
    (Nat.lt_trans (Nat.add_lt_add (Nat.lt_of_le_of_lt hdl hs40)
      (Nat.lt_of_le_of_lt (Nat.mod_le _ _) hs40)) (by decide))]
  constructor
  · exact And.left
  · intro hr
    have hm : slot % (n * l) = slot % n := by
      rw [← Nat.mod_mul_right_mod slot n l, Nat.mod_eq_of_lt hr]
    refine ⟨hr, ?_⟩
    rw [hm, Nat.mul_comm, Nat.div_add_mod]

theorem relok_byron_first_epoch {g : Genesis} (h : WFArith g) {slot : Nat}
    (hs : slot < g.shelleyKnownSlot)
    (h1 : slot < g.byronEpochLength / g.byronSlotLength) : RelOK g slot := by
  rw [byron_relok_iff h hs,
    Nat.mod_eq_of_lt (Nat.lt_of_lt_of_le h1 (Nat.div_le_self _ _))]
  exact h1

/-- the finding is exactly the complement of the good region: on a well-formed record the round
    trip fails at a slot iff it is a Byron-era slot with `s % epoch_seconds ≥ epoch_slots` -/
theorem relok_iff_good {g : Genesis} (h : WFArith g) {slot : Nat} (hb : slot < slotBound) :
    RelOK g slot ↔ GoodSlot g slot := by
  by_cases hs : slot < g.shelleyKnownSlot
  · exact (byron_relok_iff h hs).trans ⟨Or.inr, fun hg => hg.resolve_left (Nat.not_le.2 hs)⟩
  · exact iff_of_true (relok_shelley h (Nat.le_of_not_lt hs) hb) (Or.inl (Nat.le_of_not_lt hs))

theorem rel_lt_epoch_size {g : Genesis} {slot e r : Nat} (h : RelOK g slot)
    (he : absoluteSlotToRelative g slot = some (e, r)) : r < epochSize g slot := by
  unfold RelOK at h; rw [he] at h; exact h.1

theorem abs_rel_roundtrip {g : Genesis} {slot e r : Nat} (h : RelOK g slot)
    (he : absoluteSlotToRelative g slot = some (e, r)) :
    relativeSlotToAbsolute g e r = some slot := by
  unfold RelOK at h; rw [he] at h; exact h.2

/-- closed form of the clock of a record whose arithmetic side is well-formed -/
def clockOf (g : Genesis) (s : Nat) : Nat :=
  if s < g.shelleyKnownSlot then g.byronKnownTime + s * g.byronSlotLength
  else g.shelleyKnownTime + (s - g.shelleyKnownSlot)

theorem clockOf_byron {g : Genesis} {s : Nat} (hs : s < g.shelleyKnownSlot) :
    clockOf g s = g.byronKnownTime + s * g.byronSlotLength := if_pos hs

theorem clockOf_shelley {g : Genesis} {s : Nat} (hs : g.shelleyKnownSlot ≤ s) :
    clockOf g s = g.shelleyKnownTime + (s - g.shelleyKnownSlot) := if_neg (Nat.not_lt.2 hs)

/-- `s ≤ slotBound`, not `<`: `ClockStep` at the last slot of the range asks for the clock at `slot + 1` -/
theorem wallclock_closed {g : Genesis} (h : WFArith g) {s : Nat} (hb : s ≤ slotBound) :
    slotToWallclock g s = some (clockOf g s) := by
  obtain ⟨l, n, k, E, bt, st, rfl, -, hl16, -, -, hK, hbt, hst⟩ := h.shape
  simp only [slotToWallclock, clockOf]
  by_cases hs : s < k * n
  · have hsl := mul_lt_56 (Nat.lt_trans hs hK) hl16
    rw [if_pos hs, if_pos hs, linear_eq (Nat.zero_le s) (Nat.lt_trans hsl (by decide))
      (add_lt_U64 hbt hsl), Nat.sub_zero]
  · have hx : (s - k * n) * 1 < 2 ^ 56 := by
      rw [Nat.mul_one]
      exact Nat.lt_of_le_of_lt (Nat.le_trans (Nat.sub_le _ _) hb) (by decide)
    rw [if_neg hs, if_neg hs, linear_eq (Nat.le_of_not_lt hs) (Nat.lt_trans hx (by decide))
      (add_lt_U64 hst hx), Nat.mul_one]

theorem WFArith.byronSlot_pos {g : Genesis} (h : WFArith g) : 0 < g.byronSlotLength := h.1

theorem WFArith.shelleySlot_one {g : Genesis} (h : WFArith g) : g.shelleySlotLength = 1 := h.2.2.2.2.2.1

theorem WFGenesis.agree {g : Genesis} (h : WFGenesis g) :
    g.byronKnownTime + g.shelleyKnownSlot * g.byronSlotLength = g.shelleyKnownTime := h.2

theorem clockStep_iff {g : Genesis} (h : WFArith g) {slot : Nat} (hb : slot < slotBound) :
    ClockStep g slot ↔ clockOf g (slot + 1) = clockOf g slot + slotLength g slot := by
  unfold ClockStep
  rw [wallclock_closed h (Nat.le_of_lt hb), wallclock_closed h hb]

theorem clockMono_iff {g : Genesis} (h : WFArith g) {s t : Nat} (hst : s < t)
    (hb : t < slotBound) : ClockMono g s t ↔ clockOf g s < clockOf g t := by
  unfold ClockMono
  rw [wallclock_closed h (Nat.le_of_lt (Nat.lt_trans hst hb)), wallclock_closed h (Nat.le_of_lt hb)]

/-- inside an era no `ClockAgree` is needed -/
theorem clock_step_within_era {g : Genesis} (h : WFArith g) {slot : Nat} (hb : slot < slotBound)
    (hne : slot + 1 ≠ g.shelleyKnownSlot) : ClockStep g slot := by
  rw [clockStep_iff h hb]
  unfold slotLength
  by_cases hs : slot < g.shelleyKnownSlot
  · rw [clockOf_byron (Nat.lt_of_le_of_ne hs hne), clockOf_byron hs, if_pos hs, Nat.succ_mul, Nat.add_assoc]
  · have hs' := Nat.le_of_not_lt hs
    rw [clockOf_shelley (Nat.le_succ_of_le hs'), clockOf_shelley hs', if_neg hs, h.shelleySlot_one,
      Nat.succ_sub hs', Nat.add_assoc]

theorem clock_step {g : Genesis} (h : WFGenesis g) {slot : Nat} (hb : slot < slotBound) :
    ClockStep g slot := by
  by_cases hne : slot + 1 = g.shelleyKnownSlot
  · have hs : slot < g.shelleyKnownSlot := hne ▸ Nat.lt_succ_self slot
    rw [clockStep_iff h.1 hb]
    unfold slotLength
    rw [clockOf_shelley (Nat.le_of_eq hne.symm), clockOf_byron hs, if_pos hs, ← h.agree, ← hne, Nat.sub_self,
      Nat.add_mul, Nat.one_mul, Nat.add_zero, Nat.add_assoc]
  · exact clock_step_within_era h.1 hb hne

theorem clock_mono_within_era {g : Genesis} (h : WFArith g) {s t : Nat} (hst : s < t)
    (hb : t < slotBound)
    (hera : (t < g.shelleyKnownSlot) ∨ (g.shelleyKnownSlot ≤ s)) : ClockMono g s t := by
  rw [clockMono_iff h hst hb]
  rcases hera with hera | hera
  · rw [clockOf_byron (Nat.lt_trans hst hera), clockOf_byron hera]
    exact Nat.add_lt_add_left (Nat.mul_lt_mul_of_pos_right hst h.byronSlot_pos) _
  · rw [clockOf_shelley hera, clockOf_shelley (Nat.le_trans hera (Nat.le_of_lt hst))]
    exact Nat.add_lt_add_left (Nat.sub_lt_sub_right hera hst) _

theorem clock_strict_mono {g : Genesis} (h : WFGenesis g) {s t : Nat} (hst : s < t)
    (hb : t < slotBound) : ClockMono g s t := by
  by_cases hera : (t < g.shelleyKnownSlot) ∨ (g.shelleyKnownSlot ≤ s)
  · exact clock_mono_within_era h.1 hst hb hera
  · -- `s` is a Byron slot and `t` a Shelley slot: the clock at the boundary lies between
    have hs : s < g.shelleyKnownSlot := Nat.lt_of_not_le (fun h' => hera (Or.inr h'))
    rw [clockMono_iff h.1 hst hb, clockOf_byron hs,
      clockOf_shelley (Nat.le_of_not_lt fun h' => hera (Or.inl h')), ← h.agree]
    exact Nat.lt_of_lt_of_le (Nat.add_lt_add_left (Nat.mul_lt_mul_of_pos_right hs h.1.byronSlot_pos) _)
      (Nat.le_add_right _ _)

theorem c32_partial {g : Genesis} (h : WFGenesis g) : PartialStatement g :=
  fun _ hb => ⟨(relok_iff_good h.1 hb).2, clock_step h hb, fun _ hst htb => clock_strict_mono h hst htb⟩

theorem c32_partial_mainnet : PartialStatement mainnet := c32_partial wf_mainnet
theorem c32_partial_preprod : PartialStatement preprod := c32_partial wf_preprod
theorem c32_partial_preview : PartialStatement preview := c32_partial wf_preview

theorem c32_full_of_no_byron {g : Genesis} (h : WFGenesis g) (h0 : g.shelleyKnownSlot = 0) :
    FullStatement g :=
  fun slot hb =>
    let p := c32_partial h slot hb
    ⟨p.1 (Or.inl (h0 ▸ Nat.zero_le slot)), p.2⟩

theorem c32_full_preview : FullStatement preview := c32_full_of_no_byron wf_preview rfl

theorem c32_partial_testnet :
    ∀ slot, slot < slotBound →
      (GoodSlot testnet slot → RelOK testnet slot) ∧
      (slot + 1 ≠ testnet.shelleyKnownSlot → ClockStep testnet slot) ∧
      ∀ t, slot < t → t < slotBound →
        (t < testnet.shelleyKnownSlot ∨ testnet.shelleyKnownSlot ≤ slot) → ClockMono testnet slot t :=
  fun _ hb => ⟨(relok_iff_good wf_arith_testnet hb).2, clock_step_within_era wf_arith_testnet hb,
    fun _ hst htb hera => clock_mono_within_era wf_arith_testnet hst htb hera⟩

example : absoluteSlotToRelative mainnet 4492800 = some (208, 0) := by decide
example : absoluteSlotToRelative mainnet 54605026 = some (324, 226) := by decide
example : relativeSlotToAbsolute mainnet 324 226 = some 54605026 := by decide
example : RelOK mainnet 54605026 := by decide
example : RelOK mainnet 21599 := by decide
example : RelOK mainnet 432000 := by decide           -- Byron slot ≥ one epoch inside the good region
example : GoodSlot mainnet 432000 ∧ ¬ GoodSlot mainnet 21600 := by decide
example : ClockStep mainnet 4492799 ∧ ClockStep mainnet 4492800 := by decide
example : slotToWallclock mainnet 4492799 = some 1596059071 := by decide
example : ClockMono preprod 86399 86400 := by decide
example : slotToWallclock mainnet (2 ^ 64 - 1) = none := by decide   -- `+` overflow panics
example : slotLength mainnet 0 = 20 ∧ slotLength mainnet 4492800 = 1 ∧
    epochSize mainnet 0 = 21600 ∧ epochSize mainnet 4492800 = 432000 := by decide

end PallasVerif.Props.C32
