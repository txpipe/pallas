import PallasVerif.Model.ExUnits
import PallasVerif.Proofs.Guarded
/-!
# C37 — Accepted script transactions respect the execution-unit budget

`Model/ExUnits.lean` transcribes `check_tx_ex_units` (+ `presence_of_plutus_scripts`) of Alonzo,
Babbage and Conway. The property is stated against exact sums in `Nat` (`sumMem`, `sumSteps`),
defined here independently of the accumulating loop of the model.

* `exunits_sound` — for every era, witness-set view, budget and redeemer collection in either
  encoding: verdict `ok` ⇒ `Σ mem ≤ max.mem ∧ Σ steps ≤ max.steps`. For Alonzo the hypothesis
  "the transaction has Plutus scripts" is `presence .alonzo w` (all Plutus scripts of an Alonzo
  transaction are in its witness set); for Babbage and Conway no hypothesis about scripts is needed
  (reference scripts included) because the fixed code sums whenever redeemers are present.
* `exunits_needs_redeemers` — an accepted transaction with Plutus scripts in its witness set has redeemers.
* `exunits_encoding_irrelevant` — Conway list and map forms with the same budgets get the same verdict.
* `exunits_boundary_accept` / `exunits_boundary_reject` — a budget exactly met (and below 2^64) is accepted, any excess
  of memory or of steps is rejected.

`exunits_sound` is the second half of `checkTxExUnits_total_sound`; the first, that the rule never panics, is what C33 takes
from there. A sum that leaves `u64` is the `exceeded` verdict (`checked_add`, C33 `fix:`), in every build profile.
-/
namespace PallasVerif.Props.C37
open PallasVerif.ExUnits

def sumMem (bs : List ExU) : Nat := (bs.map (·.mem)).sum
def sumSteps (bs : List ExU) : Nat := (bs.map (·.steps)).sum

theorem accumulate_exact (bs : List ExU) : ∀ (m s m' s' : Nat),
    accumulate m s bs = some (m', s') → m' = m + sumMem bs ∧ s' = s + sumSteps bs := by
  intro m s m' s' h
  fun_induction accumulate m s bs with
  | case1 => cases h; exact ⟨rfl, rfl⟩
  | case2 | case3 => cases h  -- the memory sum, the step sum leaves `u64`: `none`
  | case4 m s x xs _ _ ih =>
    obtain ⟨h1, h2⟩ := ih h
    exact ⟨h1.trans (Nat.add_assoc _ _ _), h2.trans (Nat.add_assoc _ _ _)⟩

theorem accumulate_no_overflow (bs : List ExU) : ∀ (m s : Nat),
    m + sumMem bs ≤ U64_MAX → s + sumSteps bs ≤ U64_MAX →
    accumulate m s bs = some (m + sumMem bs, s + sumSteps bs) := by
  induction bs with
  | nil => intro m s _ _; rfl
  | cons x xs ih =>
    intro m s hm hs
    have hm' : m + x.mem + sumMem xs ≤ U64_MAX := by rw [Nat.add_assoc]; exact hm
    have hs' : s + x.steps + sumSteps xs ≤ U64_MAX := by rw [Nat.add_assoc]; exact hs
    unfold accumulate
    rw [if_neg (Nat.not_lt.mpr (Nat.le_trans (Nat.le_add_right _ _) hm')),
      if_neg (Nat.not_lt.mpr (Nat.le_trans (Nat.le_add_right _ _) hs')), ih _ _ hm' hs', Nat.add_assoc, Nat.add_assoc]
    rfl

theorem sumAndCompare_total_sound (bs : List ExU) (maxMem maxSteps : Nat) :
    sumAndCompare bs maxMem maxSteps ≠ .panic ∧
    (sumAndCompare bs maxMem maxSteps = .ok → sumMem bs ≤ maxMem ∧ sumSteps bs ≤ maxSteps) := by
  unfold sumAndCompare
  cases hacc : accumulate 0 0 bs with
  | none => exact ⟨nofun, nofun⟩
  | some p =>
    obtain ⟨m, s⟩ := p
    have := accumulate_exact bs 0 0 m s hacc
    refine ⟨ite_ne nofun nofun, fun h => ?_⟩
    have hc := (of_ite_eq h nofun).1
    simp only [Bool.or_eq_true, decide_eq_true_eq, not_or, Nat.not_lt] at hc
    omega

theorem checkTxExUnits_total_sound (era : Era) (w : Wits) (maxMem maxSteps : Nat) :
    checkTxExUnits era w maxMem maxSteps ≠ .panic ∧
    (checkTxExUnits era w maxMem maxSteps = .ok → ∀ rs, w.redeemers = some rs →
      (era = .alonzo → presence .alonzo w = true) → sumMem rs.budgets ≤ maxMem ∧ sumSteps rs.budgets ≤ maxSteps) := by
  cases hr : w.redeemers with
  | none => cases era <;> simp only [checkTxExUnits, hr] <;> exact ⟨ite_ne nofun nofun, fun _ _ h => nomatch h⟩
  | some rs =>
    have hs := sumAndCompare_total_sound rs.budgets maxMem maxSteps
    cases era <;> simp only [checkTxExUnits, hr]
    · exact ⟨ite_ne hs.1 nofun, fun h _ e hp => by cases e; rw [if_pos (hp trivial)] at h; exact hs.2 h⟩
    all_goals exact ⟨hs.1, fun h _ e _ => by cases e; exact hs.2 h⟩

/-- **The property.** -/
theorem exunits_sound (era : Era) (w : Wits) (maxMem maxSteps : Nat) (rs : Redeemers)
    (hacc : checkTxExUnits era w maxMem maxSteps = .ok)
    (hred : w.redeemers = some rs)
    (hplutus : era = .alonzo → presence .alonzo w = true) :
    sumMem rs.budgets ≤ maxMem ∧ sumSteps rs.budgets ≤ maxSteps :=
  (checkTxExUnits_total_sound era w maxMem maxSteps).2 hacc rs hred hplutus

theorem exunits_needs_redeemers (era : Era) (w : Wits) (maxMem maxSteps : Nat)
    (hacc : checkTxExUnits era w maxMem maxSteps = .ok) (hp : presence era w = true) :
    ∃ rs, w.redeemers = some rs := by
  cases hr : w.redeemers with
  | some rs => exact ⟨rs, rfl⟩
  | none =>
    cases era <;> simp [checkTxExUnits, hp, hr] at hacc

/-- by construction of the model: `Redeemers.budgets` reads both forms alike, as the two `match` arms of the code do -/
theorem exunits_encoding_irrelevant (era : Era) (v1 v2 v3 : Option Nat) (rs : List (Key × ExU))
    (maxMem maxSteps : Nat) :
    checkTxExUnits era ⟨v1, v2, v3, some (.list rs)⟩ maxMem maxSteps =
    checkTxExUnits era ⟨v1, v2, v3, some (.map rs)⟩ maxMem maxSteps := by
  cases era <;> rfl

theorem exunits_boundary_accept (era : Era) (w : Wits) (rs : Redeemers)
    (hred : w.redeemers = some rs)
    (hm : sumMem rs.budgets ≤ U64_MAX) (hs : sumSteps rs.budgets ≤ U64_MAX) :
    checkTxExUnits era w (sumMem rs.budgets) (sumSteps rs.budgets) = .ok := by
  have hacc := accumulate_no_overflow rs.budgets 0 0 (by omega) (by omega)
  simp only [Nat.zero_add] at hacc
  have hc : sumAndCompare rs.budgets (sumMem rs.budgets) (sumSteps rs.budgets) = .ok := by
    simp [sumAndCompare, hacc]
  cases era with
  | alonzo =>
    simp only [checkTxExUnits, hred]
    split <;> simp [hc]
  | babbage | conway => simp only [checkTxExUnits, hred, hc]

theorem exunits_boundary_reject (era : Era) (w : Wits) (rs : Redeemers) (maxMem maxSteps : Nat)
    (hred : w.redeemers = some rs) (hplutus : era = .alonzo → presence .alonzo w = true)
    (hover : maxMem < sumMem rs.budgets ∨ maxSteps < sumSteps rs.budgets) :
    checkTxExUnits era w maxMem maxSteps ≠ .ok := by
  intro h
  have := exunits_sound era w maxMem maxSteps rs h hred hplutus
  omega

private def two : List (Key × ExU) := [(⟨0, 0⟩, ⟨700, 900⟩), (⟨1, 0⟩, ⟨300, 100⟩)]
example : checkTxExUnits .conway ⟨none, none, some 1, some (.map two)⟩ 1000 1000 = .ok := by decide
example : checkTxExUnits .conway ⟨none, none, some 1, some (.map two)⟩ 999 1000 = .exceeded := by decide
example : checkTxExUnits .conway ⟨none, none, none, some (.list two)⟩ 1000 999 = .exceeded := by decide
example : checkTxExUnits .babbage ⟨none, some 2, none, some (.list two)⟩ 1 1 = .exceeded := by decide
example : checkTxExUnits .alonzo ⟨some 1, none, none, some (.list two)⟩ 1000 1000 = .ok := by decide
example : checkTxExUnits .alonzo ⟨some 1, none, none, none⟩ 1000 1000 = .redeemerMissing := by decide
example : checkTxExUnits .alonzo ⟨some 0, none, none, some (.list two)⟩ 1 1 = .ok := by decide
example : checkTxExUnits .conway ⟨none, none, some 1,
    some (.list [(⟨0, 0⟩, ⟨U64_MAX, 1⟩), (⟨0, 1⟩, ⟨1, 1⟩)])⟩ U64_MAX U64_MAX = .exceeded := by decide
example : presence .alonzo ⟨some 1, none, none, none⟩ = true := by decide

end PallasVerif.Props.C37
