import PallasVerif.Proofs.NetProgress
import PallasVerif.Proofs.ByronTotal
import PallasVerif.Proofs.PlutusDataDecSound
import PallasVerif.Gen.PanicSitesC09
/-!
# C09 — Ledger and network decoders never panic on untrusted bytes  (level: `other`)

What is *proved* here is a slice; the property as a whole is a statement about ~10 kLoC of Rust
decoders and is decided by search (streams `msgfuzz`, `artfuzz`) plus an audited inventory:

* **network half, modelled**: every mini-protocol message decoder of both stacks is a total Lean
  function (`Model/NetMsg.lean`, outcomes `ok | eoi | err`, no panic outcome) whose result —
  value, end-of-input, other error — is compared with `minicbor::decode::<Message>` on random bytes
  and structure-aware mutations (stream `msgfuzz`). The loops of that model carry fuel only as a
  termination device: `decBreak_fuel_irrelevant` and `skipLoop_fuel_irrelevant`, instantiated below as
  the `*_never_out_of_fuel` theorems (the chunk loop of indefinite strings is an instance of `decBreak`'s),
  show that the fuel the model passes (`length + 1`) is never exhausted, so no outcome of the model is an
  artefact of the totalisation. The only arithmetic in those
  decoders (`PeerAddress::V6`: four `u32` words shifted into a `u128`) cannot overflow
  (`peeraddress_bits_fit_u128`).
* **panic inventory**: `Gen/PanicSitesC09.lean` is regenerated on every run from the anchored
  hand-written decoder files (`lib/scan_panics_c09.py`: unwrap / expect / panic!-family / assert /
  indexing / slicing / copy_from_slice / arithmetic); `panic_sites_all_audited` holds only while every
  site has an entry in the audited allow-list `lib/panic_audit_C09.json` — a new site breaks the
  check until it is audited.
* **further modelled decoders** (stream `decfuzz`): the `pallas-codec` wrappers (C03's model),
  `PlutusData` (C07's, exact: strict parse + tree) and Byron / Shelley addresses (C19's / C18's) are
  compared with the real decoders on mutated bytes; `wrappers_never_diverge`,
  `plutusdata_decoder_is_total_and_exact`, `byron_decoders_never_diverge` state their totality.
* **ledger half, not modelled**: blocks, transactions, headers, outputs, addresses and the
  node-to-client payload decoders are exercised by `artfuzz` (mutations of every artefact of
  `test_data`), where the Lean side only states the demanded outcome class.
-/
namespace PallasVerif.Props.C09
open PallasVerif.Cbor PallasVerif.NetCodec PallasVerif.NetMsg

/-- every syntactic panic site of the anchored decoder files has been audited -/
theorem panic_sites_all_audited : Gen.PanicSitesC09.unaudited = [] := by decide

/-- the scanner read every anchored file (a moved / renamed file breaks the check) -/
theorem all_anchored_files_scanned : Gen.PanicSitesC09.filesScanned = Gen.PanicSitesC09.filesExpected := by decide

/-- the inventory is not empty by accident -/
theorem inventory_nonempty : 50 ≤ Gen.PanicSitesC09.sites.length := by decide

/-- `PeerAddress::V6` decoding: `(w1 as u128) << 96 | (w2 as u128) << 64 | (w3 as u128) << 32 | w4`
    stays below `2^128` for all `u32` words (the shifts lose nothing, the `|` is a sum) -/
theorem peeraddress_bits_fit_u128 (w1 w2 w3 w4 : Nat) (h1 : w1 ≤ U32MAX) (h2 : w2 ≤ U32MAX) (h3 : w3 ≤ U32MAX) (h4 : w4 ≤ U32MAX) :
    w1 * 2 ^ 96 + w2 * 2 ^ 64 + w3 * 2 ^ 32 + w4 < 2 ^ 128 := by
  unfold U32MAX at *; omega

/-- whatever bytes arrive, a decoded peer address is within the ranges of its Rust type
    (`Ipv4Addr::from(u32)`, `Ipv6Addr::from_bits(u128)`, `Port`) -/
theorem decoded_peeraddress_in_range (portMax : Nat) (bs r : Bytes) (p : PeerAddress)
    (h : PeerAddress.dec portMax bs = .ok p r) : p.valid portMax = true := by
  unfold PeerAddress.dec at h
  obtain ⟨label, r0, _, h⟩ := Res.bind_eq_ok h
  split at h
  · obtain ⟨ip, r1, h1, h⟩ := Res.bind_eq_ok h
    obtain ⟨port, r2, h2, h⟩ := Res.bind_eq_ok h
    simp only [Res.ok.injEq] at h
    rw [← h.1]
    have := uMax_ok_le h1
    have := uMax_ok_le h2
    unfold U32MAX at *
    simp [PeerAddress.valid, *]
  · obtain ⟨w1, r1, h1, h⟩ := Res.bind_eq_ok h
    obtain ⟨w2, r2, h2, h⟩ := Res.bind_eq_ok h
    obtain ⟨w3, r3, h3, h⟩ := Res.bind_eq_ok h
    obtain ⟨w4, r4, h4, h⟩ := Res.bind_eq_ok h
    obtain ⟨port, r5, h5, h⟩ := Res.bind_eq_ok h
    simp only [Res.ok.injEq] at h
    rw [← h.1]
    have b1 := uMax_ok_le h1
    have b2 := uMax_ok_le h2
    have b3 := uMax_ok_le h3
    have b4 := uMax_ok_le h4
    have := uMax_ok_le h5
    have := peeraddress_bits_fit_u128 w1 w2 w3 w4 b1 b2 b3 b4
    simp [PeerAddress.valid, *]
  · simp at h

/-! ## fuel is a proof device, not a source of outcomes -/

/-- `Decoder::skip` as modelled never exhausts its fuel: more fuel changes nothing -/
theorem skip_never_out_of_fuel (bs : Bytes) (fuel : Nat) (h : bs.length < fuel) : skip bs = skipLoop fuel 1 0 [] bs :=
  skipLoop_fuel_irrelevant 1 0 [] (Nat.lt_succ_self _) h

/-- the chunk loop of indefinite strings never exhausts its fuel -/
theorem skipChunks_never_out_of_fuel (m f1 f2 : Nat) (bs : Bytes) (h1 : bs.length < f1) (h2 : bs.length < f2) :
    skipChunks m f1 bs = skipChunks m f2 bs := by
  rw [skipChunks_eq, skipChunks_eq, decBreak_fuel_irrelevant (progress_chunk m) h1 h2]

/-- indefinite arrays of `AnyCbor` (Leios votes / transactions): the element loop never exhausts its fuel -/
theorem vec_anycbor_never_out_of_fuel (f1 f2 : Nat) (bs : Bytes) (h1 : bs.length < f1) (h2 : bs.length < f2) :
    decBreak anyCbor f1 bs = decBreak anyCbor f2 bs :=
  decBreak_fuel_irrelevant progress_anyCbor h1 h2

theorem vec_u64_never_out_of_fuel (f1 f2 : Nat) (bs : Bytes) (h1 : bs.length < f1) (h2 : bs.length < f2) :
    decBreak u64 f1 bs = decBreak u64 f2 bs :=
  decBreak_fuel_irrelevant progress_u64 h1 h2

/-- every decoder that sits under an indefinite array or map in the message codecs (tx ids, tx
    bodies, peer addresses, DMQ messages, points, bitmap entries) consumes input when it succeeds,
    so the element loop never exhausts its fuel, whatever the bytes -/
theorem message_element_loops_never_out_of_fuel (f1 f2 : Nat) (bs : Bytes) (h1 : bs.length < f1) (h2 : bs.length < f2) (portMax : Nat) :
    decBreak TxIdAndSize.dec f1 bs = decBreak TxIdAndSize.dec f2 bs ∧
    decBreak EraTxId.dec f1 bs = decBreak EraTxId.dec f2 bs ∧
    decBreak EraTx.dec f1 bs = decBreak EraTx.dec f2 bs ∧
    decBreak (PeerAddress.dec portMax) f1 bs = decBreak (PeerAddress.dec portMax) f2 bs ∧
    decBreak DmqMsg.dec f1 bs = decBreak DmqMsg.dec f2 bs ∧
    decBreak Point.dec f1 bs = decBreak Point.dec f2 bs ∧
    decBreak (pair u16 u64) f1 bs = decBreak (pair u16 u64) f2 bs :=
  ⟨decBreak_fuel_irrelevant progress_txIdAndSize h1 h2,
   decBreak_fuel_irrelevant progress_eraTxId h1 h2,
   decBreak_fuel_irrelevant progress_eraTx h1 h2,
   decBreak_fuel_irrelevant (progress_peerAddress portMax) h1 h2,
   decBreak_fuel_irrelevant progress_dmqMsg h1 h2,
   decBreak_fuel_irrelevant progress_point h1 h2,
   decBreak_fuel_irrelevant (progress_pair (progress_uMax _) progress_u64.noGrow) h1 h2⟩

/-! ## further hand-written decoders inside the model (stream `decfuzz`)

The models of C03 (`pallas-codec` wrappers over the minicbor primitives), C07 (`PlutusData`) and
C19 / C18 (Byron and Shelley addresses) are run by C09 on random bytes and structure-aware mutants and
their outcome (value / error class) is compared with the real decoders. What is proved about them
here is that they are *total with the implementation's outcome classes only*: the single
model-only outcome, `diverge` (a fuelled loop ran dry), is unreachable on every input. -/

section
open PallasVerif.Minicbor PallasVerif.Wrappers

/-- **wrappers, generic**: for any element decoder that consumes input when it succeeds and never
    diverges, the array / map / set / wrap / nullable / keep-raw wrappers around it never diverge —
    hence every nesting of them -/
theorem wrappers_never_diverge {α β : Type} (a : Codec α) (b : Codec β)
    (ca : Consumes a.dec) (cb : Consumes b.dec) (na : NoDiverge a.dec) (nb : NoDiverge b.dec) :
    NoDiverge (vec a.dec) ∧ NoDiverge (MaybeIndef.dec a) ∧ NoDiverge (KVP.dec a b) ∧ NoDiverge (Set.dec a) ∧
    NoDiverge (CborWrap.dec a) ∧ NoDiverge (ZeroOrOne.dec a) ∧ NoDiverge (OPP.dec a) ∧ NoDiverge (Nullable.dec a) ∧
    NoDiverge (KeepRaw.dec a) ∧ Consumes (MaybeIndef.dec a) ∧ Consumes (KVP.dec a b) :=
  have ha := takes_iff.mpr ⟨ca, na⟩
  have hb := takes_iff.mpr ⟨cb, nb⟩
  ⟨.of_takes (vec_takes ha), .of_takes (maybeIndef_takes a ha), .of_takes (kvp_takes a b ha hb), .of_takes (set_takes a ha),
   .of_takes (cborWrap_takes a ha), .of_takes (zeroOrOne_takes a ha), .of_takes (opp_takes a ha), .of_takes (nullable_takes a ha),
   .of_takes (keepRaw_takes a ha), .of_takes (maybeIndef_takes a ha), .of_takes (kvp_takes a b ha hb)⟩

/-- the leaves: `AnyUInt`, `PositiveCoin`, `AnyCbor` (= `skip`), integers, byte strings -/
theorem wrapper_leaves_never_diverge :
    NoDiverge AnyUInt.dec ∧ Consumes AnyUInt.dec ∧ NoDiverge PositiveCoin.dec ∧ NoDiverge AnyCbor.dec ∧ Consumes AnyCbor.dec ∧
    NoDiverge Minicbor.u64 ∧ NoDiverge Minicbor.bytes ∧ NoDiverge Minicbor.skip :=
  ⟨.of_takes anyUInt_takes, .of_takes anyUInt_takes, .of_takes positiveCoin_takes, .of_takes anyCbor_takes,
   .of_takes anyCbor_takes, .of_takes (uintN_takes 64), .of_takes bytes_takes, .of_takes skip_takes⟩

/-- an instance at a nesting the stream exercises: `KeepRaw<KeyValuePairs<AnyUInt, MaybeIndefArray<Nullable<AnyUInt>>>>` -/
example : NoDiverge (KeepRaw.dec (cKVP cAnyUInt (cMaybeIndef (cNullable cAnyUInt)))) :=
  .of_takes (keepRaw_takes _ (kvp_takes _ _ anyUInt_takes (maybeIndef_takes _ (nullable_takes _ anyUInt_takes))))
end

/-- **PlutusData**: the byte-level decoder model has no fuel artefact at all — it accepts exactly
    when the strict parser finds a first item that the tree decoder maps to a value (C07's
    `decodeBytes_iff`), so its outcome on any bytes is determined by `parseItem` and `ofItem` -/
theorem plutusdata_decoder_is_total_and_exact (bs : Bytes) (d : PlutusData.PData) (r : Bytes) :
    PlutusData.Dec.decodeBytes bs = some (d, r) ↔ ∃ i : Item, parseItem bs = some (i, r) ∧ PlutusData.ofItem i = some d :=
  PlutusData.Dec.decodeBytes_iff bs d r

/-- **Byron addresses**: neither `ByronAddress`'s nor `AddressPayload`'s derived field loop ever runs
    out of fuel, so `from_bytes` / `decode` as modelled report implementation error classes only -/
theorem byron_decoders_never_diverge :
    Minicbor.NoDiverge Byron.ByronAddress.dec ∧ Minicbor.NoDiverge Byron.AddressPayload.dec ∧
    (∀ bs, Byron.fromBytes bs ≠ .error (.cbor .diverge)) := by
  refine ⟨Byron.byronAddress_nd, Byron.addressPayload_nd, fun bs h => ?_⟩
  unfold Byron.fromBytes at h
  split at h
  · rename_i e he
    simp only [Except.error.injEq, Byron.AddrErr.cbor.injEq] at h
    subst h
    exact Byron.byronAddress_nd _ he
  · split at h
    · simp at h
    · cases h

example : PeerAddress.dec U16MAX [0x86, 0x01, 0x1a, 0x20, 0x01, 0x0d, 0xb8, 0x00, 0x00, 0x01, 0x19, 0x0b, 0xb9] =
    .ok (.v6 0x20010db8000000000000000000000001 3001) [] := by decide
/-- a length field blown up to 2^64-1 is an error of the model, not a divergence -/
example : (TxSubmission.Msg.dec [0x82, 0x01, 0x9b, 0xff, 0xff, 0xff, 0xff, 0xff, 0xff, 0xff, 0xff]) = .eoi := by decide
example : skip [0x9f, 0x82, 0x01, 0x9f, 0xff, 0xff] = .ok () [] := by decide

end PallasVerif.Props.C09
