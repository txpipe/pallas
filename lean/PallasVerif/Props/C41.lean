import PallasVerif.Model.TxSign
import PallasVerif.Proofs.TxBuild
/-!
# C41 — Signing keeps the witness set in step with the signature map

`Model/TxSign.lean` transcribes `BuiltTransaction::{sign, add_signature, remove_signature}` as the
code stands after the commit (`fix: txbuilder keeps one witness per key and allows removing the
last signature`). The property is proved for every history of operations, any key / signature /
body / id types and any signer, against the index-free specification `specRun`; Ed25519 verification
against the id is the instance of `witnesses_valid`'s predicate that the harness evaluates.

The code *before* that commit is kept below (`Unfixed`) with the proved negations at the witnesses
of DESIGN §6 #26: two witnesses for one key after signing twice, a panic when the last or an absent
signature is removed.
-/
namespace PallasVerif.Props.C41
open PallasVerif.TxSign

variable {K S B H SK : Type} [DecidableEq K]

def keys (l : List (K × S)) : List K := l.map (·.1)

def Agrees (m : List (K × S)) (f : K → Option S) : Prop := ∀ k s, (k, s) ∈ m ↔ f k = some s

def upd (f : K → Option S) (k : K) (v : Option S) : K → Option S := fun x => if x = k then v else f x

/-- what one operation does to the content (specification, no lists) -/
def specStep (pubOf : SK → K) (sgn : SK → H → S) (id : H) (f : K → Option S) : Op SK K S → K → Option S
  | .sign sk => upd f (pubOf sk) (some (sgn sk id))
  | .add pk sig => upd f pk (some sig)
  | .remove pk => upd f pk none

def specRun (pubOf : SK → K) (sgn : SK → H → S) (id : H) (f : K → Option S) (ops : List (Op SK K S)) : K → Option S :=
  ops.foldl (specStep pubOf sgn id) f

/-- invariant: one entry per key on both sides, both sides hold exactly `f` -/
def Inv (t : Built K S B H) (f : K → Option S) : Prop :=
  (keys (t.wits.getD [])).Nodup ∧ (keys (t.sigs.getD [])).Nodup ∧
  Agrees (t.wits.getD []) f ∧ Agrees (t.sigs.getD []) f

/-! ## list lemmas: the signature map is the builder's association list (`mapInsert`, `mapRemove` and
    `keys` unfold to `alInsert`, `alErase` and `map (·.1)`, so the two key lemmas of `Proofs/TxBuild` apply
    as they stand) -/

/-- pushing at the end instead of the front gives the same entries -/
theorem nodup_push (m : List (K × S)) (k : K) (s : S) (h : (keys m).Nodup) :
    (keys (m.filter (fun e => decide (e.1 ≠ k)) ++ [(k, s)])).Nodup :=
  ((List.perm_append_singleton (k, s) _).map _).nodup_iff.2 (Proofs.TxBuild.nodup_keys_insert m k s h)

/-- a list that holds `v` under `k` and the entries of `m` under every other key: what `insert`, `retain` + `push` and
    `remove` each leave, for the value they write (`none`: they remove) -/
theorem agrees_upd (m m' : List (K × S)) (f : K → Option S) (k : K) (v : Option S) (h : Agrees m f)
    (hm : ∀ e, e ∈ m' ↔ (e.1 = k ∧ some e.2 = v) ∨ e ∈ m.filter (fun e => decide (e.1 ≠ k))) :
    Agrees m' (upd f k v) := by
  intro x s
  simp only [hm, List.mem_filter, upd, decide_eq_true_eq]
  by_cases hx : x = k
  · simp [hx, eq_comm]
  · simp [hx, h x s]

theorem fromVec_getD {α : Type} (v : List α) : (fromVec v).getD [] = v := by
  unfold fromVec
  cases v <;> simp

theorem addWitness_inv (t : Built K S B H) (f : K → Option S) (pk : K) (sig : S) (h : Inv t f) :
    ∃ t', addWitness t pk sig = .ok t' ∧ t'.body = t.body ∧ t'.id = t.id ∧ Inv t' (upd f pk (some sig)) := by
  obtain ⟨hw, hs, aw, as⟩ := h
  have hne : ∀ v : List (K × S), fromVec (v ++ [(pk, sig)]) = some (v ++ [(pk, sig)]) := fun v => by
    simp [fromVec]
  simp only [addWitness, hne]
  exact ⟨_, rfl, rfl, rfl, nodup_push _ pk sig hw, Proofs.TxBuild.nodup_keys_insert _ pk sig hs,
    agrees_upd _ _ f pk _ aw (by simp [or_comm, Prod.ext_iff]), agrees_upd _ _ f pk _ as (by simp [mapInsert, Prod.ext_iff])⟩

theorem removeSignature_inv (t : Built K S B H) (f : K → Option S) (pk : K) (h : Inv t f) :
    ∃ t', removeSignature t pk = .ok t' ∧ t'.body = t.body ∧ t'.id = t.id ∧ Inv t' (upd f pk none) := by
  obtain ⟨hw, hs, aw, as⟩ := h
  refine ⟨_, rfl, rfl, rfl, ?_⟩
  simp only [Inv, fromVec_getD, Option.getD_some, mapRemove]
  exact ⟨Proofs.TxBuild.nodup_keys_erase _ pk hw, Proofs.TxBuild.nodup_keys_erase _ pk hs, agrees_upd _ _ f pk none aw (by simp),
    agrees_upd _ _ f pk none as (by simp)⟩

theorem step_inv (pubOf : SK → K) (sgn : SK → H → S) (t : Built K S B H) (f : K → Option S)
    (op : Op SK K S) (h : Inv t f) :
    ∃ t', step pubOf sgn t op = .ok t' ∧ t'.body = t.body ∧ t'.id = t.id ∧
      Inv t' (specStep pubOf sgn t.id f op) := by
  cases op with
  | sign sk => exact addWitness_inv t f (pubOf sk) (sgn sk t.id) h
  | add pk sig => exact addWitness_inv t f pk sig h
  | remove pk => exact removeSignature_inv t f pk h

/-- Every history of `sign` / `add_signature` / `remove_signature` runs to completion without a
    panic, leaves body and id alone, keeps one entry per key in the witness list and in the map,
    and both hold exactly the content the history specifies. -/
theorem sign_inv (pubOf : SK → K) (sgn : SK → H → S) (ops : List (Op SK K S)) (t : Built K S B H)
    (f : K → Option S) (h : Inv t f) :
    ∃ t', run pubOf sgn t ops = .ok t' ∧ t'.body = t.body ∧ t'.id = t.id ∧
      Inv t' (specRun pubOf sgn t.id f ops) := by
  induction ops generalizing t f with
  | nil => exact ⟨t, rfl, rfl, rfl, h⟩
  | cons op ops ih =>
    obtain ⟨t1, e1, b1, i1, inv1⟩ := step_inv pubOf sgn t f op h
    obtain ⟨t2, e2, b2, i2, inv2⟩ := ih t1 _ inv1
    refine ⟨t2, by simp only [run, e1, e2], b2.trans b1, i2.trans i1, ?_⟩
    simpa [specRun, i1] using inv2

omit [DecidableEq K] in
theorem fresh_inv (body : B) (id : H) : Inv (fresh (K := K) (S := S) body id) (fun _ => none) := by
  simp [Inv, fresh, keys, Agrees]

/-- the witness list and the signature map hold exactly the same entries, one per key, after
    every history on a built transaction -/
theorem sign_in_step (pubOf : SK → K) (sgn : SK → H → S) (ops : List (Op SK K S)) (body : B) (id : H) :
    ∃ t', run pubOf sgn (fresh body id) ops = .ok t' ∧ t'.body = body ∧ t'.id = id ∧
      (keys (t'.wits.getD [])).Nodup ∧ (∀ e, e ∈ t'.wits.getD [] ↔ e ∈ t'.sigs.getD []) ∧
      (∀ k s, (k, s) ∈ t'.wits.getD [] ↔ specRun pubOf sgn id (fun _ => none) ops k = some s) := by
  obtain ⟨t', e, b, i, hw, _, aw, as⟩ := sign_inv pubOf sgn ops (fresh body id) (fun _ => none) (fresh_inv body id)
  refine ⟨t', e, b, i, hw, ?_, ?_⟩
  · intro ⟨k, s⟩; rw [aw k s, as k s]
  · exact aw

theorem fromVec_ne_some_nil {α : Type} (v : List α) : fromVec v ≠ some [] := by
  cases v <;> exact fun h => nomatch h

theorem addWitness_wits_ne (t t' : Built K S B H) (pk : K) (sig : S) (h : addWitness t pk sig = .ok t') :
    t'.wits ≠ some [] := by
  simp only [addWitness] at h
  split at h
  · next w hw => cases h; exact hw ▸ fromVec_ne_some_nil _
  · cases h

/-- an encoded witness set is never empty: removing the last signature yields *no* witness field -/
theorem wits_never_empty (pubOf : SK → K) (sgn : SK → H → S) (t : Built K S B H) (op : Op SK K S)
    (t' : Built K S B H) (h : step pubOf sgn t op = .ok t') : t'.wits ≠ some [] := by
  cases op with
  | sign _ | add _ _ => exact addWitness_wits_ne t t' _ _ h
  | remove pk => cases h; exact fromVec_ne_some_nil _

/-- the signature an operation writes, if any, satisfies `P` -/
def OpOk (pubOf : SK → K) (sgn : SK → H → S) (id : H) (P : K → S → Prop) : Op SK K S → Prop
  | .sign sk => P (pubOf sk) (sgn sk id)
  | .add pk sig => P pk sig
  | .remove _ => True

theorem upd_valid (P : K → S → Prop) (f : K → Option S) (k : K) (v : Option S)
    (hv : ∀ s, v = some s → P k s) (hf : ∀ k s, f k = some s → P k s) :
    ∀ k' s, upd f k v k' = some s → P k' s := by
  intro k' s
  unfold upd
  split
  · next e => exact e ▸ hv s
  · exact hf k' s

theorem specRun_valid (pubOf : SK → K) (sgn : SK → H → S) (id : H) (P : K → S → Prop)
    (ops : List (Op SK K S)) (f : K → Option S)
    (hf : ∀ k s, f k = some s → P k s) (hops : ∀ op ∈ ops, OpOk pubOf sgn id P op) :
    ∀ k s, specRun pubOf sgn id f ops k = some s → P k s := by
  induction ops generalizing f with
  | nil => exact hf
  | cons op ops ih =>
    simp only [specRun, List.foldl_cons]
    apply ih
    · have hop := hops op (List.mem_cons_self ..)
      cases op with
      | sign _ | add _ _ => exact upd_valid P f _ _ (fun s h => Option.some.inj h ▸ hop) hf
      | remove pk => exact upd_valid P f _ _ (fun s h => nomatch h) hf
    · exact fun op' h' => hops op' (List.mem_cons_of_mem _ h')

/-- if the signer produces valid signatures of the id and every out-of-band signature handed to
    `add_signature` is valid, then after any history every witness is a valid signature of the id -/
theorem witnesses_valid (pubOf : SK → K) (sgn : SK → H → S) (valid : K → H → S → Prop)
    (hsgn : ∀ sk h, valid (pubOf sk) h (sgn sk h))
    (ops : List (Op SK K S)) (body : B) (id : H)
    (hadd : ∀ pk sig, Op.add pk sig ∈ ops → valid pk id sig) :
    ∃ t', run pubOf sgn (fresh body id) ops = .ok t' ∧ ∀ k s, (k, s) ∈ t'.wits.getD [] → valid k id s := by
  obtain ⟨t', e, _, _, _, _, hspec⟩ := sign_in_step pubOf sgn ops body id
  refine ⟨t', e, fun k s hm => ?_⟩
  refine specRun_valid pubOf sgn id (fun k s => valid k id s) ops (fun _ => none) (by simp) ?_ k s ((hspec k s).1 hm)
  intro op hop
  cases op with
  | sign sk => exact hsgn sk id
  | add pk sig => exact hadd pk sig hop
  | remove pk => trivial

namespace Unfixed

/-- `sign` / `add_signature` before the commit: the witness is pushed without removing one already there for the key -/
def addWitness (t : Built K S B H) (pk : K) (sig : S) : Res (Built K S B H) :=
  let newSigs := mapInsert (t.sigs.getD []) pk sig
  let v := t.wits.getD [] ++ [(pk, sig)]
  match fromVec v with
  | some w => .ok { t with sigs := some newSigs, wits := some w }
  | none => .panic

/-- `remove_signature` before the commit: `Some(NonEmptySet::from_vec(v).unwrap())` -/
def removeSignature (t : Built K S B H) (pk : K) : Res (Built K S B H) :=
  let newSigs := mapRemove (t.sigs.getD []) pk
  let v := (t.wits.getD []).filter (fun w => decide (w.1 ≠ pk))
  match fromVec v with
  | some w => .ok { t with sigs := some newSigs, wits := some w }
  | none => .panic

theorem sign_twice_duplicates :
    ∃ t1 t2 : Built Nat Nat Unit Unit, addWitness (fresh () ()) 7 1 = .ok t1 ∧ addWitness t1 7 1 = .ok t2 ∧
      ¬ (keys (t2.wits.getD [])).Nodup ∧ (t2.sigs.getD []).length = 1 :=
  ⟨_, _, rfl, rfl, by decide, by decide⟩

theorem remove_last_panics :
    ∃ t1 : Built Nat Nat Unit Unit, addWitness (fresh () ()) 7 1 = .ok t1 ∧
      (match removeSignature t1 7 with | .panic => True | .ok _ => False) :=
  ⟨_, rfl, by simp [removeSignature, fromVec, fresh]⟩

theorem remove_absent_panics :
    (match removeSignature (fresh (K := Nat) (S := Nat) () ()) 7 with | .panic => True | .ok _ => False) := by
  simp [removeSignature, fromVec, fresh]

end Unfixed

def t0 : Built Nat Nat Unit Unit := fresh () ()
def exOps : List (Op Nat Nat Nat) := [.sign 1, .add 2 20, .sign 1, .remove 2, .remove 9, .add 1 11, .remove 1]

def got (r : Res (Built Nat Nat Unit Unit)) : Option (Option (List (Nat × Nat)) × Option (List (Nat × Nat))) :=
  match r with | .ok t => some (t.wits, t.sigs) | .panic => none
example : got (run (fun sk => sk) (fun sk _ => sk * 10) t0 (exOps.take 3))
    = some (some [(2, 20), (1, 10)], some [(1, 10), (2, 20)]) := by decide
example : got (run (fun sk => sk) (fun sk _ => sk * 10) t0 exOps) = some (none, some []) := by decide
example : specRun (fun sk => sk) (fun sk (_ : Unit) => sk * 10) () (fun _ => none) (exOps.take 6) 1 = some 11 := by decide
example : OpOk (K := Nat) (fun sk => sk) (fun sk (_ : Unit) => sk * 10) () (fun k s => s = k * 10) (.sign 3 : Op Nat Nat Nat) := by
  simp [OpOk]

end PallasVerif.Props.C41
