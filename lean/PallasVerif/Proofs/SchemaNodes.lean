import PallasVerif.Proofs.SchemaWire
/-! One lemma per schema node: `Good` of the parts gives `Good` of the node. Each proof takes the parts'
    `Good` apart into its six components `⟨wf, kind, v', decode, strip, exact if nr⟩` and rebuilds them for
    the node; a leaf decodes to the very value encoded, so `Good.leaf` supplies all six, for any `nr`. Most proofs
    enter through the arms of the node's encoder (`fun_cases`); the arms that return `none` have nothing to show. -/
namespace PallasVerif.Schema
open PallasVerif.Cbor

theorem good_uint (b : Nat) (nr : Prop) (hb : b = 8 ∨ b = 16 ∨ b = 32 ∨ b = 64) :
    Good (encUInt b) (decUInt b) [.u8, .u16, .u32, .u64] nr := by
  apply Good.leaf; intro v it
  fun_cases encUInt b v with
  | case1 n hn =>
    rintro ⟨⟩
    have h64 : n < 2 ^ 64 := by rcases hb with rfl | rfl | rfl | rfl <;> omega
    exact ⟨mkUInt_wf n, mkUInt_typeOf n, by simp [decUInt, mkUInt_uint n h64, hn]⟩
  | _ => nofun

theorem good_sint (b : Nat) (nr : Prop) (hb : b = 8 ∨ b = 16 ∨ b = 32 ∨ b = 64) :
    Good (encSInt b) (decSInt b) (.int :: intKinds) nr := by
  apply Good.leaf; intro v it
  fun_cases encSInt b v with
  | case1 i hn =>
    rintro ⟨⟩
    have hr := intInBits_range b i hb hn
    exact ⟨mkInt_wf i, mkInt_typeOf i,
      by simp [decSInt, mkInt_int i (by omega) (by omega), hn]⟩
  | _ => nofun

theorem good_int (nr : Prop) : Good encInt decInt (.int :: intKinds) nr := by
  apply Good.leaf; intro v it
  fun_cases encInt v with
  | case1 i h =>
    rintro ⟨⟩
    simp only [Bool.and_eq_true, decide_eq_true_eq] at h
    exact ⟨mkInt_wf i, mkInt_typeOf i, by simp [decInt, mkInt_int i h.1 h.2]⟩
  | _ => nofun

theorem good_nzint (nr : Prop) : Good encNzInt decNzInt (.int :: intKinds) nr := by
  apply Good.leaf; intro v it
  fun_cases encNzInt v with
  | case1 i h =>
    rintro ⟨⟩
    simp only [Bool.and_eq_true, decide_eq_true_eq] at h
    have hr := intInBits_range 64 i (by simp) h.1
    exact ⟨mkInt_wf i, mkInt_typeOf i,
      by simp [decNzInt, mkInt_int i (by omega) (by omega), h.1, h.2]⟩
  | _ => nofun

theorem good_posCoin (nr : Prop) : Good encPosCoin decPosCoin [.u8, .u16, .u32, .u64] nr := by
  apply Good.leaf; intro v it
  fun_cases encPosCoin v with
  | case1 n h =>
    rintro ⟨⟩
    exact ⟨mkUInt_wf n, mkUInt_typeOf n, by simp [decPosCoin, mkUInt_uint n h.2, h.1, h.2]⟩
  | _ => nofun

theorem good_bytes (nr : Prop) : Good encBytes decBytes [.bytes] nr := by
  apply Good.leaf; intro v it
  fun_cases encBytes v with
  | case1 b hn =>
    rintro ⟨⟩
    exact ⟨mkBytes_wf b hn, by simp [mkBytes_typeOf], by simp [decBytes, mkBytes, minHead_major]⟩
  | _ => nofun

theorem good_hash (n : Nat) (nr : Prop) : Good (encHash n) (decHash n) [.bytes] nr := by
  apply Good.leaf; intro v it
  fun_cases encHash n v with
  | case1 b h =>
    rintro ⟨⟩
    obtain ⟨hl, hn⟩ := h
    exact ⟨mkBytes_wf b (by omega), by simp [mkBytes_typeOf], by simp [decHash, mkBytes, minHead_major, hl]⟩
  | _ => nofun

theorem good_text (nr : Prop) : Good encText decText [.string] nr := by
  apply Good.leaf; intro v it
  fun_cases encText v with
  | case1 b h =>
    rintro ⟨⟩
    simp only [Bool.and_eq_true, decide_eq_true_eq] at h
    exact ⟨mkText_wf b h.2, by simp [mkText_typeOf], by simp [decText, mkText, minHead_major, h.1]⟩
  | _ => nofun

theorem good_bool (nr : Prop) : Good encBool decBool [.bool] nr := by
  apply Good.leaf; intro v it
  fun_cases encBool v with
  | case1 b =>
    rintro ⟨⟩
    cases b <;> exact ⟨by decide, by decide, by simp [decBool, mkBool]⟩
  | _ => nofun

theorem good_emptyMap (nr : Prop) : Good encEmptyMap decEmptyMap [.map] nr := by
  apply Good.leaf; intro v it
  fun_cases encEmptyMap v with
  | case1 =>
    rintro ⟨⟩
    exact ⟨by decide, by decide, by simp [decEmptyMap, mkMapFlat, itemUtf8Ok, utf8OkList]⟩
  | _ => nofun

theorem typeOf_mem_all (it : Item) : typeOf it ∈ Ty.all := by
  generalize typeOf it = t
  cases t <;> decide

theorem good_any (nr : Prop) : Good encAny (fun it => some (Value.any it)) Ty.all nr := by
  apply Good.leaf; intro v it
  fun_cases encAny v with
  | case1 x hw =>
    rintro ⟨⟩
    exact ⟨hw, typeOf_mem_all _, rfl⟩
  | _ => nofun

theorem good_vec {e d K nr} (h : Good e d K nr) : Good (encVec e) (decVec d) [.array] nr := by
  intro v it
  fun_cases encVec e v with
  | case1 vs hl =>
    intro hr he
    obtain ⟨items, hm, rfl⟩ := Option.map_eq_some_iff.mp he
    simp only [Value.rawFree] at hr
    obtain ⟨w, l, vs', dd, ss, nn⟩ := mapOpt_good h vs items hr hm
    refine ⟨mkArray_wf items (by omega) w, by simp [mkArray_typeOf], .list vs', ?_, by simp [Value.strip, ss], fun x => by rw [nn x]⟩
    simp [decVec, decVecItems, mkArray_items, dd]
  | _ => nofun

theorem good_opt {e d K nr} (h : Good e d K nr) (hk : Ty.null ∉ K) :
    Good (encOpt e) (decOpt d) (.null :: K) nr := by
  intro v it
  fun_cases encOpt e v with
  | case1 => -- `None`
    rintro - ⟨⟩
    exact ⟨mkNull_wf, by simp [typeOf, mkNull], .none, by simp [decOpt, typeOf, mkNull], by simp [Value.strip], fun _ => rfl⟩
  | case2 x => -- `Some(x)`
    intro hr he
    simp only [Value.rawFree] at hr
    obtain ⟨w, t, v', dd, ss, nn⟩ := h x it hr he
    have hne : typeOf it ≠ .null := fun e => hk (e ▸ t)
    exact ⟨w, by simp [t], .some v', by simp [decOpt, hne, dd], by simp [Value.strip, ss], fun x => by rw [nn x]⟩
  | _ => nofun

/-- `nr := False`: the decoder returns `.raw (some it) v'` where the raw-free input has `.raw none`, so
    the two agree only after `strip` -/
theorem good_keepRaw {e d K nr} (h : Good e d K nr) : Good (encKeepRaw e) (decKeepRaw d) K False := by
  intro v it
  fun_cases encKeepRaw e v with
  | case2 x => -- `.raw none x`: the inner value is encoded
    intro hr he
    simp only [Value.rawFree, Option.isNone_none, Bool.true_and] at hr
    obtain ⟨w, t, v', dd, ss, _⟩ := h x it hr he
    exact ⟨w, t, .raw (some it) v', by simp [decKeepRaw, dd], by simp [Value.strip, ss], fun f => f.elim⟩
  | case1 => intro hr; simp [Value.rawFree] at hr -- `.raw (some _) _` is not raw-free
  | _ => nofun

theorem good_nullable {e d K nr} (h : Good e d K nr) (hk : Ty.null ∉ K) (hu : Ty.undefined ∉ K) :
    Good (encNullable e) (decNullable d) (.null :: .undefined :: K) nr := by
  intro v it
  fun_cases encNullable e v with
  | case1 x => -- `Some(x)`
    intro hr he
    simp only [Value.rawFree, rawFreeList, Bool.and_true] at hr
    obtain ⟨w, t, v', dd, ss, nn⟩ := h x it hr he
    have h1 : typeOf it ≠ .null := fun e => hk (e ▸ t)
    have h2 : typeOf it ≠ .undefined := fun e => hu (e ▸ t)
    exact ⟨w, by simp [t], .variant 0 [v'], by simp [decNullable, h1, h2, dd], by simp [Value.strip, stripList, ss],
      fun x => by rw [nn x]⟩
  | case2 => -- `Null`
    rintro - ⟨⟩
    exact ⟨mkNull_wf, .head _, _, rfl, rfl, fun _ => rfl⟩
  | case3 => -- `Undefined`
    rintro - ⟨⟩
    exact ⟨mkUndefined_wf, .tail _ (.head _), _, rfl, rfl, fun _ => rfl⟩
  | _ => nofun

theorem good_set {e d K nr} (h : Good e d K nr) : Good (encSet e) (decSet d) [.tag] nr := by
  intro v it hr he
  simp only [encSet, Option.map_eq_some_iff] at he
  obtain ⟨a, ha, rfl⟩ := he
  obtain ⟨w, t, v', dd, ss, nn⟩ := good_vec h v a hr ha
  exact ⟨mkTag_wf 258 a w, by simp [mkTag_typeOf], v', by rw [decSet_mkTag, dd], ss, nn⟩

theorem good_tagWrap {e d K nr} (t : Nat) (h : Good e d K nr) : Good (encTagWrap e t) (decTagWrap d) [.tag] nr := by
  intro v it hr he
  simp only [encTagWrap, Option.ite_none_right_eq_some, Option.map_eq_some_iff] at he
  obtain ⟨ht, a, ha, rfl⟩ := he
  obtain ⟨w, _, v', dd, ss, nn⟩ := h v a hr ha
  exact ⟨mkTag_wf t a w, by simp [mkTag_typeOf], v', by simp [decTagWrap, mkTag, dd], ss, nn⟩

theorem good_cborWrap {e d K nr} (h : Good e d K nr) : Good (encCborWrap e) (decCborWrap d) [.tag] nr := by
  intro v it hr he
  simp only [encCborWrap] at he
  cases ha : e v with
  | none => simp [ha] at he
  | some a =>
    simp only [ha, Option.ite_none_right_eq_some, Option.some.injEq] at he
    obtain ⟨hl, rfl⟩ := he
    obtain ⟨w, _, v', dd, ss, nn⟩ := h v a hr ha
    refine ⟨mkTag_wf 24 _ (mkBytes_wf _ hl), by simp [mkTag_typeOf], v', ?_, ss, nn⟩
    have hp := parseItem_encode a [] w
    simp only [List.append_nil] at hp
    simp [decCborWrap, mkTag, mkBytes, minHead_major, hp, dd]

theorem good_zeroOrOne {e d K nr} (h : Good e d K nr) : Good (encZeroOrOne e) (decZeroOrOne d) [.array] nr := by
  intro v it
  fun_cases encZeroOrOne e v with
  | case1 => -- no element: `[]`
    rintro - ⟨⟩
    exact ⟨by decide, by decide, .none, by simp [decZeroOrOne, mkArray, minHead_major], by simp [Value.strip], fun _ => rfl⟩
  | case2 x => -- one element: `[x]`
    intro hr he
    obtain ⟨a, ha, rfl⟩ := Option.map_eq_some_iff.mp he
    simp only [Value.rawFree] at hr
    obtain ⟨w, _, v', dd, ss, nn⟩ := h x a hr ha
    exact ⟨mkArray_wf [a] (by simp) (by simp [wfList, w]), by simp [mkArray_typeOf], .some v',
      by simp [decZeroOrOne, mkArray, minHead_major, dd], by simp [Value.strip, ss], fun x => by rw [nn x]⟩
  | _ => nofun

theorem good_maybeIndef {e d K nr} (h : Good e d K nr) :
    Good (encMaybeIndef e) (decMaybeIndef d) [.array, .arrayIndef] nr := by
  intro v it
  fun_cases encMaybeIndef e v with
  | case1 x => -- `Def`, written as a `Vec`
    intro hr he
    simp only [Value.rawFree, rawFreeList, Bool.and_true] at hr
    obtain ⟨w, t, v', dd, ss, nn⟩ := good_vec h x it hr he
    simp only [List.mem_singleton] at t
    exact ⟨w, by simp [t], .variant 0 [v'], by simp [decMaybeIndef, t, dd], by simp [Value.strip, stripList, ss],
      fun x => by rw [nn x]⟩
  | case2 vs => -- `Indef`
    intro hr he
    obtain ⟨items, hm, rfl⟩ := Option.map_eq_some_iff.mp he
    simp only [Value.rawFree, rawFreeList, Bool.and_true] at hr
    obtain ⟨w, _, vs', dd, ss, nn⟩ := mapOpt_good h vs items hr hm
    refine ⟨by simp [Item.wf, w], by simp [typeOf], .variant 1 [.list vs'], ?_, by simp [Value.strip, stripList, ss],
      fun x => by rw [nn x]⟩
    simp [decMaybeIndef, typeOf, decVec, decVecItems, Item.arrayItems?, dd]
  | _ => nofun

/-- `mapOpt_good` for entries; it also returns what `BTreeMap` decoding needs: the decoded list consists of entries,
    and under `nrk` (no `KeepRaw` in the keys' schema) it has the keys of the original, which carries `strictSorted`
    over to it -/
theorem mapPairs_good {ek dk Kk nrk ev dv Kv nrv} (hk : Good ek dk Kk nrk) (hv : Good ev dv Kv nrv)
    (kvs : List Value) (ps : List (Item × Item)) (hr : rawFreeList kvs = true) (he : mapOpt (encPair ek ev) kvs = some ps) :
      wfList (flattenPairs ps) = true ∧ ps.length = kvs.length ∧
      ∃ kvs', mapOpt (decPair dk dv) ps = some kvs' ∧ stripList kvs' = kvs ∧ allPairs kvs' = true ∧
        (nrk → kvs'.map keyOf = kvs.map keyOf) ∧ (nrk ∧ nrv → kvs' = kvs) := by
  fun_induction mapOpt (encPair ek ev) kvs generalizing ps with
  | case1 => cases he; exact ⟨rfl, rfl, [], rfl, rfl, rfl, fun _ => rfl, fun _ => rfl⟩
  | case2 x xs p ys h2 h1 ih =>
    cases he
    obtain ⟨a, b, rfl, ha, hb⟩ := encPair_some h1
    simp only [rawFreeList, Value.rawFree, Bool.and_eq_true, Bool.and_true] at hr
    obtain ⟨w2, l2, kvs', d2, s2, p2, k2, n2⟩ := ih ys hr.2 h2
    obtain ⟨wa, _, a', da, sa, na⟩ := hk a p.1 hr.1.1 ha
    obtain ⟨wb, _, b', db, sb, nb⟩ := hv b p.2 hr.1.2 hb
    exact ⟨by simp [flattenPairs, wfList, wa, wb, w2], by simp [l2], .list [a', b'] :: kvs', by simp [mapOpt, decPair, da, db, d2],
      by simp [stripList, Value.strip, sa, sb, s2], by simp [allPairs, isPair, p2],
      fun hn => by simp [keyOf, na hn, k2 hn], fun hn => by rw [na hn.1, nb hn.2, n2 hn]⟩
  | case3 => cases he

/-- `hkn`: the keys hold no `KeepRaw` (the static check demands it), so decoded keys are the written ones
    and re-inserting them in order rebuilds the list -/
theorem good_btmap {ek dk Kk nrk ev dv Kv nrv} (hk : Good ek dk Kk nrk) (hkn : nrk) (hv : Good ev dv Kv nrv) :
    Good (encBTMap ek ev) (decBTMap dk dv) [.map] nrv := by
  intro v it
  fun_cases encBTMap ek ev v with
  | case1 kvs h =>
    intro hr he
    obtain ⟨hl, hs⟩ := h
    obtain ⟨ps, hm, rfl⟩ := Option.map_eq_some_iff.mp he
    simp only [Value.rawFree] at hr
    obtain ⟨w, l, kvs', dd, ss, pp, kk, nn⟩ := mapPairs_good hk hv kvs ps hr hm
    have hf := foldl_insert_sorted_nil kvs' pp (by rw [kk hkn]; exact hs)
    refine ⟨mkMapFlat_wf ps (by omega) w, by simp [mkMapFlat_typeOf], .list kvs', ?_, by simp [Value.strip, ss],
      fun x => by rw [nn ⟨hkn, x⟩]⟩
    simp [decBTMap, mkMapFlat_entries, dd, hf]
  | _ => nofun

theorem good_kvPairs {ek dk Kk nrk ev dv Kv nrv} (hk : Good ek dk Kk nrk) (hv : Good ev dv Kv nrv) :
    Good (encKvPairs ek ev) (decKvPairs dk dv) [.map, .mapIndef] (nrk ∧ nrv) := by
  intro v it
  fun_cases encKvPairs ek ev v with
  | case1 kvs hl => -- `Def`, its length under the bound
    intro hr he
    obtain ⟨ps, hm, rfl⟩ := Option.map_eq_some_iff.mp he
    simp only [Value.rawFree, rawFreeList, Bool.and_true] at hr
    obtain ⟨w, l, kvs', dd, ss, _, _, nn⟩ := mapPairs_good hk hv kvs ps hr hm
    refine ⟨mkMapFlat_wf ps (by omega) w, by simp [mkMapFlat_typeOf], .variant 0 [.list kvs'], ?_,
      by simp [Value.strip, stripList, ss], fun x => by rw [nn x]⟩
    simp [decKvPairs, mkMapFlat_typeOf, decKvList, mkMapFlat_entries, dd]
  | case3 kvs => -- `Indef`
    intro hr he
    obtain ⟨ps, hm, rfl⟩ := Option.map_eq_some_iff.mp he
    simp only [Value.rawFree, rawFreeList, Bool.and_true] at hr
    obtain ⟨w, l, kvs', dd, ss, _, _, nn⟩ := mapPairs_good hk hv kvs ps hr hm
    refine ⟨by simp [Item.wf, w, flattenPairs_length], by simp [typeOf], .variant 1 [.list kvs'], ?_,
      by simp [Value.strip, stripList, ss], fun x => by rw [nn x]⟩
    simp [decKvPairs, typeOf, decKvList, Item.mapEntries?, pairUp_flatten, dd]
  | _ => nofun

section
variable {e : Schema → Value → Option Item} {d : Schema → Item → Option Value}
  {K : Schema → List Ty} {nr : Schema → Prop}

theorem good_tuple (fs : List Schema) (hl : fs.length < 2 ^ 64)
    (hg : ∀ s, s ∈ fs → Good (e s) (d s) (K s) (nr s)) :
    Good (encTuple e fs) (decTuple d fs) [.array] (∀ s, s ∈ fs → nr s) := by
  intro v it
  fun_cases encTuple e fs v with
  | case1 vs =>
    intro hr he
    obtain ⟨items, hz, rfl⟩ := Option.map_eq_some_iff.mp he
    simp only [Value.rawFree] at hr
    obtain ⟨w, l, vs', dd, ss, nn⟩ := zipOpt_good fs hg vs items hr hz
    exact ⟨mkArray_wf items (by omega) w, by simp [mkArray_typeOf], .list vs', by simp [decTuple_mkArray, dd],
      by simp [Value.strip, ss], fun x => by rw [nn x]⟩
  | _ => nofun

/-- the bound `pos + items.length ≤ 2 ^ 63` is carried for the head of the array around the items (`mkArray_wf`) -/
theorem encArr_good (fs : List (Nat × Schema)) (hg : ∀ p, p ∈ fs → Good (e p.2) (d p.2) (K p.2) (nr p.2))
    (trunc : Bool) (pos : Nat) (vs : List Value) (items : List Item) (hp : pos ≤ 2 ^ 63)
    (hi : increasingFrom pos fs = true) (hr : rawFreeList vs = true) (he : encArr e trunc pos fs vs = some items) :
      wfList items = true ∧ pos + items.length ≤ 2 ^ 63 ∧
      ∃ vs', decArr d pos fs items = some vs' ∧ stripList vs' = vs ∧ ((∀ p, p ∈ fs → nr p.2) → vs' = vs) := by
  -- the clauses of `encArr`: no field left; only nil fields left (nothing written); a field written behind its gap
  fun_induction encArr e trunc pos fs vs generalizing items with
  | case1 pos =>
    cases he
    exact ⟨rfl, by simpa using hp, [], rfl, rfl, fun _ => rfl⟩
  | case2 pos idx s fs v vs hn =>
    cases he
    simp only [Bool.and_eq_true] at hn
    obtain ⟨d1, s1⟩ := decArr_allNil d _ _ pos hn.2
    exact ⟨rfl, by simpa using hp, v :: vs, d1, s1, fun _ => rfl⟩
  | case4 pos idx s fs v vs hn hle it rest hb ha ih =>
    cases he
    rw [increasingFrom_cons] at hi
    simp only [rawFreeList, Bool.and_eq_true] at hr
    obtain ⟨w1, _, v', d1, s1, n1⟩ := hg (idx, s) (by simp) v it hr.1 ha
    obtain ⟨w2, l2, vs', d2, s2, n2⟩ := ih (fun q hq => hg q (by simp [hq])) rest (by omega) hi.2.2 hr.2 hb
    exact ⟨by simp [wfList_append, wfList_replicate_null, wfList, w1, w2], by simp; omega, v' :: vs',
      by simp [decArr_gap, d1, d2], by simp [stripList, s1, s2],
      fun hn => by rw [n1 (hn (idx, s) (by simp)), n2 (fun q hq => hn q (by simp [hq]))]⟩
  | case3 | case5 | case6 => cases he

/-- `FS` is the whole field list (what `findField` searches), `fs` the suffix the induction runs over.
    `ents.length ≤ fs.length` is carried for the head of the map around the entries (`mkMapFlat_wf`) -/
theorem encMapFields_good (FS : List (Nat × Schema)) (fs : List (Nat × Schema))
    (hg : ∀ p, p ∈ fs → Good (e p.2) (d p.2) (K p.2) (nr p.2))
    (hf : ∀ p, p ∈ fs → findField (p.1 : Int) FS = some p ∧ p.1 < 2 ^ 63)
    (vs : List Value) (ents : List (Item × Item)) (hr : rawFreeList vs = true) (he : encMapFields e fs vs = some ents) :
      wfList (flattenPairs ents) = true ∧ ents.length ≤ fs.length ∧
      ∃ vs', vs'.length = fs.length ∧ stripList vs' = vs ∧ ((∀ p, p ∈ fs → nr p.2) → vs' = vs) ∧
        decMapEntries d FS ents = some (resOf fs vs') := by
  -- the clauses of `encMapFields`: no field left; a nil field, no entry; a field written under its index
  fun_induction encMapFields e fs vs generalizing ents with
  | case1 => cases he; exact ⟨rfl, by simp, [], rfl, rfl, fun _ => rfl, rfl⟩
  | case2 idx s fs v vs hnil ih =>
    simp only [rawFreeList, Bool.and_eq_true] at hr
    obtain ⟨w, l, vs', hl, ss, nn, dd⟩ := ih (fun q hq => hg q (by simp [hq])) (fun q hq => hf q (by simp [hq])) ents hr.2 he
    obtain ⟨_, rfl⟩ := isNilField_elim hnil
    exact ⟨w, by simp; omega, Value.none :: vs', by simp [hl], by simp [stripList, Value.strip, ss],
      fun hn => by rw [nn (fun q hq => hn q (by simp [hq]))], by simp [resOf, hnil, dd]⟩
  | case3 idx s fs v vs hnil it rest hb ha ih =>
    cases he
    simp only [rawFreeList, Bool.and_eq_true] at hr
    obtain ⟨w1, _, v', d1, s1, n1⟩ := hg (idx, s) (by simp) v it hr.1 ha
    obtain ⟨w, l, vs', hl, ss, nn, dd⟩ := ih (fun q hq => hg q (by simp [hq])) (fun q hq => hf q (by simp [hq])) rest hr.2 hb
    obtain ⟨hfi, hidx⟩ := hf (idx, s) (by simp)
    have hnn : isNilField s v' = false := by rw [← isNilField_strip, s1]; simpa using hnil
    exact ⟨by simp [flattenPairs, wfList, mkUInt_wf idx, w1, w], by simp; omega, v' :: vs', by simp [hl],
      by simp [stripList, s1, ss], fun hn => by rw [n1 (hn (idx, s) (by simp)), nn (fun q hq => hn q (by simp [hq]))],
      by simp [decMapEntries_key d FS hfi hidx, d1, dd, resOf, hnn]⟩
  | case4 | case5 => cases he

theorem wrapTag_wf (t : Option Nat) (x : Item) (hw : x.wf = true) :
    (wrapTag t x).wf = true := by
  cases t with
  | none => exact hw
  | some n => exact mkTag_wf n x hw

theorem wrapTag_typeOf (l : Layout) (t : Option Nat) (x : Item)
    (hx : typeOf x = match l with | .array => Ty.array | .map => Ty.map) :
    typeOf (wrapTag t x) ∈ structKinds l t := by
  cases t with
  | none => cases l <;> simp [wrapTag, structKinds, hx]
  | some n => simp [wrapTag, structKinds, mkTag_typeOf]

theorem good_struct (l : Layout) (t : Option Nat) (fs : List (Nat × Schema))
    (ht : ∀ n, t = some n → n < 2 ^ 64) (hi : increasingFrom 0 fs = true)
    (hg : ∀ p, p ∈ fs → Good (e p.2) (d p.2) (K p.2) (nr p.2)) :
    Good (encStruct e l t fs) (decStruct d l t fs) (structKinds l t) (∀ p, p ∈ fs → nr p.2) := by
  intro v it
  fun_cases encStruct e l t fs v with
  | case1 vs => -- array layout
    intro hr he
    simp only [Value.rawFree] at hr
    obtain ⟨xs, hx, rfl⟩ := Option.map_eq_some_iff.mp he
    obtain ⟨w, hl, vs', dd, ss, nn⟩ := encArr_good fs hg true 0 vs xs (by omega) hi hr hx
    have hw := mkArray_wf xs (by omega) w
    refine ⟨wrapTag_wf t _ hw, wrapTag_typeOf .array t _ (mkArray_typeOf xs), .list vs', ?_,
      by simp [Value.strip, ss], fun x => by rw [nn x]⟩
    simp [decStruct, unwrapTag_wrapTag t _ ht, mkArray_items, dd]
  | case2 vs => -- map layout
    intro hr he
    simp only [Value.rawFree] at hr
    obtain ⟨ents, hx, rfl⟩ := Option.map_eq_some_iff.mp he
    obtain ⟨w, hl, vs', hlen, ss, nn, dd⟩ := encMapFields_good fs fs hg
      (findField_fields hi) vs ents hr hx
    have hlen2 := increasingFrom_length fs 0 (by omega) hi
    have hw := mkMapFlat_wf ents (by omega) w
    have hc := collectFields_resOf fs 0 vs' hi hlen
    refine ⟨wrapTag_wf t _ hw, wrapTag_typeOf .map t _ (mkMapFlat_typeOf _), .list vs', ?_,
      by simp [Value.strip, ss], fun x => by rw [nn x]⟩
    simp [decStruct, unwrapTag_wrapTag t _ ht, mkMapFlat_entries, dd, hc]
  | _ => nofun

theorem variantArray_wf (n : Nat) (xs : List Item) (hl : xs.length ≤ 2 ^ 63) (hw : wfList xs = true) :
    (mkArray (mkUInt n :: xs)).wf = true :=
  mkArray_wf _ (by simp; omega) (by simp [wfList, mkUInt_wf n, hw])

theorem good_enumIdx (vs : List Nat) (nr : Prop) (hd : distinctNats vs = true) (hv : ∀ n, n ∈ vs → n < 2 ^ 63) :
    Good (encEnumIdx vs) (decEnumIdx vs) [.u8, .u16, .u32, .u64] nr := by
  apply Good.leaf; intro v it
  fun_cases encEnumIdx vs v with
  | case1 pos n hg =>
    rintro ⟨⟩
    have hn := hv n (List.mem_of_getElem? hg)
    have hf := findVariant_of_getElem (vs := vs.map (fun n => (n, ()))) (pos := pos) (n := n) (a := ()) (by simpa [Function.comp_def] using hd) (by simp [hg])
    exact ⟨mkUInt_wf n, mkUInt_typeOf n,
      by simp [decEnumIdx, mkUInt_int n (by omega), intInBits_nat n hn, findIdx_eq_findVariant, hf]⟩
  | _ => nofun

theorem good_enumFlat (vs : List (Nat × List (Nat × Schema)))
    (hd : distinctNats (vs.map (·.1)) = true)
    (hv : ∀ v, v ∈ vs → v.1 < 2 ^ 63 ∧ increasingFrom 0 v.2 = true ∧ ∀ p, p ∈ v.2 → Good (e p.2) (d p.2) (K p.2) (nr p.2)) :
    Good (encEnumFlat e vs) (decEnumFlat d vs) [.array] (∀ v, v ∈ vs → ∀ p, p ∈ v.2 → nr p.2) := by
  intro v it
  fun_cases encEnumFlat e vs v with
  | case1 pos fields n fs hg =>
    intro hr he
    simp only [Value.rawFree] at hr
    obtain ⟨xs, hx, rfl⟩ := Option.map_eq_some_iff.mp he
    have hmem : (n, fs) ∈ vs := List.mem_of_getElem? hg
    obtain ⟨hn, hi, hgood⟩ := hv (n, fs) hmem
    obtain ⟨w, hl, vs', dd, ss, nn⟩ := encArr_good fs hgood false 0 fields xs (by omega) hi hr hx
    have hfv := findVariant_of_getElem hd hg
    -- the unit-variant check of `decEnumFlat`: the encoder writes nothing after a variant without fields
    have hunit : (fs.isEmpty && !xs.isEmpty) = false := by
      cases fs with
      | cons _ _ => simp
      | nil =>
        cases fields with
        | nil => simp [encArr] at hx; subst hx; simp
        | cons _ _ => simp [encArr] at hx
    exact ⟨variantArray_wf n xs (by omega) w, by simp [mkArray_typeOf], .variant pos vs',
      by simp [decEnumFlat_mkArray d vs n xs (by omega), intInBits_nat n hn, hfv, hunit, dd], by simp [Value.strip, ss],
      fun x => by rw [nn (fun p hp => x (n, fs) hmem p hp)]⟩
  | _ => nofun

theorem good_sumFixed (b : Nat) (vs : List (Nat × List Schema))
    (hb : b = 8 ∨ b = 16) (hd : distinctNats (vs.map (·.1)) = true)
    (hv : ∀ v, v ∈ vs → v.1 < 2 ^ b ∧ v.2.length < 2 ^ 63 ∧ ∀ s, s ∈ v.2 → Good (e s) (d s) (K s) (nr s)) :
    Good (encSumFixed e vs) (decSumFixed d b vs) [.array] (∀ v, v ∈ vs → ∀ s, s ∈ v.2 → nr s) := by
  intro v it
  fun_cases encSumFixed e vs v with
  | case1 pos fields n fs hg =>
    intro hr he
    simp only [Value.rawFree] at hr
    obtain ⟨xs, hx, rfl⟩ := Option.map_eq_some_iff.mp he
    have hmem : (n, fs) ∈ vs := List.mem_of_getElem? hg
    obtain ⟨hn, hflen, hgood⟩ := hv (n, fs) hmem
    have hn64 : n < 2 ^ 64 := by rcases hb with rfl | rfl <;> omega
    obtain ⟨w, hl, ws, dd, ss, nn⟩ := zipOpt_good fs hgood fields xs hr hx
    exact ⟨variantArray_wf n xs (hl ▸ Nat.le_of_lt hflen) w, by simp [mkArray_typeOf], .variant pos ws,
      by simp [decSumFixed_mkArray, hn64, hn, findVariant_of_getElem hd hg, dd], by simp [Value.strip, ss],
      fun x => by rw [nn (x (n, fs) hmem)]⟩
  | _ => nofun

theorem good_sumOther (b : Nat) (vs : List (Nat × List Schema)) (other : List Schema)
    (hb : b = 8 ∨ b = 16) (hd : distinctNats (vs.map (·.1)) = true)
    (hv : ∀ v, v ∈ vs → v.1 < 2 ^ b ∧ v.2.length < 2 ^ 63 ∧ ∀ s, s ∈ v.2 → Good (e s) (d s) (K s) (nr s))
    (hol : other.length < 2 ^ 63) (ho : ∀ s, s ∈ other → Good (e s) (d s) (K s) (nr s)) :
    Good (encSumOther e b vs other) (decSumOther d b vs other) [.array]
      ((∀ v, v ∈ vs → ∀ s, s ∈ v.2 → nr s) ∧ (∀ s, s ∈ other → nr s)) := by
  intro v it
  fun_cases encSumOther e b vs other v with
  | case1 pos fields => -- a listed variant: written by `encSumFixed`
    intro hr he
    obtain ⟨w, t, v', dd, ss, nn⟩ := good_sumFixed b vs hb hd hv _ it hr he
    exact ⟨w, t, v', decSumOther_of_decSumFixed other dd, ss, fun x => nn x.1⟩
  | case2 x rest hx => -- the catch-all `Other(x, ..)`
    intro hr he
    obtain ⟨xs, hz, rfl⟩ := Option.map_eq_some_iff.mp he
    simp only [Value.rawFree, rawFreeList, Bool.true_and] at hr
    obtain ⟨w, hl, ws, dd, ss, nn⟩ := zipOpt_good other ho rest xs hr hz
    have hx64 : x < 2 ^ 64 := by rcases hb with rfl | rfl <;> omega
    exact ⟨variantArray_wf x xs (hl ▸ Nat.le_of_lt hol) w, by simp [mkArray_typeOf], .variant vs.length (.nat x :: ws),
      by simp [decSumOther_mkArray, hx64, hx.1, (findVariant_eq_none vs x).mpr hx.2, dd],
      by simp [Value.strip, stripList, ss], fun h => by rw [nn h.2]⟩
  | _ => nofun

/-- one payload `x` under the arm of its position: the arm's datatypes select it again -/
theorem byType_single (alts : List (Nat × List Ty × Schema)) (many : Option (Nat × List Schema))
    (halt : ∀ a, a ∈ alts → Good (e a.2.2) (d a.2.2) (K a.2.2) (nr a.2.2) ∧ (∀ t, t ∈ K a.2.2 → t ∈ a.2.1))
    (hdisj : altsDisjoint alts = true) (hnoarr : many.isSome = true → ∀ a, a ∈ alts → Ty.array ∉ a.2.1)
    {pos : Nat} {s : Schema} {x : Value} {it : Item} (hf : findAltByPos pos alts = some s) (he : e s x = some it)
    (hr : (Value.variant pos [x]).rawFree = true) :
    it.wf = true ∧ typeOf it ∈ byTypeKinds alts many ∧ ∃ v', decByType d alts many it = some v' ∧
      v'.strip = .variant pos [x] ∧ ((∀ a, a ∈ alts → nr a.2.2) ∧ (∀ mp ms, many = some (mp, ms) → ∀ s, s ∈ ms → nr s) →
        v' = .variant pos [x]) := by
  obtain ⟨tys, hm⟩ := findAltByPos_mem alts pos s hf
  obtain ⟨hg, hsub⟩ := halt (pos, tys, s) hm
  obtain ⟨w, t, x', dd, ss, nn⟩ := hg x it (by simpa [Value.rawFree, rawFreeList] using hr) he
  have ht := hsub _ t
  have hfind := findAltByTy_of_mem alts pos tys s (typeOf it) hdisj hm ht
  refine ⟨w, ?_, .variant pos [x'], ?_, by simp [Value.strip, stripList, ss], fun hn => by rw [nn (hn.1 (pos, tys, s) hm)]⟩
  · simp only [byTypeKinds, List.mem_append, List.mem_flatMap]
    exact Or.inr ⟨(pos, tys, s), hm, ht⟩
  · cases many with
    | none => simp [decByType, decByTypeOne, hfind, dd]
    | some q =>
      have hne : typeOf it ≠ .array := fun harr => hnoarr rfl (pos, tys, s) hm (harr ▸ ht)
      simp [decByType, hne, decByTypeOne, hfind, dd]

theorem good_byType (alts : List (Nat × List Ty × Schema)) (many : Option (Nat × List Schema))
    (halt : ∀ a, a ∈ alts → Good (e a.2.2) (d a.2.2) (K a.2.2) (nr a.2.2) ∧ (∀ t, t ∈ K a.2.2 → t ∈ a.2.1))
    (hdisj : altsDisjoint alts = true)
    (hmany : ∀ mp ms, many = some (mp, ms) →
      ms.length < 2 ^ 64 ∧ (∀ s, s ∈ ms → Good (e s) (d s) (K s) (nr s)) ∧ ∀ a, a ∈ alts → Ty.array ∉ a.2.1) :
    Good (encByType e alts many) (decByType d alts many) (byTypeKinds alts many)
      ((∀ a, a ∈ alts → nr a.2.2) ∧ (∀ mp ms, many = some (mp, ms) → ∀ s, s ∈ ms → nr s)) := by
  intro v it
  fun_cases encByType e alts many v with
  | case1 fields mp ms => -- the many-field variant
    intro hr he
    simp only [Value.rawFree] at hr
    obtain ⟨hlen, hgm, _⟩ := hmany mp ms rfl
    obtain ⟨xs, hz, rfl⟩ := Option.map_eq_some_iff.mp he
    obtain ⟨w, l, vs', dd, ss, nn⟩ := zipOpt_good ms hgm fields xs hr hz
    refine ⟨mkArray_wf xs (by omega) w, by simp [byTypeKinds, mkArray_typeOf], .variant mp vs', ?_,
      by simp [Value.strip, ss], fun hn => by rw [nn (hn.2 mp ms rfl)]⟩
    -- first the dispatch on `typeOf (mkArray _)`, then `mkArray` unfolded for the decoder's match on `.seq`
    simp [decByType, mkArray_typeOf]
    simp [mkArray, dd]
  | case2 pos mp ms _ s x hf => -- a one-payload variant beside the many-field one
    exact fun hr he => byType_single alts _ halt hdisj (fun _ => (hmany mp ms rfl).2.2) hf he hr
  | case4 pos s x hf => -- a one-payload variant, `many = none`
    exact fun hr he => byType_single alts _ halt hdisj (by simp) hf he hr
  | _ => nofun

end
end PallasVerif.Schema
