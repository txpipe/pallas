import PallasVerif.Model.CborWrappers
import PallasVerif.Proofs.Minicbor
/-!
C09, model side of the `pallas-codec` wrappers: the decoders of `Model/Minicbor.lean` +
`Model/CborWrappers.lean` are total functions with outcomes `ok | err class`; the only model-only
outcome is `err diverge` (a loop ran out of fuel). `NoDiverge p` says that `p` never answers it.

A decoder that answers `Takes 1` on every input both consumes and never diverges (`takes_iff`), and the
wrappers are built from their parts by the combinators under which `Takes` is closed. So there is one
`_takes` fact per wrapper decoder C09 speaks of (and `TagWrap`, for the Byron address), generic in the element
decoder, hence for every nesting of these wrappers.
-/
namespace PallasVerif.Minicbor
open PallasVerif.Cbor PallasVerif.Wrappers

def NoDiverge {α : Type} (p : P α) : Prop := ∀ cur, p cur ≠ .err .diverge

theorem NoDiverge.of_takes {α : Type} {k : Nat} {p : P α} (h : ∀ cur, (p cur).Takes k cur) : NoDiverge p :=
  fun cur => (h cur).ne_diverge

/-- `Consumes` and `NoDiverge`, which C09 and C03 state, are the two halves of `Takes 1` -/
theorem takes_iff {α : Type} {p : P α} : (∀ cur, (p cur).Takes 1 cur) ↔ Consumes p ∧ NoDiverge p := by
  refine ⟨fun h => ⟨.of_takes h, .of_takes h⟩, fun ⟨hc, hn⟩ cur => ?_⟩
  cases e : p cur with
  | ok a r => exact (hc cur a r e).elim fun c ⟨hne, hc⟩ => ⟨c, List.length_pos_iff.mpr hne, hc⟩
  | err e' => exact fun h => hn cur (h ▸ e)

section
variable {α β : Type} {j : Nat} {elem : P α} (h : ∀ cur, (elem cur).Takes 1 cur)
include h

theorem repeatN_takes : ∀ n cur, (repeatN elem n cur).Takes 0 cur
  | 0, _ => .ok []
  | n + 1, cur => .weaken (.andThen (h cur) fun _ r => .map _ (repeatN_takes n r))

theorem iterCollect_takes (len : Option Nat) (cur : Bytes) : (iterCollect elem len cur).Takes 0 cur := by
  cases len with
  | some n => exact repeatN_takes h n cur
  | none => exact .weaken (untilBreak_takes h _ cur (Nat.le_refl _))

theorem vec_takes (cur : Bytes) : (vec elem cur).Takes 1 cur :=
  .andThen (seqHead_takes 4 cur) fun len r => iterCollect_takes h len r

theorem pairOf_takes {v : P β} (hv : ∀ cur, (v cur).Takes j cur) (cur : Bytes) : (pairOf elem v cur).Takes 1 cur :=
  .andThen (h cur) fun _ r => .map _ (hv r)

theorem mapIter_takes {v : P β} (hv : ∀ cur, (v cur).Takes j cur) (cur : Bytes) : (mapIter elem v cur).Takes 1 cur :=
  .andThen (seqHead_takes 5 cur) fun len r => iterCollect_takes (pairOf_takes h hv) len r

end

section
variable {α β : Type} (a : Codec α) (b : Codec β) (ha : ∀ cur, (a.dec cur).Takes 1 cur)
  (hb : ∀ cur, (b.dec cur).Takes 1 cur) (cur : Bytes)
include ha

theorem maybeIndef_takes : (MaybeIndef.dec a cur).Takes 1 cur :=
  .datatype fun _ => .ite (.map _ (vec_takes ha cur)) (.ite (.map _ (vec_takes ha cur)) (.err nofun))

theorem set_takes : (Set.dec a cur).Takes 1 cur :=
  .datatype fun _ => .ite (.andThen (tag_takes cur) fun _ r => .ite (.err nofun) (vec_takes ha r)) (vec_takes ha cur)

theorem tagWrap_takes : (TagWrap.dec a cur).Takes 1 cur :=
  .andThen (tag_takes cur) fun _ r => ha r

theorem cborWrap_takes : (CborWrap.dec a cur).Takes 1 cur :=
  .andThen (tag_takes cur) fun _ r => .andThen (bytes_takes r) fun inner _ => .inner (ha inner)

theorem zeroOrOne_takes : (ZeroOrOne.dec a cur).Takes 1 cur :=
  .andThen (seqHead_takes 4 cur) fun len r => by
    split
    · exact .ok none
    · exact .weaken (.map _ (ha r))
    all_goals exact .err nofun

theorem opp_takes : (OPP.dec a cur).Takes 1 cur :=
  .andThen (seqHead_takes 5 cur) fun _ r => repeatN_takes ha _ r

theorem nullable_takes : (Nullable.dec a cur).Takes 1 cur :=
  .datatype fun _ => .ite (.map _ (null_takes cur)) (.ite (.map _ (undefined_takes cur)) (.map _ (ha cur)))

theorem keepRaw_takes : (KeepRaw.dec a cur).Takes 1 cur := .rebuild (ha cur)

include hb

theorem kvp_takes : (KVP.dec a b cur).Takes 1 cur :=
  .datatype fun _ => .andThen (mapIter_takes ha hb cur) fun _ _ => .ite (.ok _) (.ite (.ok _) (.err nofun))

end

theorem anyCbor_takes (cur : Bytes) : (AnyCbor.dec cur).Takes 1 cur := by
  -- `Res.Takes.rebuild` says this, but its `match` does not unify with the one `AnyCbor.dec` has at `Unit`
  have h := skip_takes cur
  unfold AnyCbor.dec
  generalize skip cur = x at h ⊢
  cases x <;> exact h

theorem anyUInt_takes (cur : Bytes) : (AnyUInt.dec cur).Takes 1 cur :=
  .datatype fun _ => .ite (.map _ (uintN_takes 8 cur)) (.ite (.map _ (uintN_takes 16 cur))
    (.ite (.map _ (uintN_takes 32 cur)) (.ite (.map _ (uintN_takes 64 cur)) (.err nofun))))

theorem positiveCoin_takes (cur : Bytes) : (PositiveCoin.dec cur).Takes 1 cur :=
  .andThen (uintN_takes 64 cur) fun _ _ => .ite (.err nofun) (.ok _)

theorem anyCbor_consumes' : Consumes AnyCbor.dec := .of_takes anyCbor_takes

end PallasVerif.Minicbor
