import PallasVerif.Proofs.PlutusDataDecPrim
/-!
  The byte-level PlutusData decoder (`Model/PlutusDataDec.lean`, transcription of the Rust `Decode`
  impls over minicbor's primitives) refines the concrete-syntax-tree decoder `ofItem`:
  on the encoding of every well-formed tree that `ofItem` accepts it returns the same value and
  exactly the bytes after the item (`decP_refines`).

  `RefinesAt fuel` states this for the decoder layers at one fuel level (the mirror of `SoundAt` in
  `PlutusDataDecSoundAt`) and holds by induction on the fuel, field by field, `p` with one case per arm of the graph
  `OfItem`. `dsize_le` bounds the fuel by the length of the input, which gives `decodeBytes_refines`.
-/
namespace PallasVerif.PlutusData.Dec
open PallasVerif.Cbor PallasVerif.PlutusData

theorem readHead_other (h : Head) (hw : h.wf = true) (m : Nat) (hm : h.major ≠ m) (r : Bytes) :
    readHead m (h.encode ++ r) = none := by
  rw [readHead_eq, decodeHead_encode h r hw, Option.bind_some, if_neg hm]

theorem decP_int (i : Item) (n : Int) (r : Bytes) (f : Nat) (hw : i.wf = true) (hn : i.int? = some n) :
    decP (f + 1) (i.encode ++ r) = some (.int (.int n), r) := by
  cases i with
  | atom h =>
    have hai := ((Item.wf_atom_iff h).1 hw).2.2
    have hdt := datatype_encode _ hw r
    have hm : headTy h = .int := by
      rw [headTy, if_neg hai]
      simp only [Item.int?] at hn
      split at hn
      · rename_i hm; rw [hm]; rfl
      · split at hn
        · rename_i hm; rw [hm]; rfl
        · simp at hn
    rw [itemHead, hm] at hdt
    simp only [decP, hdt, decBig]
    simp only [Item.encode, readInt_some.2 ⟨h, hw, rfl, hn⟩, Option.map_some]
  | _ => simp [Item.int?] at hn

theorem decP_bytes (i : Item) (bs r : Bytes) (f : Nat) (hw : i.wf = true) (hp : i.strPayload? 2 = some bs)
    (hf : dsize i ≤ f + 1) : decP (f + 1) (i.encode ++ r) = some (.bytes bs, r) := by
  have hb := decBounded_refines i bs r f hw hp hf
  have hdt := datatype_encode i hw r
  have hty : headTy (itemHead i) = .bytes ∨ headTy (itemHead i) = .bytesIndef := by
    cases i with
    | str h b =>
      simp only [Item.strPayload?, Option.ite_none_right_eq_some] at hp
      rw [itemHead, headTy, if_neg ((Item.wf_str_iff h b).1 hw).2.2.1, hp.1]; exact .inl rfl
    | strIndef m cs =>
      simp only [Item.strPayload?, Option.ite_none_right_eq_some] at hp
      rw [hp.1]; exact .inr rfl
    | _ => simp [Item.strPayload?] at hp
  rcases hty with e | e <;> rw [e] at hdt <;> simp only [decP, hdt, hb, Option.map_some]

/-- what `decP` and `decConstr` see at a tag: the class, the tag number (by `probe` and again for
    real), and the payload after it -/
theorem tag_head (h : Head) (i : Item) (r : Bytes) (hw : (Item.tag h i).wf = true) :
    datatype ((Item.tag h i).encode ++ r) = some .tag ∧
    readTag ((Item.tag h i).encode ++ r) = some (h.val, i.encode ++ r) := by
  obtain ⟨hwf, hm, hai, _⟩ := (Item.wf_tag_iff h i).1 hw
  have hdt := datatype_encode _ hw r
  rw [itemHead, headTy, if_neg hai, hm] at hdt
  have := readHead_encode ⟨hwf, hm, hai⟩ (i.encode ++ r)
  exact ⟨hdt, by simpa only [Item.encode, List.append_assoc, readTag] using this⟩

theorem decP_big (h : Head) (i : Item) (bs : Bytes) (b : BigInt) (r : Bytes) (f : Nat)
    (hw : (Item.tag h i).wf = true) (hp : i.strPayload? 2 = some bs)
    (hv : (h.val = 2 ∧ b = .bigU bs) ∨ (h.val = 3 ∧ b = .bigN bs)) (hf : dsize i ≤ f + 1) :
    decP (f + 1) ((Item.tag h i).encode ++ r) = some (.int b, r) := by
  obtain ⟨hdt, hrt⟩ := tag_head h i r hw
  have hb := decBounded_refines i bs r f ((Item.wf_tag_iff h i).1 hw).2.2.2 hp hf
  rcases hv with ⟨hv, rfl⟩ | ⟨hv, rfl⟩ <;> simp [decP, hdt, hrt, hv, decBig, hb]

theorem decP_constr (h : Head) (fi : Item) (df : Bool) (ds : List PData) (r : Bytes) (f : Nat)
    (hw : (Item.tag h fi).wf = true) (hc : isConstrTag h.val = true)
    (hmi : decMaybeIndef f (fi.encode ++ r) = some ((df, ds), r)) :
    decP (f + 2) ((Item.tag h fi).encode ++ r) = some (.constr h.val none df ds, r) := by
  obtain ⟨hdt, hrt⟩ := tag_head h fi r hw
  have := (isConstrTag_iff h.val).1 hc
  have h2 : ¬ (h.val = 2 ∨ h.val = 3) := by omega
  simp only [decP, hdt, hrt, h2, if_false, hc, true_or, if_true, decConstr, hmi, Option.map_some]

/-- `hmi` is wanted for every rest, unlike in `decP_constr`: after the fields of an indefinite outer
    array comes its break, so the rest there is `0xff :: r` -/
theorem decP_constr102 (h ha : Head) (i fi : Item) (df : Bool) (ds : List PData) (r : Bytes) (f : Nat)
    (hw : (Item.tag h i).wf = true) (h102 : h.val = 102) {dfo : Bool} (hout : ArrayShape i dfo [.atom ha, fi]) (ham : ha.major = 0)
    (hmi : ∀ r', decMaybeIndef f (fi.encode ++ r') = some ((df, ds), r')) :
    decP (f + 2) ((Item.tag h i).encode ++ r) = some (.constr 102 (some ha.val) df ds, r) := by
  obtain ⟨hdt, hrt⟩ := tag_head h i r hw
  have hiw := ((Item.wf_tag_iff h i).1 hw).2.2.2
  have hw2 := seqShape_wfList hout hiw
  simp only [wfList, Bool.and_eq_true] at hw2
  obtain ⟨hawf, _, haai⟩ := (Item.wf_atom_iff ha).1 hw2.1
  have hc : isConstrTag 102 = false := by decide
  have hru : ∀ r', readU64 ((Item.atom ha).encode ++ (fi.encode ++ r')) = some (ha.val, fi.encode ++ r') := by
    intro r'
    exact readHead_encode ⟨hawf, ham, haai⟩ (fi.encode ++ r')
  rw [h102] at hrt
  rcases hout with ⟨h', rfl, hm', rfl⟩ | ⟨rfl, rfl⟩
  · obtain ⟨hwf', _, hai', hcnt, _⟩ := (Item.wf_seq_iff h' _).1 hiw
    have hv2 : h'.val = 2 := by rw [seqCount, if_pos hm'] at hcnt; exact hcnt.symm
    have hrs := readSeqHead_encode ⟨hwf', hm', hai'⟩ ((Item.atom ha).encode ++ (fi.encode ++ r))
    rw [hv2] at hrs
    simp only [Item.encode, encodeList, List.append_assoc, List.append_nil] at hdt hrt hrs hru hmi ⊢
    simp [decP, hdt, hrt, decConstr, hc, hrs, hru, hmi]
  · -- indefinite outer array: two items, then the break, which is consumed
    have hrs := readSeqHead_encode_indef 4 (by decide) ((Item.atom ha).encode ++ (fi.encode ++ 0xff :: r))
    simp only [Item.encode, encodeList, List.append_assoc, List.append_nil, List.cons_append,
      List.nil_append] at hdt hrt hrs hru hmi ⊢
    simp [decP, hdt, hrt, decConstr, hc, hrs, hru, hmi]

/-- Completeness of the decoder layers at one fuel level, one field per layer as in `SoundAt` (`PlutusDataDecSoundAt`); the
    constructor layer `decConstr` is folded into `p` (`decP_constr`, `decP_constr102`). Each layer calls the next at the
    fuel's predecessor, so each field of `RefinesAt (f + 1)` follows from `RefinesAt f`; only the constructor arms of `p`
    reach two levels down, to `m`. The bounds are `dsize` less the levels already passed. -/
structure RefinesAt (fuel : Nat) : Prop where
  p : ∀ (i : Item) (d : PData) (r : Bytes), i.wf = true → ofItem i = some d → dsize i ≤ fuel →
        decP fuel (i.encode ++ r) = some (d, r)
  m : ∀ (fi : Item) (df : Bool) (xs : List Item) (ds : List PData) (r : Bytes), ArrayShape fi df xs → fi.wf = true →
        ofItems xs = some ds → dsize fi ≤ fuel → decMaybeIndef fuel (fi.encode ++ r) = some ((df, ds), r)
  v : ∀ (fi : Item) (df : Bool) (xs : List Item) (ds : List PData) (r : Bytes), ArrayShape fi df xs → fi.wf = true →
        ofItems xs = some ds → dsize fi ≤ fuel + 1 → decVec fuel (fi.encode ++ r) = some (ds, r)
  k : ∀ (mi : Item) (df : Bool) (xs : List Item) (kvs : List (PData × PData)) (r : Bytes), MapShape mi df xs →
        mi.wf = true → ofPairs xs = some kvs → dsize mi ≤ fuel + 1 → decKvs fuel (mi.encode ++ r) = some (kvs, r)
  n : ∀ (xs : List Item) (ds : List PData) (r : Bytes), wfList xs = true → ofItems xs = some ds → dsizes xs ≤ fuel →
        decN fuel xs.length (encodeList xs ++ r) = some (ds, r)
  b : ∀ (xs : List Item) (ds : List PData) (r : Bytes), wfList xs = true → ofItems xs = some ds → dsizes xs + 1 ≤ fuel →
        decBreak fuel (encodeList xs ++ 0xff :: r) = some (ds, r)
  pn : ∀ (xs : List Item) (kvs : List (PData × PData)) (r : Bytes), wfList xs = true → ofPairs xs = some kvs →
        dsizes xs ≤ fuel → decPairsN fuel (xs.length / 2) (encodeList xs ++ r) = some (kvs, r)
  pb : ∀ (xs : List Item) (kvs : List (PData × PData)) (r : Bytes), wfList xs = true → ofPairs xs = some kvs →
        dsizes xs + 1 ≤ fuel → decPairsBreak fuel (encodeList xs ++ 0xff :: r) = some (kvs, r)

/-- no fuel: only the empty definite loops return -/
theorem refinesAt_zero : RefinesAt 0 where
  p i _ _ _ _ hf := by have := dsize_pos i; omega
  m _ _ _ _ _ hs _ _ hf := by have := (seqShape_dsize hs).1; omega
  v _ _ _ _ _ hs _ _ hf := by have := (seqShape_dsize hs).1; omega
  k _ _ _ _ _ hs _ _ hf := by have := (seqShape_dsize hs).1; omega
  n xs ds r _ ho hf := by
    cases xs with
    | nil => cases ho; rfl
    | cons x xs => simp only [dsizes] at hf; omega
  b _ _ _ _ _ hf := by omega
  pn xs kvs r _ ho hf := by
    cases xs with
    | nil => cases ho; rfl
    | cons x xs => simp only [dsizes] at hf; omega
  pb _ _ _ _ _ hf := by omega

theorem refinesAt_succ {f : Nat} (ih : RefinesAt f) (ih2 : ∀ g, g + 1 = f → RefinesAt g) : RefinesAt (f + 1) where
  p := by
    intro i d r hw ho hf
    cases ofItem_graph hw ho with
    | int hn => exact decP_int i _ r f hw hn
    | bytes hp => exact decP_bytes i _ r f hw hp hf
    | @array _ df xs ds hs hds =>
      have hv := ih.v i df xs ds r hs hw hds hf
      have hdt := datatype_seq hs hw r
      cases df <;> simp only [decP, hdt, hv, Option.map_some] <;> rfl
    | @map _ df xs kvs hs hk =>
      have hv := ih.k i df xs kvs r hs hw hk hf
      have hdt := datatype_seq hs hw r
      cases df <;> simp only [decP, hdt, hv, Option.map_some] <;> rfl
    | @big h j bs b hp hv =>
      simp only [dsize] at hf
      exact decP_big h j bs b r f hw hp hv (by omega)
    | @constr h fi df xs ds hc hs hds =>
      -- `decP_constr` passes through `decP` and `decConstr` at once, so the fields are read two levels down (`ih2`)
      simp only [dsize] at hf
      obtain ⟨g, rfl⟩ : ∃ g, f = g + 1 := ⟨f - 1, by have := dsize_pos fi; omega⟩
      exact decP_constr h fi df ds r g hw hc
        ((ih2 g rfl).m fi df xs ds r hs ((Item.wf_tag_iff h fi).1 hw).2.2.2 hds (by omega))
    | @constr102 h ha j fi dfo df xs ds h102 hout ham hs hds =>
      have hsz := (seqShape_dsize hout).1
      have hw2 := seqShape_wfList hout ((Item.wf_tag_iff h j).1 hw).2.2.2
      simp only [wfList, Bool.and_eq_true] at hw2
      simp only [dsizes] at hsz
      simp only [dsize] at hf
      obtain ⟨g, rfl⟩ : ∃ g, f = g + 1 := ⟨f - 1, by omega⟩
      exact decP_constr102 h ha j fi df ds r g hw h102 hout ham fun r' =>
        (ih2 g rfl).m fi df xs ds r' hs hw2.2.1 hds (by omega)
  m := by
    intro fi df xs ds r hs hw hds hf
    have hv := ih.v fi df xs ds r hs hw hds (by omega)
    have hdt := datatype_seq hs hw r
    cases df <;> simp only [decMaybeIndef, hdt, hv, Option.map_some] <;> rfl
  v := by
    intro fi df xs ds r hs hw hds hf
    obtain ⟨hsz, hsz'⟩ := seqShape_dsize hs
    have hxs := seqShape_wfList hs hw
    rcases hs with ⟨h, rfl, hm, rfl⟩ | ⟨rfl, rfl⟩
    · obtain ⟨hwf, _, hai, hlen, _⟩ := (Item.wf_seq_iff h xs).1 hw
      have hrs := readSeqHead_encode ⟨hwf, hm, hai⟩ (encodeList xs ++ r)
      rw [seqCount, if_pos hm] at hlen
      simp only [Item.encode, List.append_assoc, decVec, hrs, ← hlen, ih.n xs ds r hxs hds (by omega)]
    · have hrs := readSeqHead_encode_indef 4 (by decide) (encodeList xs ++ 0xff :: r)
      simp only [Item.encode, List.cons_append, List.append_assoc, List.nil_append, decVec, hrs]
      exact ih.b xs ds r hxs hds (by have := hsz' rfl; omega)
  k := by
    intro mi df xs kvs r hs hw hk hf
    obtain ⟨hsz, hsz'⟩ := seqShape_dsize hs
    have hxs := seqShape_wfList hs hw
    rcases hs with ⟨h, rfl, hm, rfl⟩ | ⟨rfl, rfl⟩
    · obtain ⟨hwf, _, hai, hlen, _⟩ := (Item.wf_seq_iff h xs).1 hw
      have hrs := readSeqHead_encode ⟨hwf, hm, hai⟩ (encodeList xs ++ r)
      have hval : h.val = xs.length / 2 := by rw [seqCount, hm] at hlen; simp at hlen; omega
      simp only [Item.encode, List.append_assoc, decKvs, hrs, hval, ih.pn xs kvs r hxs hk (by omega)]
    · have hrs := readSeqHead_encode_indef 5 (by decide) (encodeList xs ++ 0xff :: r)
      simp only [Item.encode, List.cons_append, List.append_assoc, List.nil_append, decKvs, hrs]
      exact ih.pb xs kvs r hxs hk (by have := hsz' rfl; omega)
  n := by
    intro xs ds r hw ho hf
    cases xs with
    | nil =>
      obtain rfl : [] = ds := by simpa only [ofItems, Option.some.injEq] using ho
      simp [decN, encodeList]
    | cons x xs =>
      obtain ⟨dx, dxs, hx, hxs, rfl⟩ := ofItems_cons_some.1 ho
      simp only [wfList, Bool.and_eq_true] at hw
      simp only [dsizes] at hf
      have h1 := ih.p x dx (encodeList xs ++ r) hw.1 hx (by omega)
      have h2 := ih.n xs dxs r hw.2 hxs (by omega)
      simp only [List.length_cons, encodeList, List.append_assoc, decN, h1, h2]
  b := by
    intro xs ds r hw ho hf
    cases xs with
    | nil =>
      obtain rfl : [] = ds := by simpa only [ofItems, Option.some.injEq] using ho
      simp [decBreak, encodeList]
    | cons x xs =>
      obtain ⟨dx, dxs, hx, hxs, rfl⟩ := ofItems_cons_some.1 ho
      simp only [wfList, Bool.and_eq_true] at hw
      simp only [dsizes] at hf
      obtain ⟨b, rest, he, hne⟩ := first_byte_ne_break x hw.1
      have h1 := ih.p x dx (encodeList xs ++ 0xff :: r) hw.1 hx (by omega)
      have h2 := ih.b xs dxs r hw.2 hxs (by omega)
      simp only [encodeList, List.append_assoc]
      rw [he] at h1 ⊢
      simp only [List.cons_append, decBreak, hne, if_false] at h1 ⊢
      simp only [h1, h2]
  pn := by
    intro xs kvs r hw ho hf
    match xs, ho with
    | [], ho =>
      obtain rfl : [] = kvs := by simpa only [ofPairs, Option.some.injEq] using ho
      simp [decPairsN, encodeList]
    | [_], ho => simp [ofPairs] at ho
    | k :: v :: xs, ho =>
      obtain ⟨dk, dv, dxs, hk, hv, hxs, rfl⟩ := ofPairs_cons_some.1 ho
      simp only [wfList, Bool.and_eq_true] at hw
      simp only [dsizes] at hf
      have h1 := ih.p k dk (v.encode ++ (encodeList xs ++ r)) hw.1 hk (by omega)
      have h2 := ih.p v dv (encodeList xs ++ r) hw.2.1 hv (by omega)
      have h3 := ih.pn xs dxs r hw.2.2 hxs (by omega)
      have hl : (k :: v :: xs).length / 2 = xs.length / 2 + 1 := by simp only [List.length_cons]; omega
      simp only [hl, encodeList, List.append_assoc, decPairsN, h1, h2, h3]
  pb := by
    intro xs kvs r hw ho hf
    match xs, ho with
    | [], ho =>
      obtain rfl : [] = kvs := by simpa only [ofPairs, Option.some.injEq] using ho
      simp [decPairsBreak, encodeList]
    | [_], ho => simp [ofPairs] at ho
    | k :: v :: xs, ho =>
      obtain ⟨dk, dv, dxs, hk, hv, hxs, rfl⟩ := ofPairs_cons_some.1 ho
      simp only [wfList, Bool.and_eq_true] at hw
      simp only [dsizes] at hf
      obtain ⟨b, rest, he, hne⟩ := first_byte_ne_break k hw.1
      have h1 := ih.p k dk (v.encode ++ (encodeList xs ++ 0xff :: r)) hw.1 hk (by omega)
      have h2 := ih.p v dv (encodeList xs ++ 0xff :: r) hw.2.1 hv (by omega)
      have h3 := ih.pb xs dxs r hw.2.2 hxs (by omega)
      simp only [encodeList, List.append_assoc]
      rw [he] at h1 ⊢
      simp only [List.cons_append, decPairsBreak, hne, if_false] at h1 ⊢
      simp only [h1, h2, h3]

theorem refinesAt : ∀ fuel, RefinesAt fuel
  | 0 => refinesAt_zero
  | 1 => refinesAt_succ refinesAt_zero nofun
  | f + 2 => refinesAt_succ (refinesAt (f + 1)) fun | _, rfl => refinesAt f

theorem decP_refines (fuel : Nat) : ∀ (i : Item) (d : PData) (r : Bytes),
    i.wf = true → ofItem i = some d → dsize i ≤ fuel → decP fuel (i.encode ++ r) = some (d, r) :=
  (refinesAt fuel).p

theorem decN_refines : ∀ (xs : List Item) (ds : List PData) (fuel : Nat) (r : Bytes),
    wfList xs = true → ofItems xs = some ds → dsizes xs ≤ fuel →
    decN fuel xs.length (encodeList xs ++ r) = some (ds, r) :=
  fun xs ds fuel r => (refinesAt fuel).n xs ds r

theorem decBreak_refines : ∀ (xs : List Item) (ds : List PData) (fuel : Nat) (r : Bytes),
    wfList xs = true → ofItems xs = some ds → dsizes xs + 1 ≤ fuel →
    decBreak fuel (encodeList xs ++ 0xff :: r) = some (ds, r) :=
  fun xs ds fuel r => (refinesAt fuel).b xs ds r

theorem decPairsN_refines : ∀ (xs : List Item) (kvs : List (PData × PData)) (fuel : Nat) (r : Bytes),
    wfList xs = true → ofPairs xs = some kvs → dsizes xs ≤ fuel →
    decPairsN fuel (xs.length / 2) (encodeList xs ++ r) = some (kvs, r) :=
  fun xs kvs fuel r => (refinesAt fuel).pn xs kvs r

theorem decPairsBreak_refines : ∀ (xs : List Item) (kvs : List (PData × PData)) (fuel : Nat) (r : Bytes),
    wfList xs = true → ofPairs xs = some kvs → dsizes xs + 1 ≤ fuel →
    decPairsBreak fuel (encodeList xs ++ 0xff :: r) = some (kvs, r) :=
  fun xs kvs fuel r => (refinesAt fuel).pb xs kvs r

mutual
/-- the 4 is the factor in `fuelFor`: no node needs more levels than that per byte of its own -/
theorem dsize_le : ∀ i : Item, dsize i + 1 ≤ 4 * i.encode.length
  | .atom h | .str h _ => by have := Head.encode_length_pos h; simp [dsize, Item.encode]; omega
  | .strIndef m cs => by have := encodeChunks_length cs; simp [dsize, Item.encode]; omega
  | .seq h xs => by
    have := Head.encode_length_pos h; have := dsizes_le xs; simp [dsize, Item.encode]; omega
  | .seqIndef m xs => by have := dsizes_le xs; simp [dsize, Item.encode]; omega
  | .tag h i => by
    have := Head.encode_length_pos h; have := dsize_le i; simp [dsize, Item.encode]; omega
theorem dsizes_le : ∀ xs : List Item, dsizes xs ≤ 4 * (encodeList xs).length
  | [] => by simp [dsizes]
  | x :: xs => by have := dsize_le x; have := dsizes_le xs; simp [dsizes, encodeList]; omega
end

theorem decodeBytes_refines (i : Item) (d : PData) (r : Bytes) (hw : i.wf = true) (ho : ofItem i = some d) :
    decodeBytes (i.encode ++ r) = some (d, r) := by
  unfold decodeBytes fuelFor
  apply decP_refines _ i d r hw ho
  have := dsize_le i
  simp only [List.length_append]; omega

theorem decodeBytes_of_decode (bs : Bytes) (d : PData) (h : decode bs = some d) :
    ∃ r, decodeBytes bs = some (d, r) := by
  unfold decode at h
  split at h
  · rename_i i r hp
    obtain ⟨e, hw⟩ := parseItem_sound bs i r hp
    exact ⟨r, by rw [e]; exact decodeBytes_refines i d r hw h⟩
  · simp at h

end PallasVerif.PlutusData.Dec
