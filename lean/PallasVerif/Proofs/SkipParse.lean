import PallasVerif.Proofs.Minicbor
/-!
  `skip()` on the encoding of an item of the *definite* fragment (`plain`: no indefinite-length node, valid UTF-8 in
  text strings). One round of the loop at the head of each form of item (`skipArm_atom` … `skipArm_tagged`, from the equations
  per range of the initial byte in `Proofs/Minicbor`); `skipLoop_item`: walking over one item, with any number of items pending
  after it, counts that number down by one; `skip_item`: `skip()` walks over exactly one item's encoding. The strict parser
  comes in only where C03 concludes, through `parseItem_sound`, that `AnyCbor` captures what `parseItem` finds.
  The network stack transcribes the same loop a second time (`Model/NetCodec`); for that transcription `NetSkipFull` proves
  the result without the restriction to the definite fragment. The two models are separate functions, so neither proof
  serves the other.
-/
namespace PallasVerif.Minicbor
open PallasVerif.Cbor
open PallasVerif.NetCodec (heads headsList heads_le_length)

mutual
/-- the definite fragment: no indefinite-length node anywhere, and every text string valid UTF-8 (which `skip()`,
    unlike the strict parser, checks) -/
def plain : Item → Bool
  | .atom _ => true
  | .str h bs => if h.major = 3 then utf8Valid bs else true
  | .strIndef _ _ => false
  | .seq _ xs => plainList xs
  | .seqIndef _ _ => false
  | .tag _ i => plain i
def plainList : List Item → Bool
  | [] => true
  | x :: xs => plain x && plainList xs
end

theorem skipArm_atom (st : SkipSt) (h : Head) (rest : Bytes) (hw : (Item.atom h).wf = true) :
    skipArm st (h.encode ++ rest) = .ok (st, true) rest := by
  obtain ⟨hwf, hm, hai⟩ := (Item.wf_atom_iff h).mp hw
  obtain ⟨hu, hv, h27, _, hinf⟩ := unsigned_head h rest hwf hai
  have hb := h.initByte_toNat hwf
  rw [Head.encode, List.cons_append]
  rcases hm with hm | hm | hm
  · have e := uintN_head 64 h rest ⟨hwf, hm, hai⟩
    rw [Head.encode, List.cons_append] at e
    rw [skipArm_uint _ _ _ (by omega), Minicbor.u64, e, if_pos hv]; rfl
  · have e := (int_head h rest hwf hai).2 hm
    rw [Head.encode, List.cons_append] at e
    rw [skipArm_nint _ _ _ (by omega), e]; rfl
  · rw [skipArm_simple _ _ _ (by omega)]
    simp [hinf, hu]

theorem skipArm_str (st : SkipSt) (h : Head) (bs rest : Bytes) (hw : (Item.str h bs).wf = true)
    (hp : plain (.str h bs) = true) : skipArm st (h.encode ++ bs ++ rest) = .ok (st, true) rest := by
  obtain ⟨hwf, hm, hai, hlen⟩ := (Item.wf_str_iff h bs).mp hw
  obtain ⟨hu, _, h27, hmaj, hinf⟩ := unsigned_head h (bs ++ rest) hwf hai
  have hb := h.initByte_toNat hwf
  have hrs : readSlice h.val (bs ++ rest) = .ok bs rest := by rw [← hlen]; exact readSlice_append bs rest
  rw [Head.encode, List.cons_append, List.cons_append, List.append_assoc]
  rcases hm with hm | hm
  · rw [skipArm_bytes _ _ _ (by omega)]
    simp only [bytesIter, hmaj, hinf]
    rw [if_neg (by omega), if_neg hai]
    simp [hu, hrs]
  · rw [skipArm_text _ _ _ (by omega)]
    have hutf : utf8Valid bs = true := by simpa [plain, hm] using hp
    simp only [strIter, hmaj, hinf]
    rw [if_neg (by omega), if_neg hai]
    simp [hu, hrs, hutf]

/-- major 4 / 5, definite: the children are added to the pending count -/
theorem skipArm_seq (n : Nat) (h : Head) (xs : List Item) (tail : Bytes) (hw : (Item.seq h xs).wf = true)
    (hn : 1 ≤ n) (hbound : n + xs.length ≤ u64Max) :
    skipArm ⟨n, 0, []⟩ (h.encode ++ tail) = .ok (⟨n + xs.length, 0, []⟩, true) tail := by
  obtain ⟨hwf, hm, hai, hlen, _⟩ := (Item.wf_seq_iff h xs).mp hw
  have h27 := Head.ai_le_of_wf hwf hai
  have hb := h.initByte_toNat hwf
  -- the count comes as `h.val` for an array and as `satMul h.val 2` for a map: stated for any `k` equal to the
  -- number of children, so that both arms rewrite with it
  have hdef : ∀ k, k = xs.length → skipDef ⟨n, 0, []⟩ k = ⟨n + xs.length, 0, []⟩ := by
    intro k hk
    unfold skipDef
    by_cases hz : k = 0
    · rw [if_pos hz, ← hk, hz]; rfl
    · rw [if_neg hz, if_neg (by simp only; omega)]
      simp only [satAdd]; rw [if_pos (by omega), hk]
  rw [Head.encode, List.cons_append]
  rcases hm with hm | hm
  · have e := seqHead_head 4 h tail ⟨hwf, hm, hai⟩
    rw [Head.encode, List.cons_append] at e
    rw [skipArm_array _ _ _ (by omega), array, e]
    show Res.ok (skipDef _ h.val, true) tail = _
    rw [hdef _ (by simpa [seqCount, hm] using hlen.symm)]
  · have hcount : xs.length = 2 * h.val := by simpa [seqCount, hm] using hlen
    have hmul : satMul h.val 2 = 2 * h.val := by unfold satMul; rw [if_pos (by omega)]; omega
    have e := seqHead_head 5 h tail ⟨hwf, hm, hai⟩
    rw [Head.encode, List.cons_append] at e
    rw [skipArm_map _ _ _ (by omega), Minicbor.map, e]
    show Res.ok (skipDef _ (satMul h.val 2), true) tail = _
    rw [hmul, hdef _ hcount.symm]

theorem skipArm_tagged (st : SkipSt) (h : Head) (i : Item) (tail : Bytes) (hw : (Item.tag h i).wf = true) :
    skipArm st (h.encode ++ tail) = .ok (st, false) tail := by
  obtain ⟨hwf, hm, hai, _⟩ := (Item.wf_tag_iff h i).mp hw
  obtain ⟨hu, _, h27, _, hinf⟩ := unsigned_head h tail hwf hai
  have hb := h.initByte_toNat hwf
  rw [Head.encode, List.cons_append, skipArm_tag _ _ _ (by omega)]
  simp [hinf, hu]

theorem skipLoop_step {f n : Nat} {cur c : Bytes} {st' : SkipSt} {post : Bool}
    (h : skipArm ⟨n + 1, 0, []⟩ cur = .ok (st', post) c) :
    skipLoop (f + 1) ⟨n + 1, 0, []⟩ cur =
      if post then (match skipAfter st' with | none => .ok () c | some st'' => skipLoop f st'' c) else skipLoop f st' c := by
  rw [skipLoop, if_neg (by simp), h]; rfl

mutual
/-- On the definite fragment the state stays `⟨pending items, 0, []⟩`. Walking over one item, with whatever
    number `n` of items pending after it, takes `heads i` rounds and leaves `n` pending. The pending count is a
    saturating `u64`; it never exceeds `n` plus the bytes of the item, hence the bound. -/
theorem skipLoop_item : ∀ (i : Item) (f n : Nat) (r : Bytes), i.wf = true → plain i = true →
    n + i.encode.length ≤ u64Max →
    skipLoop (f + heads i) ⟨n + 1, 0, []⟩ (i.encode ++ r) = skipLoop f ⟨n, 0, []⟩ r
  | .atom h, f, n, r, hw, _, _ => by
    rw [heads, Item.encode, skipLoop_step (skipArm_atom _ h r hw)]; rfl
  | .str h bs, f, n, r, hw, hp, _ => by
    rw [heads, Item.encode, skipLoop_step (skipArm_str _ h bs r hw hp)]; rfl
  | .strIndef _ _, _, _, _, _, hp, _ | .seqIndef _ _, _, _, _, _, hp, _ => by simp [plain] at hp
  | .seq h ys, f, n, r, hw, hp, hb => by
    have hwys := ((Item.wf_seq_iff h ys).mp hw).2.2.2.2
    have hl := length_le_encodeList ys
    have := Head.encode_length_pos h
    simp only [Item.encode, List.length_append] at hb
    have e : f + heads (.seq h ys) = (f + headsList ys) + 1 := by simp only [heads]; omega
    rw [e, Item.encode, List.append_assoc, skipLoop_step (skipArm_seq (n + 1) h ys _ hw (by omega) (by omega)),
      show n + 1 + ys.length = n + ys.length + 1 by omega]
    exact skipLoop_items ys f n r hwys hp (by omega)
  | .tag h i, f, n, r, hw, hp, hb => by
    have hwi := ((Item.wf_tag_iff h i).mp hw).2.2.2
    have := Head.encode_length_pos h
    simp only [Item.encode, List.length_append] at hb
    have e : f + heads (.tag h i) = (f + heads i) + 1 := by simp only [heads]; omega
    rw [e, Item.encode, List.append_assoc, skipLoop_step (skipArm_tagged _ h i _ hw)]
    exact skipLoop_item i f n r hwi hp (by omega)
theorem skipLoop_items : ∀ (xs : List Item) (f n : Nat) (r : Bytes), wfList xs = true → plainList xs = true →
    n + (encodeList xs).length ≤ u64Max →
    skipLoop (f + headsList xs) ⟨n + xs.length, 0, []⟩ (encodeList xs ++ r) = skipLoop f ⟨n, 0, []⟩ r
  | [], _, _, _, _, _, _ => rfl
  | x :: xs, f, n, r, hw, hp, hb => by
    simp only [wfList, plainList, Bool.and_eq_true] at hw hp
    simp only [encodeList, List.length_append] at hb
    have hl := length_le_encodeList xs
    have e : f + headsList (x :: xs) = (f + headsList xs) + heads x := by simp only [headsList]; omega
    rw [e, encodeList, List.append_assoc]
    show skipLoop _ ⟨n + xs.length + 1, 0, []⟩ _ = _
    rw [skipLoop_item x _ _ _ hw.1 hp.1 (by omega)]
    exact skipLoop_items xs f n r hw.2 hp.2 (by omega)
end

/-- the fuel `skip` gives its loop (one unit per byte, and one) covers the `heads i` rounds and the final test -/
theorem skip_item (i : Item) (r : Bytes) (hw : i.wf = true) (hp : plain i = true) (hlen : i.encode.length ≤ u64Max) :
    skip (i.encode ++ r) = .ok () r := by
  have hn := heads_le_length i
  obtain ⟨f, hf⟩ : ∃ f, (i.encode ++ r).length + 1 = (f + 1) + heads i :=
    ⟨(i.encode ++ r).length - heads i, by rw [List.length_append]; omega⟩
  rw [skip, hf, skipLoop_item i _ 0 r hw hp (by omega)]
  rfl

end PallasVerif.Minicbor
