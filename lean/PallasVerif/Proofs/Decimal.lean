import PallasVerif.Model.Decimal
/-! Integer facts behind C17 (`Props/C17.lean`) and the fixed-point layers of C15/C16: dashu's
    truncating `div_rem` against floor division (`scale`, `floor`, `ceil` are floor divisions, `trunc`
    is one of the two by sign, `round` is `trunc` plus a step), the two-step `div` = one truncating
    division. Core Lean only. -/
namespace PallasVerif.Proofs.Decimal
open PallasVerif.Decimal

theorem P_pos : 0 < P := by decide
theorem mult_pos (p : Nat) : 0 < mult p := Int.pow_pos (by decide)
theorem mult_default : mult defaultPrec = P := by decide

theorem tmod_cases (d m : Int) (hm : 0 < m) :
    (0 ≤ d ∧ 0 ≤ d.tmod m ∧ d.tmod m < m) ∨ (d < 0 ∧ -m < d.tmod m ∧ d.tmod m ≤ 0) := by
  by_cases hz : 0 ≤ d
  · exact Or.inl ⟨hz, Int.tmod_nonneg m hz, Int.tmod_lt_of_pos d hm⟩
  · have h1 := Int.neg_tmod d m
    have h2 := Int.tmod_nonneg m (show 0 ≤ -d by omega)
    have h3 := Int.tmod_lt_of_pos (-d) hm
    exact Or.inr (by omega)

theorem ne_zero_of_tmod_ne_zero {d m : Int} (h : d.tmod m ≠ 0) : d ≠ 0 :=
  fun e => h (e ▸ Int.zero_tmod m)

theorem natAbs_tmod_lt (d m : Int) (hm : 0 < m) : ((d.tmod m).natAbs : Int) < m := by
  rcases tmod_cases d m hm with h | h <;> omega

theorem natAbs_tdiv_tmod (d m : Int) :
    (d.tdiv m).natAbs * m.natAbs + (d.tmod m).natAbs = d.natAbs := by
  rw [Int.natAbs_tdiv, Int.natAbs_tmod, Nat.mul_comm]
  exact Nat.div_add_mod _ _

/-- the correction dashu's callers (`scale`, `floor`) apply by hand after `div_rem` -/
theorem ediv_eq_tdiv (d m : Int) (hm : 0 < m) :
    d / m = if d < 0 ∧ d.tmod m ≠ 0 then d.tdiv m - 1 else d.tdiv m := by
  have h := Int.tdiv_eq_ediv (a := d) (b := m)
  simp only [Int.sign_eq_one_of_pos hm, Int.dvd_iff_tmod_eq_zero] at h
  omega

theorem scale_eq_ediv (z : Int) : scale z = z / P := (ediv_eq_tdiv z P P_pos).symm

theorem scale_bounds (z : Int) : scale z * P ≤ z ∧ z < (scale z + 1) * P := by
  rw [scale_eq_ediv]
  exact ⟨Int.ediv_mul_le z (Int.ne_of_gt P_pos), Int.lt_ediv_add_one_mul_self z P_pos⟩

theorem scale_nonneg (z : Int) (hz : 0 ≤ z) : 0 ≤ scale z := by
  rw [scale_eq_ediv]; exact Int.ediv_nonneg hz (Int.le_of_lt P_pos)

theorem floor_data (x : Dec) : (floor x).data = mult x.prec * (x.data / mult x.prec) := by
  have h := Int.mul_tdiv_add_tmod x.data (mult x.prec)
  simp only [floor, isNeg, decide_eq_true_eq]
  rw [ediv_eq_tdiv _ _ (mult_pos _)]
  split
  · rw [Int.mul_sub, Int.mul_one]; omega
  · omega

theorem ceil_data (x : Dec) : (ceil x).data = mult x.prec * -(-x.data / mult x.prec) := by
  have h := Int.mul_tdiv_add_tmod x.data (mult x.prec)
  -- for `omega`: with a non-zero remainder, `¬ d < 0` is `0 < d`
  have h0 := @ne_zero_of_tmod_ne_zero x.data (mult x.prec)
  simp only [ceil, isNeg, decide_eq_true_eq]
  rw [Int.mul_neg, ediv_eq_tdiv _ _ (mult_pos _), Int.neg_tmod, Int.neg_tdiv]
  split
  · rw [if_pos (by omega), Int.mul_sub, Int.mul_neg, Int.mul_one]; omega
  · rw [if_neg (by omega), Int.mul_neg]; omega

theorem trunc_data (x : Dec) : (trunc x).data = mult x.prec * x.data.tdiv (mult x.prec) := by
  have := Int.mul_tdiv_add_tmod x.data (mult x.prec)
  simp only [trunc]; omega

theorem trunc_of_nonneg (x : Dec) (h : 0 ≤ x.data) : trunc x = floor x := by
  have hc : ¬ (x.data < 0 ∧ x.data.tmod (mult x.prec) ≠ 0) := by omega
  simp only [trunc, floor, isNeg, decide_eq_true_eq, if_neg hc]

theorem trunc_of_nonpos (x : Dec) (h : x.data ≤ 0) : trunc x = ceil x := by
  have h0 := @ne_zero_of_tmod_ne_zero x.data (mult x.prec)
  have hc : ¬ (¬ x.data < 0 ∧ x.data.tmod (mult x.prec) ≠ 0) := by omega
  simp only [trunc, ceil, isNeg, decide_eq_true_eq, if_neg hc]

/-- `round` halves `10^prec` -/
theorem mult_parity (p : Nat) : mult p = 1 ∨ mult p % 2 = 0 := by
  cases p with
  | zero => exact Or.inl rfl
  | succ n => right; rw [mult, Int.pow_succ]; omega

theorem round_prec (x : Dec) : (round x).prec = x.prec := by
  simp only [round, apply_ite Dec.prec, ite_self]

/-- `round` is the truncation `d - r` moved by `m·j`, `j ∈ {-1, 0, 1}`, to within `m/2` of `d` -/
theorem round_core (x : Dec) :
    ∃ j : Int, (round x).data = x.data - x.data.tmod (mult x.prec) + mult x.prec * j ∧
      2 * (mult x.prec * j - x.data.tmod (mult x.prec)) ≤ mult x.prec ∧
      2 * (x.data.tmod (mult x.prec) - mult x.prec * j) ≤ mult x.prec := by
  have hm := mult_pos x.prec
  have hpar := mult_parity x.prec
  have hs := tmod_cases x.data (mult x.prec) hm
  simp only [round, isNeg, decide_eq_true_eq, apply_ite Dec.data]
  rw [Int.tdiv_eq_ediv_of_nonneg (Int.le_of_lt hm)]
  generalize x.data.tmod (mult x.prec) = r at hs ⊢
  by_cases h : r ≠ 0 ∧ (r.natAbs : Int) ≥ mult x.prec / 2
  · by_cases hd : x.data < 0
    · refine ⟨-1, by rw [if_pos h, if_pos hd]; omega, ?_⟩; omega
    · refine ⟨1, by rw [if_pos h, if_neg hd]; omega, ?_⟩; omega
  · refine ⟨0, by rw [if_neg h]; omega, ?_⟩; omega

theorem two_step_div (x y p : Nat) (hy : 0 < y) : (x / y) * p + ((x % y) * p) / y = (x * p) / y := by
  have h : x * p = y * ((x / y) * p) + (x % y) * p := by
    rw [← Nat.mul_assoc, ← Nat.add_mul, Nat.div_add_mod]
  rw [h, Nat.mul_add_div hy]

/-- the two-step quotient equals the one-step one: the partial remainder carries the sign of the
    dividend, so both truncations go the same way. Negating `x` or `y` negates both sides, which leaves the
    identity on naturals -/
theorem div_core (x y p : Int) (hp : 0 ≤ p) (hy : y ≠ 0) :
    x.tdiv y * p + (x.tmod y * p).tdiv y = (x * p).tdiv y := by
  obtain ⟨p, rfl⟩ := Int.eq_ofNat_of_zero_le hp
  induction y using Int.wlog_sign with
  | inv y => simp only [Int.tdiv_neg, Int.tmod_neg, Int.neg_mul, ← Int.neg_add, Int.neg_inj, Int.neg_ne_zero]
  | w m =>
    induction x using Int.wlog_sign with
    | inv x => simp only [Int.neg_tdiv, Int.neg_tmod, Int.neg_mul, ← Int.neg_add, Int.neg_inj]
    | w n =>
      have := congrArg Int.ofNat (two_step_div n m p (by omega))
      simp only [Int.ofNat_eq_natCast, Int.natCast_add, Int.natCast_mul, Int.ofNat_tdiv, Int.ofNat_tmod] at this
      omega

theorem div_eq_tdiv (x y : Int) (hy : y ≠ 0) : div x y = some ((x * P).tdiv y) := by
  unfold div
  simp only [hy, if_false, Option.some.injEq]
  exact div_core x y P (Int.le_of_lt P_pos) hy

theorem div_zero (x : Int) : div x 0 = none := by simp [div]

end PallasVerif.Proofs.Decimal
