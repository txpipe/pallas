import PallasVerif.Model.Value
/-! What the value arithmetic of `Model/Value.lean` does (for C34 and C33): each function gets one statement `r.Sat X P` — a
    success satisfies `P`, a panic happens only if `X` — with `P` the exact totals (`tot`) of association-list multi-assets
    through `upsert`, the merge loops, the validation passes and the sums, and the unique keys the equality test needs. -/
namespace PallasVerif
namespace Value

/-- a success of `r` satisfies `P`, and `r` panics only if `X`. The model's functions are stated at `X := False`; `upsert` and the
    two merge loops for any `X`, so that `X := True` gives `mergePolicies_tot`, whose hypothesis `Exact` speaks of successes only. -/
def R.Sat {α : Type} (X : Prop) (r : R α) (P : α → Prop) : Prop :=
  match r with
  | .ok a => P a
  | .err => True
  | .panic => X

section
variable {α β : Type} {X : Prop}

theorem R.Sat.ok {r : R α} {P : α → Prop} {a : α} (h : r.Sat X P) (hr : r = .ok a) : P a := by
  subst hr; exact h

theorem R.Sat.np {r : R α} {P : α → Prop} (h : r.Sat False P) : r ≠ .panic := by
  intro hr; subst hr; exact h

/-- how a function that matches on `r` is entered: rewrite with the outcome, the `match` then reduces -/
theorem R.Sat.out {r : R α} {P : α → Prop} (h : r.Sat False P) : r = .err ∨ ∃ a, r = .ok a ∧ P a := by
  cases r with
  | ok a => exact .inr ⟨a, rfl, h⟩
  | err => exact .inl rfl
  | panic => exact h.elim

theorem R.Sat.imp {r : R α} {P Q : α → Prop} (h : r.Sat X P) (hPQ : ∀ a, P a → Q a) : r.Sat X Q := by
  cases r with
  | ok a => exact hPQ a h
  | err => trivial
  | panic => exact h

theorem R.Sat.bind {r : R α} {f : α → R β} {P : α → Prop} {Q : β → Prop} (h : r.Sat X P)
    (hf : ∀ a, P a → (f a).Sat X Q) : (r.bind f).Sat X Q := by
  cases r with
  | ok a => exact hf a h
  | err => trivial
  | panic => exact h

theorem R.Sat.map {r : R α} {f : α → β} {P : α → Prop} {Q : β → Prop} (h : r.Sat X P)
    (hf : ∀ a, P a → Q (f a)) : (r.map f).Sat X Q :=
  h.bind hf

/-- every checked machine operation of the model is `if c then .err else .ok x` -/
theorem sat_guard {c : Prop} [Decidable c] {x : α} {P : α → Prop} (h : ¬ c → P x) :
    (if c then R.err else .ok x).Sat False P := by
  split
  · trivial
  · exact h ‹_›

end

/-- sum of `μ v` over *all* entries with key `k`, so that the merge loops need no uniqueness of keys and nothing is hidden by a
    look-up; under unique keys it is the look-up (`sumKey_get`), which is how the equality test is reached -/
def sumKey {β : Type} (μ : β → Int) : AMap β → String → Int
  | [], _ => 0
  | (k', v) :: rest, k => (if k' = k then μ v else 0) + sumKey μ rest k

def totA (as : AMap Int) (n : String) : Int := sumKey id as n
/-- exact quantity of asset `(p, n)` in a multi-asset -/
def tot (m : MA) (p n : String) : Int := sumKey (fun as => totA as n) m p

theorem tot_nil (p n : String) : tot [] p n = 0 := rfl

def keys {β : Type} (m : AMap β) : List String := m.map (·.1)
def NodupMA (m : MA) : Prop := (keys m).Nodup ∧ ∀ e ∈ m, (keys e.2).Nodup

theorem nodupMA_nil : NodupMA [] := ⟨by simp [keys], by intro e he; cases he⟩

/-- the hypothesis of `mergePolicies_tot`: the success half of `Ops` (`Exact.ops`) -/
def Exact (add : Int → Int → R Int) (fresh : Int → R Int) : Prop :=
  (∀ x a v, add x a = .ok v → v = x + a) ∧ (∀ a v, fresh a = .ok v → v = a)

/-- what the merge loops need of their arithmetic -/
def Ops (X : Prop) (add : Int → Int → R Int) (fresh : Int → R Int) : Prop :=
  (∀ x a, (add x a).Sat X (· = x + a)) ∧ (∀ a, (fresh a).Sat X (· = a))

theorem Exact.ops {add : Int → Int → R Int} {fresh : Int → R Int} (h : Exact add fresh) : Ops True add fresh :=
  ⟨fun x a => by cases hr : add x a <;> first | exact h.1 x a _ hr | trivial,
   fun a => by cases hr : fresh a <;> first | exact h.2 a _ hr | trivial⟩

theorem ops_i64 : Ops False addI64 R.ok := ⟨fun _ _ => sat_guard fun _ => rfl, fun _ => rfl⟩
theorem ops_u64 : Ops False addU64 R.ok := ⟨fun _ _ => sat_guard fun _ => rfl, fun _ => rfl⟩
theorem ops_mint : Ops False mintAdd mintFresh := ⟨fun _ _ => sat_guard fun _ => rfl, fun _ => sat_guard fun _ => rfl⟩

/-- what `upsert` does: if `f` changes each measure `μ i` of the entry at `k` by exactly `d i` (an absent entry counting as
    `0`) and maintains `Q`, then `sumKey (μ i) · k` changes by `d i` and no other key does, and unique keys with `Q` on every
    value are kept (that no key but `k` is added is what the induction needs for the uniqueness). The index `i` serves the
    policy level, whose measure `totA · n` is one per asset name. -/
theorem upsert_sat {β ι : Type} {X : Prop} (μ : ι → β → Int) (d : ι → Int) (Q : β → Prop) (k : String)
    (f : Option β → R β)
    (hf : ∀ o, (f o).Sat X fun v =>
      (∀ i, μ i v = (match o with | some x => μ i x | none => 0) + d i) ∧ ((∀ x, o = some x → Q x) → Q v)) :
    ∀ m : AMap β, (upsert m k f).Sat X fun m' =>
      (∀ i q, sumKey (μ i) m' q = sumKey (μ i) m q + (if k = q then d i else 0)) ∧
      ((keys m).Nodup → (∀ e ∈ m, Q e.2) →
        (∀ q ∈ keys m', q = k ∨ q ∈ keys m) ∧ (keys m').Nodup ∧ ∀ e ∈ m', Q e.2) := by
  intro m
  fun_induction upsert m k f with
  | case1 =>  -- no entry left: `k` is new
    refine (hf none).map fun v hv => ⟨fun i q => ?_, fun _ _ => ⟨fun q hq => .inl (List.mem_singleton.mp hq),
      List.nodup_cons.mpr ⟨List.not_mem_nil, List.nodup_nil⟩, fun e he => ?_⟩⟩
    · have hμ : μ i v = 0 + d i := hv.1 i
      simp only [sumKey, hμ, Int.add_zero, Int.zero_add]
    · cases List.mem_singleton.mp he
      exact hv.2 nofun
  | case2 v rest =>  -- the head has key `k`
    refine (hf (some v)).map fun v' hv => ⟨fun i q => ?_, fun hn hQ => ?_⟩
    · have hμ : μ i v' = μ i v + d i := hv.1 i
      simp only [sumKey, hμ]
      split
      · exact Int.add_right_comm _ _ _
      · exact (Int.add_zero _).symm
    · obtain ⟨hQv, hQr⟩ := List.forall_mem_cons.mp hQ
      exact ⟨fun q hq => .inr hq, hn, List.forall_mem_cons.mpr ⟨hv.2 fun x hx => by cases hx; exact hQv, hQr⟩⟩
  | case3 k' v rest hk ih =>  -- another key at the head
    refine ih.map fun r hr => ⟨fun i q => by simp only [sumKey, hr.1 i q, Int.add_assoc], fun hn hQ => ?_⟩
    obtain ⟨hk', hnr⟩ := List.nodup_cons.mp hn
    obtain ⟨hQv, hQr⟩ := List.forall_mem_cons.mp hQ
    obtain ⟨h1, h2, h3⟩ := hr.2 hnr hQr
    exact ⟨List.forall_mem_cons.mpr ⟨.inr List.mem_cons_self, fun q hq => (h1 q hq).imp id (List.mem_cons_of_mem _)⟩,
      List.nodup_cons.mpr ⟨fun hm => (h1 k' hm).elim hk hk', h2⟩, List.forall_mem_cons.mpr ⟨hQv, h3⟩⟩

theorem addAssets_sat {X : Prop} {add : Int → Int → R Int} {fresh : Int → R Int} (h : Ops X add fresh) :
    ∀ (as old : AMap Int), (addAssets add fresh old as).Sat X fun old' =>
      (∀ n, totA old' n = totA old n + totA as n) ∧ ((keys old).Nodup → (keys old').Nodup) := by
  intro as old
  fun_induction addAssets add fresh old as with
  | case1 old => exact ⟨fun _ => (Int.add_zero _).symm, id⟩
  | case2 old n0 a rest ih =>
    refine (upsert_sat (ι := Unit) (fun _ => id) (fun _ => a) (fun _ => True) n0 _ (fun o => ?_) old).bind fun old1 h1 =>
      (ih old1).imp fun old' h2 => ⟨fun n => ?_, fun hn => h2.2 (h1.2 hn fun _ _ => trivial).2.1⟩
    · cases o with
      | some x => exact (h.1 x a).imp fun _ e => ⟨fun _ => e, fun _ => trivial⟩
      | none => exact (h.2 a).imp fun _ e => ⟨fun _ => e.trans (Int.zero_add a).symm, fun _ => trivial⟩
    · have hup := h1.1 () n
      have hrest := h2.1 n
      simp only [totA, sumKey, id] at hup hrest ⊢
      rw [hrest, hup, Int.add_assoc]

theorem mergePolicies_sat {X : Prop} {add : Int → Int → R Int} {fresh : Int → R Int} (h : Ops X add fresh) :
    ∀ (x res : MA), (mergePolicies add fresh res x).Sat X fun res' =>
      (∀ p n, tot res' p n = tot res p n + tot x p n) ∧ (NodupMA res → NodupMA res') := by
  intro x res
  fun_induction mergePolicies add fresh res x with
  | case1 res => exact ⟨fun _ _ => (Int.add_zero _).symm, id⟩
  | case2 res p0 as rest ih =>
    refine (upsert_sat (fun n x => totA x n) (fun n => totA as n) (fun as => (keys as).Nodup) p0 _ (fun o => ?_) res).bind
      fun res1 h1 =>
      (ih res1).imp fun res' h2 => ⟨fun p n => ?_, fun hn => h2.2 (h1.2 hn.1 hn.2).2⟩
    · refine (addAssets_sat h as (o.getD [])).imp fun _ ha => ⟨fun n => ?_, fun ho => ha.2 ?_⟩
      · cases o <;> exact ha.1 n
      · cases o with
        | none => exact List.nodup_nil
        | some x => exact ho x rfl
    · have hup := h1.1 n p
      have hrest := h2.1 p n
      simp only [tot, sumKey] at hup hrest ⊢
      rw [hrest, hup, Int.add_assoc]

theorem mergePolicies_tot (add : Int → Int → R Int) (fresh : Int → R Int) (hex : Exact add fresh) :
    ∀ (x res res' : MA), mergePolicies add fresh res x = .ok res' →
    ∀ p n, tot res' p n = tot res p n + tot x p n :=
  fun x res _ h => ((mergePolicies_sat hex.ops x res).ok h).1

/-! ### the equality test: under unique keys a total is a look-up -/

theorem sumKey_not_mem {β : Type} (μ : β → Int) (k : String) :
    ∀ (m : AMap β), k ∉ keys m → sumKey μ m k = 0 := by
  intro m h
  fun_induction sumKey μ m k with
  | case1 => rfl
  | case2 k0 v rest k ih =>
    simp only [keys, List.map_cons, List.mem_cons, not_or] at h
    have : ¬ k0 = k := fun e => h.1 e.symm
    simp [this, ih h.2]

theorem sumKey_get {β : Type} (μ : β → Int) (k : String) :
    ∀ (m : AMap β), (keys m).Nodup →
    sumKey μ m k = (match AMap.get m k with | some v => μ v | none => 0) := by
  intro m hn
  fun_induction AMap.get m k with
  | case1 => rfl
  | case2 v rest k =>  -- the head has key `k`: no later entry has it
    simp only [keys, List.map_cons, List.nodup_cons] at hn
    simp [sumKey, sumKey_not_mem μ k rest hn.1]
  | case3 k0 v rest k hk ih =>  -- another key at the head
    simp only [keys, List.map_cons, List.nodup_cons] at hn
    simp [sumKey, hk, ih hn.2]

theorem get_mem {β : Type} (k : String) (v : β) : ∀ (m : AMap β), AMap.get m k = some v → (k, v) ∈ m := by
  intro m h
  fun_induction AMap.get m k with
  | case1 => cases h
  | case2 v0 rest k => cases h; exact List.mem_cons_self  -- the head has key `k`
  | case3 k0 v0 rest k hk ih => exact List.mem_cons_of_mem _ (ih h)  -- another key at the head

theorem mem_get {β : Type} (k : String) (v : β) :
    ∀ (m : AMap β), (keys m).Nodup → (k, v) ∈ m → AMap.get m k = some v := by
  intro m hn h
  fun_induction AMap.get m k with
  | case1 => cases h
  | case2 v0 rest k =>  -- the head has key `k`
    simp only [keys, List.map_cons, List.nodup_cons] at hn
    rcases List.mem_cons.mp h with e1 | e1
    · cases e1; rfl
    · exact absurd (List.mem_map.mpr ⟨(k, v), e1, rfl⟩) hn.1
  | case3 k0 v0 rest k hk ih =>  -- another key at the head
    simp only [keys, List.map_cons, List.nodup_cons] at hn
    rcases List.mem_cons.mp h with e1 | e1
    · cases e1; exact absurd rfl hk
    · exact ih hn.2 e1

theorem assetsIncluded_iff (f s : AMap Int) :
    assetsIncluded f s = true ↔ ∀ e ∈ f, e.2 = 0 ∨ AMap.get s e.1 = some e.2 := by
  simp [assetsIncluded, List.all_eq_true]

/-- an inclusion read one way: a total of the included side is `0` (the asset is absent or skipped as a zero quantity) or the
    other side's total. The two-way test is then antisymmetry (`tot_eq_of_equal`), and no case needs both directions at once. -/
theorem totA_included (f s : AMap Int) (hf : (keys f).Nodup) (hs : (keys s).Nodup) (h : assetsIncluded f s = true)
    (n : String) : totA f n = 0 ∨ totA f n = totA s n := by
  rw [assetsIncluded_iff] at h
  simp only [totA, sumKey_get id n f hf, sumKey_get id n s hs]
  cases hgf : AMap.get f n with
  | none => exact .inl rfl
  | some a =>
    rcases h (n, a) (get_mem n a f hgf) with hz | hg
    · exact .inl hz
    · rw [hg]; exact .inr rfl

theorem multiAssetIncluded_iff (f s : MA) :
    multiAssetIncluded f s = true ↔
      ∀ e ∈ f, ∃ sas, AMap.get s e.1 = some sas ∧ assetsIncluded e.2 sas = true := by
  simp only [multiAssetIncluded, List.all_eq_true]
  constructor
  · intro h e he
    have := h e he
    cases hg : AMap.get s e.1 with
    | none => simp [hg] at this
    | some sas => simp only [hg] at this; exact ⟨sas, rfl, this⟩
  · intro h e he
    obtain ⟨sas, hg, hi⟩ := h e he
    simp [hg, hi]

theorem tot_included (f s : MA) (hf : NodupMA f) (hs : NodupMA s) (h : multiAssetIncluded f s = true) (p n : String) :
    tot f p n = 0 ∨ tot f p n = tot s p n := by
  rw [multiAssetIncluded_iff] at h
  simp only [tot, sumKey_get _ p f hf.1, sumKey_get _ p s hs.1]
  cases hgf : AMap.get f p with
  | none => exact .inl rfl
  | some fas =>
    have hm := get_mem p fas f hgf
    obtain ⟨sas, hgs, hi⟩ := h (p, fas) hm
    rw [hgs]
    exact totA_included fas sas (hf.2 _ hm) (hs.2 _ (get_mem p sas s hgs)) hi n

theorem tot_eq_of_equal (f s : MA) (hf : NodupMA f) (hs : NodupMA s)
    (h : multiAssetsAreEqual f s = true) (p n : String) : tot f p n = tot s p n := by
  simp only [multiAssetsAreEqual, Bool.and_eq_true] at h
  rcases tot_included f s hf hs h.1 p n with a | a
  · rcases tot_included s f hs hf h.2 p n with b | b
    · exact a.trans b.symm
    · exact b.symm
  · exact a

def coinOf : Value → Int
  | .coin c => c
  | .multi c _ => c
def maOf : Value → MA
  | .coin _ => []
  | .multi _ m => m
def assetTot (v : Value) (p n : String) : Int := tot (maOf v) p n
/-- the multi-asset part has unique keys on both levels (true of every `BTreeMap` / `HashMap`) -/
def Norm (v : Value) : Prop := NodupMA (maOf v)

def sumCoins (vs : List Value) : Int := (vs.map coinOf).sum
def sumAssets (vs : List Value) (p n : String) : Int := (vs.map (fun v => assetTot v p n)).sum

@[simp] theorem coinOf_coin (c : Int) : coinOf (.coin c) = c := rfl
@[simp] theorem assetTot_coin (c : Int) (p n : String) : assetTot (.coin c) p n = 0 := rfl
theorem sumCoins_cons (v : Value) (vs : List Value) : sumCoins (v :: vs) = coinOf v + sumCoins vs := by
  simp only [sumCoins, List.map_cons, List.sum_cons]
theorem sumAssets_cons (v : Value) (vs : List Value) (p n : String) :
    sumAssets (v :: vs) p n = assetTot v p n + sumAssets vs p n := by
  simp only [sumAssets, List.map_cons, List.sum_cons]

/-- `addMultiassetValues a b` and `conwayAddMultiassetValues a b` are this term by definition -/
theorem merge2_sat {add : Int → Int → R Int} {fresh : Int → R Int} (h : Ops False add fresh) (a b : MA) :
    ((mergePolicies add fresh [] a).bind fun r => mergePolicies add fresh r b).Sat False fun r =>
      (∀ p n, tot r p n = tot a p n + tot b p n) ∧ NodupMA r :=
  (mergePolicies_sat h a []).bind fun r1 ⟨t1, n1⟩ => (mergePolicies_sat h b r1).imp fun r ⟨t2, n2⟩ =>
    ⟨fun p n => by rw [t2, t1, tot_nil, Int.zero_add], n2 (n1 nodupMA_nil)⟩

theorem checkAll_sat (chk : Int → R Unit) (h : ∀ a, (chk a).Sat False fun _ => True) (m : MA) :
    (checkAll chk m).Sat False fun _ => True := by
  have hA : ∀ as : AMap Int, (checkAssets chk as).Sat False fun _ => True := by
    intro as
    induction as with
    | nil => trivial
    | cons e rest ih => exact (h e.2).bind fun _ _ => ih
  induction m with
  | nil => trivial
  | cons e rest ih => exact (hA e.2).bind fun _ _ => ih

/-- `coerceToI64`, `coerceToCoin`, `conwayCoerceToCoin`, `conwayCoerceToNonZeroCoin` are this term by definition -/
theorem coerce_sat {c : Int → Prop} [DecidablePred c] (m : MA) :
    ((checkAll (fun a => if c a then .err else .ok ()) m).map fun _ => m).Sat False (· = m) :=
  (checkAll_sat _ (fun _ => sat_guard fun _ => trivial) m).map fun _ _ => rfl

theorem addLovelace_sat (a b : Int) : (addLovelace a b).Sat False fun c => c = a + b ∧ c ≤ U64_MAX :=
  sat_guard fun h => ⟨rfl, Int.not_lt.mp h⟩

/-- Nothing is asked of `b`: the pre-Conway sums start from `empty_value()`, a multi-asset value, so the accumulator is always
    the rebuilt `HashMap` and the summands' keys never matter (the Conway sums start from the first summand, hence `Norm b` in
    `conwayAddValues_sat`). -/
theorem addValues_sat (a b : Value) : (addValues a b).Sat False fun c =>
    (coinOf c = coinOf a + coinOf b ∧ coinOf c ≤ U64_MAX) ∧ (∀ p n, assetTot c p n = assetTot a p n + assetTot b p n) ∧
    (isMultiV a = true → Norm a → isMultiV c = true ∧ Norm c) := by
  cases a <;> cases b <;> simp only [addValues]
  · exact (addLovelace_sat _ _).map fun _ hx => ⟨hx, fun _ _ => rfl, nofun⟩
  · exact (addLovelace_sat _ _).map fun _ hx => ⟨hx, fun _ _ => (Int.zero_add _).symm, nofun⟩
  · exact (addLovelace_sat _ _).map fun _ hx => ⟨hx, fun _ _ => (Int.add_zero _).symm, fun _ hn => ⟨rfl, hn⟩⟩
  · refine (addLovelace_sat _ _).bind fun _ hx => (coerce_sat _).bind fun _ ea => (coerce_sat _).bind fun _ eb => ?_
    subst ea eb
    exact (merge2_sat ops_i64 _ _).bind fun r ⟨ht, hnd⟩ => (coerce_sat r).map fun _ er =>
      er ▸ ⟨hx, ht, fun _ _ => ⟨rfl, hnd⟩⟩

theorem sumFrom_sat : ∀ (vs : List Value) (acc : Value), (sumFrom acc vs).Sat False fun r =>
    coinOf r = coinOf acc + sumCoins vs ∧ (∀ p n, assetTot r p n = assetTot acc p n + sumAssets vs p n) ∧
    (coinOf acc ≤ U64_MAX → coinOf r ≤ U64_MAX) ∧ (isMultiV acc = true → Norm acc → isMultiV r = true ∧ Norm r) := by
  intro vs acc
  fun_induction sumFrom acc vs with
  | case1 acc => exact ⟨(Int.add_zero _).symm, fun _ _ => (Int.add_zero _).symm, id, fun a b => ⟨a, b⟩⟩
  | case2 acc v vs ih =>
    refine (addValues_sat acc v).bind fun acc' h1 => (ih acc').imp fun r h2 => ?_
    obtain ⟨⟨c1, l1⟩, a1, n1⟩ := h1
    obtain ⟨c2, a2, b2, n2⟩ := h2
    refine ⟨by rw [c2, c1, sumCoins_cons, Int.add_assoc], fun p n => by rw [a2, a1, sumAssets_cons, Int.add_assoc],
      fun _ => b2 l1, fun hm hn => ?_⟩
    obtain ⟨x, y⟩ := n1 hm hn
    exact n2 x y

/-- for a multi-asset `base` the result is rebuilt from the empty map, so its keys are unique whatever those of `base`
    and `m`; for a `Coin` base the result carries `m` as it is and nothing is claimed -/
theorem addMintedValue_sat (base : Value) (m : MA) : (addMintedValue base m).Sat False fun c =>
    coinOf c = coinOf base ∧ (∀ p n, assetTot c p n = assetTot base p n + tot m p n) ∧
    (isMultiV base = true → isMultiV c = true ∧ Norm c) := by
  cases base <;> simp only [addMintedValue]
  · exact (coerce_sat m).map fun _ e => e ▸ ⟨rfl, fun _ _ => (Int.zero_add _).symm, nofun⟩
  · refine (coerce_sat _).bind fun _ e => ?_
    subst e
    exact (merge2_sat ops_i64 _ m).bind fun r ⟨ht, hnd⟩ => (coerce_sat r).map fun _ er =>
      er ▸ ⟨rfl, ht, fun _ => ⟨rfl, hnd⟩⟩

theorem valuesAreEqual_sound (a b : Value) (h : valuesAreEqual a b = true) (ha : Norm a) (hb : Norm b) :
    coinOf a = coinOf b ∧ ∀ p n, assetTot a p n = assetTot b p n := by
  cases a <;> cases b
  case coin.coin => simp only [valuesAreEqual, beq_iff_eq] at h; exact ⟨h, by intro p n; rfl⟩
  case coin.multi | multi.coin =>
    simp only [valuesAreEqual, Bool.and_eq_true, beq_iff_eq, List.isEmpty_iff] at h
    obtain ⟨h1, h2⟩ := h; subst h2
    exact ⟨h1, by intro p n; rfl⟩
  case multi.multi f fma s sma =>
    simp only [valuesAreEqual] at h
    split at h
    · cases h
    · rename_i hfs
      simp only [bne_iff_ne, ne_eq, Decidable.not_not] at hfs
      exact ⟨hfs, fun p n => tot_eq_of_equal fma sma ha hb h p n⟩

theorem retainAssets_tot : ∀ (as : AMap Int) (n : String), totA (retainAssets as) n = totA as n := by
  intro as n
  fun_induction retainAssets as with
  | case1 => rfl
  | case2 k a rest hz ih => simp only [totA, sumKey] at ih ⊢; rw [ih]  -- `a ≠ 0`: the entry stays
  | case3 k a rest hz ih =>  -- `a = 0`: the entry is dropped
    simp only [bne_iff_ne, ne_eq, Decidable.not_not] at hz
    simp only [totA, sumKey, hz] at ih ⊢; rw [ih]; simp

theorem retainAssets_sublist : ∀ (as : AMap Int), (retainAssets as).Sublist as := by
  intro as
  fun_induction retainAssets as with
  | case1 => exact .slnil
  | case2 k a rest hz ih => exact ih.cons_cons _  -- kept
  | case3 k a rest hz ih => exact ih.cons _  -- dropped

theorem retainPositive_tot : ∀ (m : MA) (p n : String), tot (retainPositive m) p n = tot m p n := by
  intro m p n
  fun_induction retainPositive m with
  | case1 => rfl
  | case2 p0 as rest hemp ih =>  -- no asset of the policy is left: the policy is dropped
    have h0 : totA as n = 0 := by
      rw [← retainAssets_tot as n]
      simp only [List.isEmpty_iff] at hemp
      rw [hemp]; rfl
    simp only [tot, sumKey] at ih ⊢
    rw [ih, h0]; simp
  | case3 p0 as rest hemp ih =>  -- the policy stays, with the assets left
    simp only [tot, sumKey] at ih ⊢
    rw [ih, retainAssets_tot as n]

theorem retainPositive_nodup : ∀ (m : MA), NodupMA m → NodupMA (retainPositive m) := by
  have hkeys : ∀ m : MA, (keys (retainPositive m)).Sublist (keys m) := by
    intro m
    fun_induction retainPositive m with
    | case1 => exact .slnil
    | case2 p0 as rest hemp ih => exact ih.cons _  -- policy dropped
    | case3 p0 as rest hemp ih => exact ih.cons_cons _  -- policy kept
  intro m h
  refine ⟨h.1.sublist (hkeys m), ?_⟩
  fun_induction retainPositive m with
  | case1 => exact h.2
  | case2 p0 as rest hemp ih => exact ih ⟨(List.nodup_cons.mp h.1).2, (List.forall_mem_cons.mp h.2).2⟩  -- policy dropped
  | case3 p0 as rest hemp ih =>  -- policy kept
    obtain ⟨has, hrest⟩ := List.forall_mem_cons.mp h.2
    exact List.forall_mem_cons.mpr ⟨has.sublist ((retainAssets_sublist as).map _), ih ⟨(List.nodup_cons.mp h.1).2, hrest⟩⟩

theorem conwayAddValues_sat (a b : Value) : (conwayAddValues a b).Sat False fun c =>
    (coinOf c = coinOf a + coinOf b ∧ coinOf c ≤ U64_MAX) ∧ (∀ p n, assetTot c p n = assetTot a p n + assetTot b p n) ∧
    (Norm a → Norm b → Norm c) := by
  cases a <;> cases b <;> simp only [conwayAddValues]
  · exact (addLovelace_sat _ _).map fun _ hx => ⟨hx, fun _ _ => rfl, fun _ _ => nodupMA_nil⟩
  · exact (addLovelace_sat _ _).map fun _ hx => ⟨hx, fun _ _ => (Int.zero_add _).symm, fun _ hb => hb⟩
  · exact (addLovelace_sat _ _).map fun _ hx => ⟨hx, fun _ _ => (Int.add_zero _).symm, fun ha _ => ha⟩
  · exact (addLovelace_sat _ _).bind fun _ hx => (merge2_sat ops_u64 _ _).bind fun r ⟨ht, hnd⟩ =>
      (coerce_sat r).map fun _ er => er ▸ ⟨hx, ht, fun _ _ => hnd⟩

theorem conwaySumFrom_sat : ∀ (vs : List Value) (acc : Value), (conwaySumFrom acc vs).Sat False fun r =>
    coinOf r = coinOf acc + sumCoins vs ∧ (∀ p n, assetTot r p n = assetTot acc p n + sumAssets vs p n) ∧
    (coinOf acc ≤ U64_MAX → coinOf r ≤ U64_MAX) ∧ (Norm acc → (∀ v ∈ vs, Norm v) → Norm r) := by
  intro vs acc
  fun_induction conwaySumFrom acc vs with
  | case1 acc => exact ⟨(Int.add_zero _).symm, fun _ _ => (Int.add_zero _).symm, id, fun a _ => a⟩
  | case2 acc v vs ih =>
    refine (conwayAddValues_sat acc v).bind fun acc' h1 => (ih acc').imp fun r h2 => ?_
    obtain ⟨⟨c1, l1⟩, a1, n1⟩ := h1
    obtain ⟨c2, a2, b2, n2⟩ := h2
    refine ⟨by rw [c2, c1, sumCoins_cons, Int.add_assoc], fun p n => by rw [a2, a1, sumAssets_cons, Int.add_assoc],
      fun _ => b2 l1, fun hn hall => ?_⟩
    obtain ⟨hv, hvs⟩ := List.forall_mem_cons.mp hall
    exact n2 (n1 hn hv) hvs

theorem conwayNonNegative_sat (first minted : MA) : (conwayAddMultiassetNonNegativeValues first minted).Sat False fun r =>
    (∀ p n, tot r p n = tot first p n + tot minted p n) ∧ NodupMA r :=
  (mergePolicies_sat ops_u64 first []).bind fun r1 ⟨t1, n1⟩ => (mergePolicies_sat ops_mint minted r1).map fun r2 ⟨t2, n2⟩ =>
    ⟨fun p n => by rw [retainPositive_tot, t2, t1, tot_nil, Int.zero_add], retainPositive_nodup r2 (n2 (n1 nodupMA_nil))⟩

theorem conwayAddMintedNonZero_sat (base : Value) (m : MA) : (conwayAddMintedNonZero base m).Sat False fun c =>
    coinOf c = coinOf base ∧ (∀ p n, assetTot c p n = assetTot base p n + tot m p n) ∧ (NodupMA m → Norm c) := by
  cases base <;> simp only [conwayAddMintedNonZero]
  · exact (coerce_sat m).map fun _ e => e ▸ ⟨rfl, fun _ _ => (Int.zero_add _).symm, id⟩
  · exact (conwayNonNegative_sat _ m).bind fun r ⟨ht, hnd⟩ => (coerce_sat r).map fun _ er => er ▸ ⟨rfl, ht, fun _ => hnd⟩

theorem resOf_of_sat {r : R Bool} {P : Prop} (h : r.Sat False fun b => b = true → P) :
    resOf r ≠ .panic ∧ (resOf r = .ok → P) := by
  cases r with
  | ok b =>
    cases b with
    | false => exact ⟨nofun, nofun⟩
    | true => exact ⟨nofun, fun _ => h rfl⟩
  | err => exact ⟨nofun, nofun⟩
  | panic => exact h.elim

theorem sumU64_exact : ∀ (xs : List Int) (acc r : Int), sumU64 acc xs = some r → r = acc + xs.sum := by
  intro xs acc r h
  fun_induction sumU64 acc xs with
  | case1 => cases h; exact (Int.add_zero _).symm
  | case2 => cases h  -- the sum leaves `u64`: `none`
  | case3 acc x xs hx ih => rw [ih h, List.sum_cons, Int.add_assoc]

end Value
end PallasVerif
