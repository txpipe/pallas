import Mathlib.Analysis.Complex.Exponential
import PallasVerif.Model.Decimal
/-! Rational-number reading of `Decimal` (C17): `val x = data / 10^prec : ℚ`. Each integer division the
    model uses has one cast equation here — `⌊val x⌋` is `/`, `⌈val x⌉` is `-(-· / ·)`, truncation toward
    zero is `Int.tdiv` — so a rounding function whose stored integer is `10^prec` times such a quotient
    (`floor_data`, `ceil_data`, `trunc_data`) denotes the rounded rational. -/
namespace PallasVerif.Proofs.Decimal
open PallasVerif.Decimal

def val (x : Dec) : ℚ := (x.data : ℚ) / (10 : ℚ) ^ x.prec

theorem mult_cast (p : Nat) : ((mult p : Int) : ℚ) = (10 : ℚ) ^ p := by simp [mult]
theorem ten_pow_pos (p : Nat) : (0 : ℚ) < (10 : ℚ) ^ p := by positivity
theorem P_cast : ((P : Int) : ℚ) = (10 : ℚ) ^ 34 := by norm_num [P]

def truncQ (q : ℚ) : ℤ := if 0 ≤ q then ⌊q⌋ else ⌈q⌉

theorem truncQ_neg (q : ℚ) : truncQ (-q) = - truncQ q := by
  unfold truncQ
  rcases lt_trichotomy q 0 with h | h | h
  · have h1 : 0 ≤ -q := by linarith
    have h2 : ¬ 0 ≤ q := by linarith
    rw [if_pos h1, if_neg h2, Int.floor_neg]
  · subst h; simp
  · have h1 : ¬ 0 ≤ -q := by linarith
    have h2 : 0 ≤ q := by linarith
    rw [if_neg h1, if_pos h2, Int.ceil_neg]

/-- negating `n` or `d` negates both sides; on naturals truncation is the floor -/
theorem truncQ_div (n d : Int) : truncQ ((n : ℚ) / (d : ℚ)) = n.tdiv d := by
  induction d using Int.wlog_sign with
  | inv d => rw [Int.cast_neg, div_neg, truncQ_neg, Int.tdiv_neg, neg_inj]
  | w b =>
    induction n using Int.wlog_sign with
    | inv n => rw [Int.cast_neg, neg_div, truncQ_neg, Int.neg_tdiv, neg_inj]
    | w a =>
      rw [Int.cast_natCast, Int.cast_natCast, truncQ, if_pos (by positivity), ← Int.ofNat_tdiv]
      exact_mod_cast Rat.floor_natCast_div_natCast a b

theorem val_of_integral (x : Dec) (k : Int) (h : x.data = mult x.prec * k) : val x = (k : ℚ) := by
  rw [val, h, Int.cast_mul, mult_cast, mul_div_cancel_left₀ _ (ten_pow_pos x.prec).ne']

/-- the form Mathlib's `Rat.floor_intCast_div_natCast` takes -/
theorem val_eq_div_natCast (x : Dec) : val x = (x.data : ℚ) / ((10 ^ x.prec : ℕ) : ℚ) := by
  rw [val, Nat.cast_pow, Nat.cast_ofNat]

theorem mult_eq_natCast (p : Nat) : mult p = ((10 ^ p : ℕ) : Int) := by
  rw [mult, Nat.cast_pow, Nat.cast_ofNat]

theorem floor_val (x : Dec) : ⌊val x⌋ = x.data / mult x.prec := by
  rw [val_eq_div_natCast, mult_eq_natCast, Rat.floor_intCast_div_natCast]

theorem ceil_val (x : Dec) : ⌈val x⌉ = -(-x.data / mult x.prec) := by
  rw [val_eq_div_natCast, mult_eq_natCast, Rat.ceil_intCast_div_natCast]

theorem truncQ_val (x : Dec) : truncQ (val x) = x.data.tdiv (mult x.prec) := by
  rw [val, ← mult_cast, truncQ_div]

end PallasVerif.Proofs.Decimal
