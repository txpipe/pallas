import PallasVerif.Proofs.PlutusDataDecPrim
/-!
  Converse of `decP_refines`: whatever the byte-level PlutusData decoder accepts is the encoding of a
  well-formed CBOR tree that the tree decoder `ofItem` maps to the same value, followed by exactly the
  returned rest (`decodeBytes_sound`). `SoundAt` states this for the nine mutually recursive decoder
  layers at one fuel level.
-/
namespace PallasVerif.PlutusData.Dec
open PallasVerif.Cbor PallasVerif.PlutusData

theorem decBig_sound (fuel : Nat) (bs : Bytes) : ∀ (x : BigInt) (r : Bytes), decBig fuel bs = some (x, r) →
    DecodesTo bs (.int x) r := by
  fun_cases decBig fuel bs with
  | case1 =>                                    -- an integer head
    intro x r h
    obtain ⟨⟨i, _⟩, hi, ⟨⟩⟩ := Option.map_eq_some_iff.1 h
    obtain ⟨hd, w, e, hk⟩ := readInt_some.1 hi
    exact ⟨.atom hd, w, ofItem_of_graph (.int hk), by simp [Item.encode, e]⟩
  | case2 _ r1 ht | case3 _ r1 ht =>            -- tag 2 / tag 3, then a byte string
    intro x r h
    obtain ⟨⟨b, _⟩, hb, ⟨⟩⟩ := Option.map_eq_some_iff.1 h
    obtain ⟨hd, ⟨w, m6, a31⟩, e, v⟩ := readHead_some.1 ht
    obtain ⟨i, wi, pi, ei⟩ := decBounded_sound fuel r1 b r hb
    exact ⟨.tag hd i, (Item.wf_tag_iff hd i).2 ⟨w, m6, a31, wi⟩, ofItem_of_graph (.big pi (by simp [v])),
      by rw [e, ei]; simp [Item.encode]⟩
  | _ => nofun

/-- the class `datatype` saw tells whether the array or map that was read is definite: it identifies
    the `df` that `SoundAt.v` and `SoundAt.k` only assert to exist with the branch taken -/
theorem seqShape_df {m : Nat} {i : Item} {df df' : Bool} {its : List Item} {r : Bytes} (hs : SeqShape m i df its)
    (hm : m = 4 ∨ m = 5) (hw : i.wf = true)
    (hdt : datatype (i.encode ++ r) = some (if df' then tyDef m else tyIndef m)) : df = df' := by
  rw [datatype_seq hs hw r] at hdt
  rcases hm with rfl | rfl <;> cases df <;> cases df' <;> simp [tyDef, tyIndef] at hdt ⊢

/-- One field per decoder layer: what was consumed is the encoding of well-formed trees which the tree decoder maps to
    the value returned. `v` and `k` leave open whether the length was definite: their callers know it from `datatype`
    (`SoundAt.arrShape`, `SoundAt.map`). -/
structure SoundAt (fuel : Nat) : Prop where
  p : ∀ bs d r, decP fuel bs = some (d, r) → DecodesTo bs d r
  c : ∀ bs d r, decConstr fuel bs = some (d, r) → DecodesTo bs d r
  v : ∀ bs xs r, decVec fuel bs = some (xs, r) → ∃ fi df its, ArrayShape fi df its ∧ fi.wf = true ∧
        ofItems its = some xs ∧ bs = fi.encode ++ r
  m : ∀ bs df xs r, decMaybeIndef fuel bs = some ((df, xs), r) → ∃ fi its, ArrayShape fi df its ∧ fi.wf = true ∧
        ofItems its = some xs ∧ bs = fi.encode ++ r
  k : ∀ bs kvs r, decKvs fuel bs = some (kvs, r) → ∃ mi df its, MapShape mi df its ∧ mi.wf = true ∧
        ofPairs its = some kvs ∧ bs = mi.encode ++ r
  n : ∀ n bs xs r, decN fuel n bs = some (xs, r) → ∃ its : List Item, its.length = n ∧ wfList its = true ∧
        ofItems its = some xs ∧ bs = encodeList its ++ r
  b : ∀ bs xs r, decBreak fuel bs = some (xs, r) → ∃ its : List Item, wfList its = true ∧
        ofItems its = some xs ∧ bs = encodeList its ++ 0xff :: r
  pn : ∀ n bs kvs r, decPairsN fuel n bs = some (kvs, r) → ∃ its : List Item, its.length = 2 * n ∧
        wfList its = true ∧ ofPairs its = some kvs ∧ bs = encodeList its ++ r
  pb : ∀ bs kvs r, decPairsBreak fuel bs = some (kvs, r) → ∃ its : List Item, wfList its = true ∧
        ofPairs its = some kvs ∧ bs = encodeList its ++ 0xff :: r

theorem sound_bytes {f : Nat} {bs b r : Bytes} (hb : decBounded f bs = some (b, r)) : DecodesTo bs (.bytes b) r := by
  obtain ⟨i, wi, pi, ei⟩ := decBounded_sound f bs b r hb
  exact ⟨i, wi, ofItem_of_graph (.bytes pi), ei⟩

theorem SoundAt.arrShape {f : Nat} (ih : SoundAt f) {bs r : Bytes} {xs : List PData} (df : Bool)
    (hv : decVec f bs = some (xs, r)) (hdt : datatype bs = some (if df then tyDef 4 else tyIndef 4)) :
    ∃ fi its, ArrayShape fi df its ∧ fi.wf = true ∧ ofItems its = some xs ∧ bs = fi.encode ++ r := by
  obtain ⟨fi, df', its, hs, w, oi, ei⟩ := ih.v _ _ _ hv
  obtain rfl := seqShape_df hs (.inl rfl) w (ei ▸ hdt)
  exact ⟨fi, its, hs, w, oi, ei⟩

theorem SoundAt.array {f : Nat} (ih : SoundAt f) {bs r : Bytes} {xs : List PData} (df : Bool)
    (hv : decVec f bs = some (xs, r)) (hdt : datatype bs = some (if df then tyDef 4 else tyIndef 4)) :
    DecodesTo bs (.array df xs) r := by
  obtain ⟨fi, its, hs, w, oi, ei⟩ := ih.arrShape df hv hdt
  exact ⟨fi, w, ofItem_of_graph (.array hs oi), ei⟩

theorem SoundAt.map {f : Nat} (ih : SoundAt f) {bs r : Bytes} {kvs : List (PData × PData)} (df : Bool)
    (hk : decKvs f bs = some (kvs, r)) (hdt : datatype bs = some (if df then tyDef 5 else tyIndef 5)) :
    DecodesTo bs (.map df kvs) r := by
  obtain ⟨mi, df', its, hs, w, oi, ei⟩ := ih.k _ _ _ hk
  obtain rfl := seqShape_df hs (.inr rfl) w (ei ▸ hdt)
  exact ⟨mi, w, ofItem_of_graph (.map hs oi), ei⟩

/-- Each field along the arms of its own layer (`fun_cases`): the arms that return `none` close together; an arm that
    returns a value arrives with the reads that led to it as hypotheses, and the calls it made are at the fuel's
    predecessor `f`, where `ih f rfl` answers. (The case split replaces `fuel` by `f + 1` in `ih` as well, which is why
    `ih` is stated for a general `fuel`.) The leaves `decBig` and `decBounded` have their own lemmas. -/
theorem soundAt_step (fuel : Nat) (ih : ∀ f, f + 1 = fuel → SoundAt f) : SoundAt fuel where
  v := by
    intro bs
    fun_cases decVec fuel bs with
    | case3 f bs n r1 hs =>       -- definite length: `n` elements
      intro xs r h
      obtain ⟨hd, ⟨w, m4, a31⟩, e, v⟩ := readSeqHead_some_def.1 hs
      obtain ⟨its, hl, wi, oi, ei⟩ := (ih f rfl).n _ _ _ _ h
      refine ⟨.seq hd its, true, its, .inl ⟨hd, rfl, m4, rfl⟩,
        (Item.wf_seq_iff hd its).2 ⟨w, .inl m4, a31, by simp [seqCount, m4, v, hl], wi⟩, oi, ?_⟩
      rw [e, ei]; simp [Item.encode]
    | case4 f bs r1 hs =>         -- indefinite: elements up to the break
      intro xs r h
      obtain ⟨_, e⟩ := readSeqHead_some_indef.1 hs
      obtain ⟨its, wi, oi, ei⟩ := (ih f rfl).b _ _ _ h
      refine ⟨.seqIndef 4 its, false, its, .inr ⟨rfl, rfl⟩, (Item.wf_seqIndef_iff 4 its).2 ⟨.inl rfl, .inl rfl, wi⟩, oi, ?_⟩
      rw [e, ei]; simp [Item.encode]
    | _ => nofun
  k := by
    intro bs
    fun_cases decKvs fuel bs with
    | case3 f bs n r1 hs =>       -- definite length: `n` pairs
      intro kvs r h
      obtain ⟨hd, ⟨w, m5, a31⟩, e, v⟩ := readSeqHead_some_def.1 hs
      obtain ⟨its, hl, wi, oi, ei⟩ := (ih f rfl).pn _ _ _ _ h
      refine ⟨.seq hd its, true, its, .inl ⟨hd, rfl, m5, rfl⟩,
        (Item.wf_seq_iff hd its).2 ⟨w, .inr m5, a31, by simp [seqCount, m5, v, hl], wi⟩, oi, ?_⟩
      rw [e, ei]; simp [Item.encode]
    | case4 f bs r1 hs =>         -- indefinite: pairs up to the break
      intro kvs r h
      obtain ⟨_, e⟩ := readSeqHead_some_indef.1 hs
      obtain ⟨its, wi, oi, ei⟩ := (ih f rfl).pb _ _ _ h
      have hev := ofPairs_length its kvs oi
      refine ⟨.seqIndef 5 its, false, its, .inr ⟨rfl, rfl⟩,
        (Item.wf_seqIndef_iff 5 its).2 ⟨.inr rfl, .inr (by omega), wi⟩, oi, ?_⟩
      rw [e, ei]; simp [Item.encode]
    | _ => nofun
  m := by
    intro bs
    fun_cases decMaybeIndef fuel bs with
    | case2 f bs hdt | case3 f bs hdt =>      -- a definite / an indefinite array, as `datatype` saw it
      intro df xs r h
      obtain ⟨⟨ys, r'⟩, hv, ⟨⟩⟩ := Option.map_eq_some_iff.1 h
      exact (ih f rfl).arrShape _ hv hdt
    | _ => nofun
  c := by
    intro bs
    fun_cases decConstr fuel bs with
    | case3 f bs t r0 ht hc =>        -- a tag in 121..127 / 1280..1400: the fields follow
      intro d r h
      obtain ⟨⟨⟨df, xs⟩, r'⟩, hm, ⟨⟩⟩ := Option.map_eq_some_iff.1 h
      obtain ⟨hd, ⟨w, m6, a31⟩, e, v⟩ := readHead_some.1 ht
      obtain ⟨fi, its, hs, wf, oi, ei⟩ := (ih f rfl).m _ _ _ _ hm
      refine ⟨.tag hd fi, (Item.wf_tag_iff hd fi).2 ⟨w, m6, a31, wf⟩, ?_, by rw [e, ei]; simp [Item.encode]⟩
      rw [← v] at hc ⊢
      exact ofItem_of_graph (.constr hc hs oi)
    | case7 f bs r0 r1 a r2 ha df xs r3 hm ht _ hlen =>     -- tag 102, `d.array()?` gave the definite length 2
      rintro _ _ ⟨⟩
      obtain ⟨hd, ⟨w, m6, a31⟩, e, v⟩ := readHead_some.1 ht
      obtain ⟨hd', ⟨w', m4, a31'⟩, e', v'⟩ := readSeqHead_some_def.1 hlen
      obtain ⟨hda, ⟨wa, ma, aa⟩, ea, va⟩ := readHead_some.1 ha
      obtain ⟨fi, its, hs, wfi, oi, ei⟩ := (ih f rfl).m _ _ _ _ hm
      have haw : (Item.atom hda).wf = true := (Item.wf_atom_iff hda).2 ⟨wa, .inl ma, aa⟩
      refine ⟨.tag hd (.seq hd' [.atom hda, fi]), ?_, ?_, ?_⟩
      · exact (Item.wf_tag_iff hd _).2 ⟨w, m6, a31, (Item.wf_seq_iff hd' _).2
          ⟨w', .inl m4, a31', by simp [seqCount, m4, v'], by simp [wfList, haw, wfi]⟩⟩
      · rw [← va]
        exact ofItem_of_graph (.constr102 v (.inl ⟨hd', rfl, m4, rfl⟩) ma hs oi)
      · rw [e, e', ea, ei]; simp [Item.encode, encodeList]
    | case10 f bs r0 r1 a r2 ha df xs r4 ht _ hlen hm =>   -- tag 102, indefinite array: the break follows the fields
      rintro _ _ ⟨⟩
      obtain ⟨hd, ⟨w, m6, a31⟩, e, v⟩ := readHead_some.1 ht
      obtain ⟨_, e'⟩ := readSeqHead_some_indef.1 hlen
      obtain ⟨hda, ⟨wa, ma, aa⟩, ea, va⟩ := readHead_some.1 ha
      obtain ⟨fi, its, hs, wfi, oi, ei⟩ := (ih f rfl).m _ _ _ _ hm
      have haw : (Item.atom hda).wf = true := (Item.wf_atom_iff hda).2 ⟨wa, .inl ma, aa⟩
      refine ⟨.tag hd (.seqIndef 4 [.atom hda, fi]), ?_, ?_, ?_⟩
      · exact (Item.wf_tag_iff hd _).2 ⟨w, m6, a31, (Item.wf_seqIndef_iff 4 _).2 ⟨.inl rfl, .inl rfl, by simp [wfList, haw, wfi]⟩⟩
      · rw [← va]
        exact ofItem_of_graph (.constr102 v (.inr ⟨rfl, rfl⟩) ma hs oi)
      · rw [e, e', ea, ei]; simp [Item.encode, encodeList]
    | _ => nofun
  p := by
    intro bs
    fun_cases decP fuel bs with
    | case3 f bs _ t r0 _ _ | case6 f bs _ =>       -- tag 2 or 3, or an integer head: `BigInt`
      intro d r h
      obtain ⟨⟨b, r'⟩, hb, ⟨⟩⟩ := Option.map_eq_some_iff.1 h
      exact decBig_sound f bs _ _ hb
    | case4 f bs => exact (ih f rfl).c bs          -- a constructor tag or 102: `Constr`
    | case7 f bs hdt | case8 f bs hdt =>            -- a definite / an indefinite map
      intro d r h
      obtain ⟨⟨kvs, r'⟩, hk, ⟨⟩⟩ := Option.map_eq_some_iff.1 h
      exact (ih f rfl).map _ hk hdt
    | case9 f bs _ | case10 f bs _ =>               -- a definite / a chunked byte string
      intro d r h
      obtain ⟨⟨b, r'⟩, hb, ⟨⟩⟩ := Option.map_eq_some_iff.1 h
      exact sound_bytes hb
    | case11 f bs hdt | case12 f bs hdt =>          -- a definite / an indefinite array
      intro d r h
      obtain ⟨⟨xs, r'⟩, hv, ⟨⟩⟩ := Option.map_eq_some_iff.1 h
      exact (ih f rfl).array _ hv hdt
    | _ => nofun
  n := by
    intro n bs
    fun_cases decN fuel n bs with
    | case1 => rintro _ _ ⟨⟩; exact ⟨[], rfl, rfl, rfl, rfl⟩      -- a count of 0 returns at once
    | case5 f n bs x r1 hx ys r2 hys =>                           -- one element, then `n` more
      rintro _ _ ⟨⟩
      obtain ⟨i, wi, oi, ei⟩ := (ih f rfl).p _ _ _ hx
      obtain ⟨its, hl, wis, ois, eis⟩ := (ih f rfl).n _ _ _ _ hys
      exact ⟨i :: its, by simp [hl], by simp [wfList, wi, wis], by simp [ofItems, oi, ois],
        by rw [ei, eis]; simp [encodeList]⟩
    | _ => nofun
  b := by
    intro bs
    fun_cases decBreak fuel bs with
    | case3 => rintro _ _ ⟨⟩; exact ⟨[], rfl, rfl, rfl⟩           -- the break
    | case6 f b0 rest _ x r1 hx ys r2 hys =>                      -- one element, then the rest
      rintro _ _ ⟨⟩
      obtain ⟨i, wi, oi, ei⟩ := (ih f rfl).p _ _ _ hx
      obtain ⟨its, wis, ois, eis⟩ := (ih f rfl).b _ _ _ hys
      exact ⟨i :: its, by simp [wfList, wi, wis], by simp [ofItems, oi, ois],
        by rw [ei, eis]; simp [encodeList]⟩
    | _ => nofun
  pn := by
    intro n bs
    fun_cases decPairsN fuel n bs with
    | case1 => rintro _ _ ⟨⟩; exact ⟨[], rfl, rfl, rfl, rfl⟩      -- a count of 0 returns at once
    | case6 f n bs k r1 hk v r2 hv ys r3 hys =>                   -- key, value, then `n` more pairs
      rintro _ _ ⟨⟩
      obtain ⟨ik, wk, ok, ek⟩ := (ih f rfl).p _ _ _ hk
      obtain ⟨iv, wv, ov, ev⟩ := (ih f rfl).p _ _ _ hv
      obtain ⟨its, hl, wis, ois, eis⟩ := (ih f rfl).pn _ _ _ _ hys
      exact ⟨ik :: iv :: its, by simp [hl]; omega, by simp [wfList, wk, wv, wis],
        by simp [ofPairs, ok, ov, ois], by rw [ek, ev, eis]; simp [encodeList]⟩
    | _ => nofun
  pb := by
    intro bs
    fun_cases decPairsBreak fuel bs with
    | case3 => rintro _ _ ⟨⟩; exact ⟨[], rfl, rfl, rfl⟩           -- the break
    | case7 f b0 rest _ k r1 hk v r2 hv ys r3 hys =>              -- key, value, then the rest
      rintro _ _ ⟨⟩
      obtain ⟨ik, wk, ok, ek⟩ := (ih f rfl).p _ _ _ hk
      obtain ⟨iv, wv, ov, ev⟩ := (ih f rfl).p _ _ _ hv
      obtain ⟨its, wis, ois, eis⟩ := (ih f rfl).pb _ _ _ hys
      exact ⟨ik :: iv :: its, by simp [wfList, wk, wv, wis], by simp [ofPairs, ok, ov, ois],
        by rw [ek, ev, eis]; simp [encodeList]⟩
    | _ => nofun

theorem soundAt : ∀ fuel, SoundAt fuel
  | 0 => soundAt_step 0 nofun
  | f + 1 => soundAt_step (f + 1) fun | _, rfl => soundAt f

theorem decodeBytes_sound (bs : Bytes) (d : PData) (r : Bytes) (h : decodeBytes bs = some (d, r)) :
    DecodesTo bs d r := (soundAt _).p bs d r h

end PallasVerif.PlutusData.Dec
