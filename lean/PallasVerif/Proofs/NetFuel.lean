import PallasVerif.Proofs.NetCodec
/-!
No reader of the model returns more input than it was given (`NoGrow`), and those that match on a first byte return
less (`Progress`). Then the loop of `Decoder::skip` (`Model/NetCodec.skipLoop`) one round at a time (`skipLoop_round`), and
what follows for fuel, which is only a termination device: every round consumes at least one byte, so any two amounts of fuel
above the input length give the same result and no `err` of `skip` or `decBreak` is an artefact of the totalisation
(the chunk loop: `Props/C09.skipChunks_never_out_of_fuel`).
-/
namespace PallasVerif.NetCodec
open PallasVerif.Cbor

def NoGrow {α : Type} (d : Dec α) : Prop := ∀ bs a r, d bs = .ok a r → r.length ≤ bs.length

def Progress {α : Type} (d : Dec α) : Prop := ∀ bs a r, d bs = .ok a r → r.length < bs.length

/-! `NoGrow` is closed under the ways a reader is put together, so the proof for a reader is a term that follows its
definition; a reader that fails on `[]` and is `NoGrow` after its first byte makes `Progress`. -/

theorem Progress.noGrow {α : Type} {d : Dec α} (h : Progress d) : NoGrow d :=
  fun bs a r hr => Nat.le_of_lt (h bs a r hr)

theorem noGrow_bind {α β : Type} {d : Dec α} {f : α → Dec β} (hd : NoGrow d) (hf : ∀ a, NoGrow (f a)) :
    NoGrow (fun bs => (d bs).bind fun a r => f a r) := by
  intro bs b r h
  obtain ⟨a, r1, h1, h2⟩ := Res.bind_eq_ok h
  have := hd _ _ _ h1
  have := hf a _ _ _ h2
  omega

theorem progress_bind {α β : Type} {d : Dec α} {f : α → Dec β} (hd : Progress d) (hf : ∀ a, NoGrow (f a)) :
    Progress (fun bs => (d bs).bind fun a r => f a r) := by
  intro bs b r h
  obtain ⟨a, r1, h1, h2⟩ := Res.bind_eq_ok h
  have := hd _ _ _ h1
  have := hf a _ _ _ h2
  omega

theorem noGrow_map {α β : Type} {d : Dec α} (f : α → β) (hd : NoGrow d) : NoGrow (fun bs => (d bs).map f) := by
  intro bs b r h
  obtain ⟨a, ha, _⟩ := Res.map_eq_ok h
  exact hd _ _ _ ha

theorem noGrow_ok {α : Type} (a : α) : NoGrow (fun bs => Res.ok a bs) := by
  intro bs b r h; simp only [Res.ok.injEq] at h; rw [← h.2]; exact Nat.le_refl _

theorem noGrow_of_ne_ok {α : Type} {d : Dec α} (h : ∀ bs a r, d bs ≠ .ok a r) : NoGrow d :=
  fun bs a r e => absurd e (h bs a r)

theorem noGrow_ite {α : Type} (c : Prop) [Decidable c] {d e : Dec α} (hd : NoGrow d) (he : NoGrow e) :
    NoGrow (fun bs => if c then d bs else e bs) := by
  intro bs a r h
  split at h
  · exact hd _ _ _ h
  · exact he _ _ _ h

theorem noGrow_guard {α : Type} (c : Prop) [Decidable c] (a : α) : NoGrow (fun bs => if c then Res.ok a bs else .err) :=
  noGrow_ite c (noGrow_ok a) (noGrow_of_ne_ok (by simp))

/-- the readers of the model match on the input: nothing on `[]`, and after the first byte `b` a reader of the rest -/
theorem progress_cons {α : Type} {d : Dec α} (hnil : d [] = .eoi) (h : ∀ b, NoGrow fun rest => d (b :: rest)) : Progress d := by
  intro bs a r e
  cases bs with
  | nil => rw [hnil] at e; cases e
  | cons b rest => exact Nat.lt_succ_of_le (h b rest a r e)

theorem noGrow_readN (n : Nat) : NoGrow (readN n) := by
  intro bs a r h
  unfold readN at h
  split at h
  · simp at h
  · simp only [Res.ok.injEq] at h; rw [← h.2]; simp

theorem mismatch_ne_ok {α : Type} (b : UInt8) (rest : Bytes) (a : α) (r : Bytes) : (mismatch b rest : Res α) ≠ .ok a r := by
  unfold mismatch; split <;> simp

theorem noGrow_unsignedArg (ai : Nat) {bad : Dec Nat} (hbad : ∀ rest v r, bad rest ≠ .ok v r) :
    NoGrow fun rest => unsignedArg ai rest (bad rest) :=
  noGrow_ite _ (noGrow_ok ai) <| noGrow_ite _ (noGrow_map ofBe (noGrow_readN 1)) <|
    noGrow_ite _ (noGrow_map ofBe (noGrow_readN 2)) <| noGrow_ite _ (noGrow_map ofBe (noGrow_readN 4)) <|
    noGrow_ite _ (noGrow_map ofBe (noGrow_readN 8)) (noGrow_of_ne_ok hbad)

/-- `unsignedArg` as every reader but `u64` calls it -/
theorem noGrow_arg (ai : Nat) : NoGrow fun rest => unsignedArg ai rest .err := noGrow_unsignedArg ai (by simp)

theorem progress_u64 : Progress u64 :=
  progress_cons rfl fun b => noGrow_ite _ (noGrow_unsignedArg _ (mismatch_ne_ok b)) (noGrow_of_ne_ok (mismatch_ne_ok b))

theorem progress_defStr (m : Nat) : Progress (defStr m) :=
  progress_cons rfl fun b => noGrow_ite _ (noGrow_of_ne_ok (mismatch_ne_ok b)) (noGrow_bind (noGrow_arg _) noGrow_readN)

theorem progress_container (m : Nat) : Progress (container m) :=
  progress_cons rfl fun b => noGrow_ite _ (noGrow_of_ne_ok (mismatch_ne_ok b)) <|
    noGrow_ite _ (noGrow_ok none) (noGrow_map some (noGrow_arg _))

theorem noGrow_decN {α : Type} {d : Dec α} (hd : NoGrow d) : ∀ n, NoGrow (decN d n)
  | 0 => noGrow_ok []
  | n + 1 => noGrow_bind hd fun _ => noGrow_bind (noGrow_decN hd n) fun _ => noGrow_ok _

theorem noGrow_decBreak {α : Type} {d : Dec α} (hd : NoGrow d) : ∀ fuel, NoGrow (decBreak d fuel)
  | 0 => by intro bs a r h; simp [decBreak] at h
  | fuel + 1 => by
    intro bs a r h
    cases bs with
    | nil => simp [decBreak] at h
    | cons b rest =>
      simp only [decBreak] at h
      split at h
      · simp only [Res.ok.injEq] at h; rw [← h.2]; simp
      · exact (noGrow_bind hd fun _ => noGrow_bind (noGrow_decBreak hd fuel) fun _ => noGrow_ok _) _ a r h

/-- one chunk of an indefinite string: a definite string of the same major type, text chunks UTF-8 checked -/
def chunk (m : Nat) (bs : Bytes) : Res Unit :=
  (defStr m bs).bind fun s r => if m = 3 ∧ ¬ utf8Valid s then .err else .ok () r

theorem progress_chunk (m : Nat) : Progress (chunk m) :=
  progress_bind (progress_defStr m) fun _ => noGrow_ite _ (noGrow_of_ne_ok (by simp)) (noGrow_ok ())

/-- the chunk loop is the element loop over `chunk m` with the results forgotten, so what holds of `decBreak` for every
    element decoder that makes progress holds of it -/
theorem skipChunks_eq (m : Nat) : ∀ fuel bs, skipChunks m fuel bs = (decBreak (chunk m) fuel bs).bind fun _ r => .ok () r
  | 0, _ | _ + 1, [] => rfl
  | fuel + 1, b :: rest => by
    rw [skipChunks, decBreak]
    split
    · rfl
    · simp only [chunk, Res.bind_assoc, Res.bind_ok, ← skipChunks_eq m fuel]
      exact Res.bind_congr _ _ _ fun s r _ => by split <;> rfl

theorem noGrow_skipChunks (m fuel : Nat) : NoGrow (skipChunks m fuel) := by
  intro bs a r h
  rw [skipChunks_eq] at h
  exact noGrow_bind (noGrow_decBreak (progress_chunk m).noGrow fuel) (fun _ => noGrow_ok ()) bs a r h

theorem progress_skipStr (m : Nat) : Progress (skipStr m) :=
  progress_cons rfl fun b => noGrow_ite _ (fun rest a r h => noGrow_skipChunks m _ rest a r h) <|
    noGrow_bind (noGrow_arg _) fun n => noGrow_bind (noGrow_readN n) fun _ => noGrow_ite _ (noGrow_of_ne_ok (by simp)) (noGrow_ok ())

/-- `(nrounds, irounds, stack)`, the top of the stack first -/
abbrev SkipState := Nat × Nat × List (Option Nat)

/-- how the loop goes on after a round: `none` = leave it -/
def resume (f : Nat) (k : Option SkipState) (r : Bytes) : Res Unit :=
  match k with
  | none => .ok () r
  | some (nr, ir, st) => skipLoop f nr ir st r

def Busy (nr ir : Nat) (st : List (Option Nat)) : Prop := ¬ (nr = 0 ∧ ir = 0 ∧ st.isEmpty = true)

/-- `if let Some(None) = stack.last() { stack.pop(); }` -/
def popNone : List (Option Nat) → List (Option Nat)
  | none :: st' => st'
  | st => st

section
variable {nr ir : Nat} {st : List (Option Nat)} {b : UInt8}

theorem skipLoop_idle (h : ¬ Busy nr ir st) (f : Nat) (bs : Bytes) : skipLoop (f + 1) nr ir st bs = .ok () bs := by
  unfold skipLoop; rw [if_pos (Classical.not_not.mp h)]

theorem skipLoop_nil (hb : Busy nr ir st) (f : Nat) : skipLoop (f + 1) nr ir st [] = .eoi := by
  unfold skipLoop; rw [if_neg hb]

theorem skipLoop_uint (hb : Busy nr ir st) (hn : b.toNat ≤ 0x1b) (f : Nat) (rest : Bytes) :
    skipLoop (f + 1) nr ir st (b :: rest) = (u64 (b :: rest)).bind fun _ r => resume f (skipTail nr ir st) r := by
  simp only [skipLoop, if_neg hb]
  rw [if_pos hn]; rfl

/-- negative integers, simple values and floats: only the argument is read -/
theorem skipLoop_arg (hb : Busy nr ir st) (hn : (0x20 ≤ b.toNat ∧ b.toNat ≤ 0x3b) ∨ (0xe0 ≤ b.toNat ∧ b.toNat ≤ 0xfb))
    (f : Nat) (rest : Bytes) :
    skipLoop (f + 1) nr ir st (b :: rest) =
      (unsignedArg (info b) rest .err).bind fun _ r => resume f (skipTail nr ir st) r := by
  simp only [skipLoop, if_neg hb]
  rcases hn with hn | hn
  · rw [if_neg (by omega), if_pos hn]; rfl
  · rw [if_neg (by omega), if_neg (by omega), if_neg (by omega), if_neg (by omega), if_neg (by omega), if_neg (by omega),
      if_neg (by omega), if_pos hn]; rfl

/-- byte (`m = 2`) and text (`m = 3`) strings, definite or not -/
theorem skipLoop_str (hb : Busy nr ir st) (m : Nat) (hm : m = 2 ∨ m = 3) (hn : m * 32 ≤ b.toNat ∧ b.toNat < (m + 1) * 32)
    (f : Nat) (rest : Bytes) :
    skipLoop (f + 1) nr ir st (b :: rest) = (skipStr m (b :: rest)).bind fun _ r => resume f (skipTail nr ir st) r := by
  simp only [skipLoop, if_neg hb]
  rcases hm with rfl | rfl
  · rw [if_neg (by omega), if_neg (by omega), if_pos (by omega)]; rfl
  · rw [if_neg (by omega), if_neg (by omega), if_neg (by omega), if_pos (by omega)]; rfl

/-- the state after the head of a container announcing `len` items, at the end of that round -/
def opened (len : Option Nat) (nr ir : Nat) (st : List (Option Nat)) : Option SkipState :=
  skipTail (skipOpen len nr ir st).1 (skipOpen len nr ir st).2.1 (skipOpen len nr ir st).2.2

theorem skipLoop_array (hb : Busy nr ir st) (hn : 0x80 ≤ b.toNat ∧ b.toNat ≤ 0x9f) (f : Nat) (rest : Bytes) :
    skipLoop (f + 1) nr ir st (b :: rest) = (array (b :: rest)).bind fun len r => resume f (opened len nr ir st) r := by
  simp only [skipLoop, if_neg hb]
  rw [if_neg (by omega), if_neg (by omega), if_neg (by omega), if_neg (by omega), if_pos hn]; rfl

theorem skipLoop_map (hb : Busy nr ir st) (hn : 0xa0 ≤ b.toNat ∧ b.toNat ≤ 0xbf) (f : Nat) (rest : Bytes) :
    skipLoop (f + 1) nr ir st (b :: rest) =
      (map (b :: rest)).bind fun len r => resume f (opened (len.map satMul2) nr ir st) r := by
  simp only [skipLoop, if_neg hb]
  rw [if_neg (by omega), if_neg (by omega), if_neg (by omega), if_neg (by omega), if_neg (by omega), if_pos hn]; rfl

/-- a tag head is consumed without touching the counters (`continue`) -/
theorem skipLoop_tag (hb : Busy nr ir st) (hn : 0xc0 ≤ b.toNat ∧ b.toNat ≤ 0xdb) (f : Nat) (rest : Bytes) :
    skipLoop (f + 1) nr ir st (b :: rest) =
      (unsignedArg (info b) rest .err).bind fun _ r => resume f (some (nr, ir, st)) r := by
  simp only [skipLoop, if_neg hb]
  rw [if_neg (by omega), if_neg (by omega), if_neg (by omega), if_neg (by omega), if_neg (by omega), if_neg (by omega),
    if_pos hn]; rfl

/-- the state after a break byte, at the end of that round -/
def closed (nr ir : Nat) (st : List (Option Nat)) : Option SkipState :=
  if nr = 0 ∧ ir = 0 then skipTail nr ir (popNone st) else skipTail nr (ir - 1) st

theorem skipLoop_break (hb : Busy nr ir st) (hn : b.toNat = 0xff) (f : Nat) (rest : Bytes) :
    skipLoop (f + 1) nr ir st (b :: rest) = resume f (closed nr ir st) rest := by
  unfold closed
  simp only [skipLoop, if_neg hb]
  rw [if_neg (by omega), if_neg (by omega), if_neg (by omega), if_neg (by omega), if_neg (by omega), if_neg (by omega),
    if_neg (by omega), if_neg (by omega), if_pos hn]
  split <;> rfl

/-- the head bytes `skip` has no arm for -/
def Reserved (n : Nat) : Prop :=
  (0x1c ≤ n ∧ n ≤ 0x1f) ∨ (0x3c ≤ n ∧ n ≤ 0x3f) ∨ (0xdc ≤ n ∧ n ≤ 0xdf) ∨ (0xfc ≤ n ∧ n ≠ 0xff)

theorem skipLoop_reserved (hb : Busy nr ir st) (hn : Reserved b.toNat) (f : Nat) (rest : Bytes) :
    skipLoop (f + 1) nr ir st (b :: rest) = .err := by
  unfold Reserved at hn
  simp only [skipLoop, if_neg hb]
  rw [if_neg (by omega), if_neg (by omega), if_neg (by omega), if_neg (by omega), if_neg (by omega), if_neg (by omega),
    if_neg (by omega), if_neg (by omega), if_neg (by omega)]

theorem head_cases (n : Nat) :
    n ≤ 0x1b ∨ (0x20 ≤ n ∧ n ≤ 0x3b) ∨ (0x40 ≤ n ∧ n ≤ 0x5f) ∨ (0x60 ≤ n ∧ n ≤ 0x7f) ∨ (0x80 ≤ n ∧ n ≤ 0x9f) ∨
      (0xa0 ≤ n ∧ n ≤ 0xbf) ∨ (0xc0 ≤ n ∧ n ≤ 0xdb) ∨ (0xe0 ≤ n ∧ n ≤ 0xfb) ∨ n = 0xff ∨ Reserved n := by
  unfold Reserved; omega

/-- What all arms share: a round reads something and leaves less than its input, and what it read decides,
    independently of the fuel, whether and in which state the loop goes on with the rest. -/
theorem skipLoop_round (hb : Busy nr ir st) (b : UInt8) (rest : Bytes) :
    ∃ x : Res (Option SkipState), (∀ k r, x = .ok k r → r.length < (b :: rest).length) ∧
      ∀ f, skipLoop (f + 1) nr ir st (b :: rest) = x.bind (resume f) := by
  -- each arm calls one reader `y`; what it returns decides the next state through some `g`
  suffices h : ∃ (α : Type) (y : Res α) (g : α → Option SkipState), (∀ a r, y = .ok a r → r.length < (b :: rest).length) ∧
      ∀ f, skipLoop (f + 1) nr ir st (b :: rest) = y.bind fun a r => resume f (g a) r by
    obtain ⟨α, y, g, hy, he⟩ := h
    exact ⟨y.map g, fun k r h => by obtain ⟨a, ha, _⟩ := Res.map_eq_ok h; exact hy a r ha,
      fun f => by rw [he, Res.bind_map]⟩
  -- a reader of the rest after the head byte
  have arg := fun a r h => Nat.lt_succ_of_le (noGrow_arg (info b) rest a r h)
  rcases head_cases b.toNat with h | h | h | h | h | h | h | h | h | h
  · exact ⟨_, _, _, progress_u64 _, fun f => skipLoop_uint hb h f rest⟩
  · exact ⟨_, _, _, arg, fun f => skipLoop_arg hb (Or.inl h) f rest⟩
  · exact ⟨_, _, _, progress_skipStr 2 _, fun f => skipLoop_str hb 2 (Or.inl rfl) (by omega) f rest⟩
  · exact ⟨_, _, _, progress_skipStr 3 _, fun f => skipLoop_str hb 3 (Or.inr rfl) (by omega) f rest⟩
  · exact ⟨_, _, _, progress_container 4 _, fun f => skipLoop_array hb h f rest⟩
  · exact ⟨_, _, _, progress_container 5 _, fun f => skipLoop_map hb h f rest⟩
  · exact ⟨_, _, _, arg, fun f => skipLoop_tag hb h f rest⟩
  · exact ⟨_, _, _, arg, fun f => skipLoop_arg hb (Or.inr h) f rest⟩
  · exact ⟨Unit, .ok () rest, fun _ => closed nr ir st, fun _ _ e => by cases e; exact Nat.lt_succ_self _,
      fun f => skipLoop_break hb h f rest⟩
  · exact ⟨Unit, .err, fun _ => none, fun _ _ e => (nomatch e), fun f => skipLoop_reserved hb h f rest⟩

end

theorem skipLoop_le : ∀ (fuel nr ir : Nat) (st : List (Option Nat)) (bs r : Bytes), skipLoop fuel nr ir st bs = .ok () r →
    r.length ≤ bs.length ∧ (Busy nr ir st → r.length < bs.length)
  | 0, _, _, _, _, _, h => by simp [skipLoop] at h
  | f + 1, nr, ir, st, bs, r, h => by
    by_cases hb : Busy nr ir st
    · cases bs with
      | nil => rw [skipLoop_nil hb] at h; cases h
      | cons b rest =>
        obtain ⟨x, hx, he⟩ := skipLoop_round hb b rest
        rw [he] at h
        obtain ⟨k, r', h1, h2⟩ := Res.bind_eq_ok h
        have := hx k r' h1
        suffices r.length ≤ r'.length by omega
        cases k with
        | none => cases h2; exact Nat.le_refl _
        | some s => exact (skipLoop_le f _ _ _ _ _ h2).1
    · rw [skipLoop_idle hb] at h
      cases h
      exact ⟨Nat.le_refl _, fun h' => absurd h' hb⟩

/-- every round consumes at least the head byte -/
theorem skipLoop_fuel_irrelevant : ∀ {f1 f2 : Nat} (nr ir : Nat) (st : List (Option Nat)) {bs : Bytes},
    bs.length < f1 → bs.length < f2 → skipLoop f1 nr ir st bs = skipLoop f2 nr ir st bs
  | 0, _, _, _, _, _, h, _ | _, 0, _, _, _, _, _, h => absurd h (Nat.not_lt_zero _)
  | f1 + 1, f2 + 1, nr, ir, st, bs, h1, h2 => by
    by_cases hb : Busy nr ir st
    · cases bs with
      | nil => rw [skipLoop_nil hb, skipLoop_nil hb]
      | cons b rest =>
        obtain ⟨x, hx, he⟩ := skipLoop_round hb b rest
        rw [he, he]
        refine Res.bind_congr _ _ _ fun k r hk => ?_
        have := hx k r hk
        cases k with
        | none => rfl
        | some s => exact skipLoop_fuel_irrelevant _ _ _ (by omega) (by omega)
    · rw [skipLoop_idle hb, skipLoop_idle hb]

theorem decBreak_fuel_irrelevant {α : Type} {d : Dec α} (hd : Progress d) : ∀ {f1 f2 : Nat} {bs : Bytes},
    bs.length < f1 → bs.length < f2 → decBreak d f1 bs = decBreak d f2 bs
  | 0, _, _, h, _ | _, 0, _, _, h => absurd h (Nat.not_lt_zero _)
  | _ + 1, _ + 1, [], _, _ => rfl
  | f1 + 1, f2 + 1, b :: rest, h1, h2 => by
    unfold decBreak
    split
    · rfl
    · refine Res.bind_congr _ _ _ fun a r hr => ?_
      have := hd _ _ _ hr
      simp only [List.length_cons] at this h1 h2
      rw [decBreak_fuel_irrelevant hd (f1 := f1) (f2 := f2) (by omega) (by omega)]

theorem progress_of_first {α β : Type} (p : Dec α) (f : α → Bytes → Res β)
    (hp : ∀ b rest a r, p (b :: rest) = .ok a r → r.length ≤ rest.length) (hnil : ∀ a r, p [] ≠ .ok a r)
    (hf : ∀ a r b r', f a r = .ok b r' → r'.length ≤ r.length) : Progress (fun bs => (p bs).bind f) :=
  progress_bind (fun bs a r h => match bs with
    | [] => absurd h (hnil a r)
    | b :: rest => Nat.lt_succ_of_le (hp b rest a r h)) hf

end PallasVerif.NetCodec
