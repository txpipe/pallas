import PallasVerif.Model.Witness
/-!
# C35 — Accepted transactions carry only valid signatures and all needed ones

For every hash function `hash`, every signature predicate `verify` (Ed25519 is a parameter), every
witness list, every list of input views and every list of required signers:

* `accept_implies_all_valid` (Alonzo, Babbage, Conway: `checkWitnessSet`) — verdict `ok` ⇒
  (1) every verification-key witness is well-sized and `verify key txid sig` holds,
  (2) every key-locked input / collateral input has such a witness whose key hashes to its payment key,
  (3) every required signer has one.
* `shelley_accept_implies_all_valid` (Shelley, Allegra, Mary: `checkWitnessesShelley`) — (1) and (2)
  (there are no required signers before Alonzo).

Proof: every function of the rule is shown to yield its postcondition (`Yields`) — it ends in an error or in a result that
satisfies it, never in a panic. The `(covered, witness)` list keeps the invariant "covered ⇒ valid" through
`check_vk_wit` and through the input loop; the fixed `check_remaining_vk_wits` establishes "uncovered ⇒ valid".
The two theorems are the `ok` half of the rule's `_yields`; the other half is its totality (C33).
Inputs whose UTxO entry the era's validator does not inspect (`InputView.skipped`) are outside
clause (2); the harness oracle checks on the real code that no key-locked input is ever treated so.
-/
namespace PallasVerif.Props.C35
open PallasVerif.Witness

variable {H : Type} [DecidableEq H] (hash : Bytes → H) (verify : Bytes → Bytes → Bytes → Bool)

def Valid (msg : Bytes) (w : Wit) : Prop :=
  w.vkey.length = 32 ∧ w.sig.length = 64 ∧ verify w.vkey msg w.sig = true

def Signed (msg : Bytes) (ws : List Wit) (h : H) : Prop :=
  ∃ w ∈ ws, hash w.vkey = h ∧ Valid verify msg w

/-- the outcome is not a panic, and a success satisfies `P` (`Value.R.Sat False` is the same notion for the result type of the
    value arithmetic, which has no error payload) -/
def Yields {α : Type} (r : R α) (P : α → Prop) : Prop :=
  match r with
  | .ok a => P a
  | .err _ => True
  | .panic => False

theorem Yields.ok {α : Type} {r : R α} {P : α → Prop} {a : α} (h : Yields r P) (hr : r = .ok a) : P a := by
  subst hr; exact h

theorem Yields.np {α : Type} {r : R α} {P : α → Prop} (h : Yields r P) : r ≠ .panic := by
  intro hr; subst hr; exact h

theorem Yields.imp {α : Type} {r : R α} {P Q : α → Prop} (h : Yields r P) (hPQ : ∀ a, P a → Q a) : Yields r Q := by
  cases r with
  | ok a => exact hPQ a h
  | err e => trivial
  | panic => exact h

/-- `verify_signature` is always `some`, and `some true` only for a well-sized witness that verifies -/
theorem verifySignature_cases (w : Wit) (msg : Bytes) :
    verifySignature verify w msg ≠ none ∧ (verifySignature verify w msg = some true → Valid verify msg w) := by
  unfold verifySignature
  split
  · exact ⟨nofun, nofun⟩
  · split
    · exact ⟨nofun, nofun⟩
    · rename_i h1 h2
      exact ⟨nofun, fun hv => ⟨Decidable.of_not_not h1, Decidable.of_not_not h2, Option.some.inj hv⟩⟩

/-- invariant of the check list: a witness is marked covered only after its signature verified -/
def Inv (msg : Bytes) (l : List (Bool × Wit)) : Prop :=
  ∀ p ∈ l, p.1 = true → Valid verify msg p.2

/- Each function is followed along its own arms (`fun_induction`, `fun_cases`): an arm that matches on a step carries the
   step's outcome as an equation, so the step's `_yields` gives the success its postcondition (`.ok`) and closes the
   panic arm (`.np`); an error arm is `trivial`. -/

theorem checkVkWit_yields (h : H) (msg : Bytes) : ∀ l : List (Bool × Wit),
    Yields (checkVkWit hash verify h msg l) (fun l' =>
      l'.map (·.2) = l.map (·.2) ∧ (Inv verify msg l → Inv verify msg l') ∧ Signed hash verify msg (l.map (·.2)) h) := by
  intro l
  fun_induction checkVkWit hash verify h msg l with
  | case1 | case3 | case6 => trivial  -- errors: no witness left; wrong signature under the key sought; the error of the rest
  | case2 c w rest _ hv => exact (verifySignature_cases verify w msg).1 hv  -- `verifySignature` = `none`: never
  | case4 c w rest hh hv =>  -- the key hashes to `h` and the signature verifies: marked covered
    have hv := (verifySignature_cases verify w msg).2 hv
    exact ⟨rfl, fun hinv => List.forall_mem_cons.mpr ⟨fun _ => hv, (List.forall_mem_cons.mp hinv).2⟩,
      w, List.mem_cons_self, hh, hv⟩
  | case5 c w rest _ rest' hr ih =>  -- another key, and the search in the rest succeeds
    obtain ⟨h1, h2, w', hw', hs⟩ := ih.ok hr
    refine ⟨congrArg (w :: ·) h1, fun hinv => ?_, w', List.mem_cons_of_mem _ hw', hs⟩
    obtain ⟨hcw, hrest⟩ := List.forall_mem_cons.mp hinv
    exact List.forall_mem_cons.mpr ⟨hcw, h2 hrest⟩
  | case7 c w rest _ hr ih => exact ih.np hr  -- another key, and the search in the rest panics: never

theorem checkVkWit_ok (h : H) (msg : Bytes) : ∀ (l l' : List (Bool × Wit)),
    checkVkWit hash verify h msg l = .ok l' →
    l'.map (·.2) = l.map (·.2) ∧ (Inv verify msg l → Inv verify msg l') ∧
    Signed hash verify msg (l.map (·.2)) h :=
  fun l _ hk => (checkVkWit_yields hash verify h msg l).ok hk

theorem checkRemaining_yields (msg : Bytes) : ∀ l : List (Bool × Wit),
    Yields (checkRemaining verify msg l) (fun _ => ∀ p ∈ l, p.1 = false → Valid verify msg p.2) := by
  intro l
  fun_induction checkRemaining verify msg l with
  | case1 => exact fun _ hp => nomatch hp
  | case2 c w rest _ hv => exact (verifySignature_cases verify w msg).1 hv  -- uncovered, `verifySignature` = `none`: never
  | case3 c w rest _ hv ih =>  -- uncovered and verifies: `continue`
    exact ih.imp fun _ hr => List.forall_mem_cons.mpr ⟨fun _ => (verifySignature_cases verify w msg).2 hv, hr⟩
  | case4 => trivial  -- uncovered, wrong signature
  | case5 c w rest hc ih =>  -- covered: passed over
    exact ih.imp fun _ hr => List.forall_mem_cons.mpr ⟨fun hf => absurd (by rw [show c = false from hf]; rfl) hc, hr⟩

theorem checkRemaining_ok (msg : Bytes) : ∀ (l : List (Bool × Wit)),
    checkRemaining verify msg l = .ok () → ∀ p ∈ l, p.1 = false → Valid verify msg p.2 :=
  fun l hk => (checkRemaining_yields verify msg l).ok hk

def LoopPost (msg : Bytes) (ins : List (InputView H)) (l l' : List (Bool × Wit)) : Prop :=
  l'.map (·.2) = l.map (·.2) ∧ (Inv verify msg l → Inv verify msg l') ∧
  ∀ h, InputView.key h ∈ ins → Signed hash verify msg (l.map (·.2)) h

theorem inputLoop_yields (msg : Bytes) : ∀ (ins : List (InputView H)) (l : List (Bool × Wit)),
    Yields (inputLoop hash verify msg ins l) (LoopPost hash verify msg ins l) := by
  intro ins l
  fun_induction inputLoop hash verify msg ins l with
  | case1 l => exact ⟨rfl, id, fun _ hh => nomatch hh⟩
  | case2 | case4 | case7 => trivial  -- errors: not in the UTxO; undecodable; `checkVkWit` fails
  | case3 vs l ih | case5 vs l _ ih =>  -- a skipped entry; a script input: no check
    refine ih.imp fun l' ⟨h1, h2, h3⟩ => ⟨h1, h2, fun h hh => ?_⟩
    rcases List.mem_cons.mp hh with e | e
    · cases e
    · exact h3 h e
  | case6 vs l k l1 hr ih =>  -- a key input, `checkVkWit` succeeds
    obtain ⟨a1, a2, a3⟩ := (checkVkWit_yields hash verify k msg l).ok hr
    refine ih.imp fun l' ⟨h1, h2, h3⟩ => ⟨h1.trans a1, fun hi => h2 (a2 hi), fun h hh => ?_⟩
    rcases List.mem_cons.mp hh with e | e
    · cases e; exact a3
    · exact a1 ▸ h3 h e
  | case8 vs l k hr => exact (checkVkWit_yields hash verify k msg l).np hr  -- a key input, `checkVkWit` panics: never

/-- the Shelley-MA loop is the loop of the later eras, except that a script input without native-script witness fails it -/
theorem inputLoopShelley_cases (msg : Bytes) : ∀ (ins : List (InputView H)) (l : List (Bool × Wit)),
    inputLoopShelley hash verify msg ins l = inputLoop hash verify msg ins l ∨
    inputLoopShelley hash verify msg ins l = .err .missingScriptWitness := by
  intro ins l
  fun_induction inputLoopShelley hash verify msg ins l with
  | case1 | case2 | case4 => exact .inl rfl  -- no input left; not in the UTxO; undecodable
  | case3 vs l ih | case5 vs l ih => exact ih  -- a skipped entry; a script input with its native-script witness
  | case6 vs l b hb => exact .inr rfl  -- a script input without native-script witness
  | case7 vs l k l' hr ih => rw [inputLoop, hr]; exact ih  -- a key input, `checkVkWit` succeeds
  | case8 vs l k e hr | case9 vs l k hr => rw [inputLoop, hr]; exact .inl rfl  -- a key input, `checkVkWit` fails; panics

theorem inputLoopShelley_yields (msg : Bytes) (ins : List (InputView H)) (l : List (Bool × Wit)) :
    Yields (inputLoopShelley hash verify msg ins l) (LoopPost hash verify msg ins l) := by
  rcases inputLoopShelley_cases hash verify msg ins l with e | e <;> rw [e]
  · exact inputLoop_yields hash verify msg ins l
  · trivial

omit [DecidableEq H] in
/-- the input loop and the final pass together: a witness marked covered is valid by `Inv` (it was verified when marked), an
    uncovered one is valid because `checkRemaining` has just verified it — so every witness is valid -/
theorem remaining_yields (ws : List Wit) (ins : List (InputView H)) (msg : Bytes) (l' : List (Bool × Wit))
    (hl : LoopPost hash verify msg ins (ws.map fun w => (false, w)) l') :
    Yields (checkRemaining verify msg l') (fun _ =>
      (∀ w ∈ ws, Valid verify msg w) ∧ ∀ h, InputView.key h ∈ ins → Signed hash verify msg ws h) := by
  obtain ⟨h1, h2, h3⟩ := hl
  have hws : (ws.map fun w => (false, w)).map (·.2) = ws := by simp [Function.comp_def]
  rw [hws] at h1 h3
  have hinv := h2 fun p hp hp1 => by obtain ⟨w, _, rfl⟩ := List.mem_map.mp hp; cases hp1
  refine (checkRemaining_yields verify msg l').imp fun _ hrem => ⟨fun w hw => ?_, h3⟩
  obtain ⟨p, hp, rfl⟩ := List.mem_map.mp (h1 ▸ hw)
  cases hc : p.1 with
  | true => exact hinv p hp hc
  | false => exact hrem p hp hc

theorem checkVkeyInputWits_yields (wits : Option (List Wit)) (ins : List (InputView H)) (msg : Bytes) :
    Yields (checkVkeyInputWits hash verify wits ins msg) (fun _ =>
      (∀ w ∈ wits.getD [], Valid verify msg w) ∧ ∀ h, InputView.key h ∈ ins → Signed hash verify msg (wits.getD []) h) := by
  cases wits with
  | none => trivial
  | some ws =>
    have hl := inputLoop_yields hash verify msg ins (ws.map fun w => (false, w))
    simp only [checkVkeyInputWits, mkCheckList]
    split
    · exact remaining_yields hash verify ws ins msg _ (hl.ok ‹_›)
    · trivial
    · exact hl.np ‹_›

theorem findAndCheckReqSigner_yields (h : H) (msg : Bytes) : ∀ ws : List Wit,
    Yields (findAndCheckReqSigner hash verify h msg ws) (fun _ => Signed hash verify msg ws h) := by
  intro ws
  fun_induction findAndCheckReqSigner hash verify h msg ws with
  | case1 | case3 => trivial  -- errors: no witness left; wrong signature under the signer's key
  | case2 w rest _ hv => exact (verifySignature_cases verify w msg).1 hv  -- `verifySignature` = `none`: never
  -- the key hashes to `h` and the signature verifies
  | case4 w rest hh hv => exact ⟨w, List.mem_cons_self, hh, (verifySignature_cases verify w msg).2 hv⟩
  | case5 w rest _ ih => exact ih.imp fun _ ⟨w', hw', a, b⟩ => ⟨w', List.mem_cons_of_mem _ hw', a, b⟩  -- another key

theorem checkRequiredSigners_yields (req : Option (List H)) (wits : Option (List Wit)) (msg : Bytes) :
    Yields (checkRequiredSigners hash verify req wits msg) (fun _ =>
      ∀ r ∈ req.getD [], Signed hash verify msg (wits.getD []) r) := by
  cases req with
  | none => exact fun _ hr => nomatch hr
  | some rs =>
    cases wits with
    | none => trivial
    | some ws =>
      simp only [checkRequiredSigners]
      fun_induction reqLoop hash verify msg ws rs with
      | case1 => exact fun _ hr => nomatch hr
      | case2 r0 rest hr ih =>  -- the signer's check passes: on to the next
        exact ih.imp fun _ hrest => List.forall_mem_cons.mpr ⟨(findAndCheckReqSigner_yields hash verify r0 msg ws).ok hr, hrest⟩
      | case3 => trivial  -- it fails
      | case4 r0 rest hr => exact (findAndCheckReqSigner_yields hash verify r0 msg ws).np hr  -- it panics: never

theorem checkWitnessSet_yields (conway : Bool) (req : Option (List H)) (wits : Option (List Wit))
    (ins : List (InputView H)) (msg : Bytes) :
    Yields (checkWitnessSet hash verify conway req wits ins msg) (fun _ =>
      (∀ w ∈ wits.getD [], Valid verify msg w) ∧
      (∀ h, InputView.key h ∈ ins → Signed hash verify msg (wits.getD []) h) ∧
      (∀ r ∈ req.getD [], Signed hash verify msg (wits.getD []) r)) := by
  have hn : (normalize conway wits).getD [] = wits.getD [] := by cases conway <;> cases wits <;> rfl
  have hv := checkVkeyInputWits_yields hash verify (normalize conway wits) ins msg
  have hq := checkRequiredSigners_yields hash verify req (normalize conway wits) msg
  rw [hn] at hv hq
  fun_cases checkWitnessSet hash verify conway req wits ins msg with
  | case1 hr => exact hv.imp fun _ ⟨a, b⟩ => ⟨a, b, hq.ok hr⟩  -- the required signers pass: `checkVkeyInputWits` decides
  | case2 => trivial  -- they fail
  | case3 hr => exact hq.np hr  -- their check panics: never

/-- **The property (Alonzo, Babbage, Conway).** `wits.getD []` is the witness list the validator works on
    (`normalize`: Conway turns an absent field into the empty list; an absent field fails Alonzo / Babbage). -/
theorem accept_implies_all_valid (conway : Bool) (req : Option (List H)) (wits : Option (List Wit))
    (ins : List (InputView H)) (msg : Bytes)
    (hacc : checkWitnessSet hash verify conway req wits ins msg = .ok ()) :
    (∀ w ∈ wits.getD [], Valid verify msg w) ∧
    (∀ h, InputView.key h ∈ ins → Signed hash verify msg (wits.getD []) h) ∧
    (∀ r ∈ req.getD [], Signed hash verify msg (wits.getD []) r) :=
  (checkWitnessSet_yields hash verify conway req wits ins msg).ok hacc

theorem checkWitnessesShelley_yields (wits : Option (List Wit)) (ins : List (InputView H)) (nativeOk : Bool) (msg : Bytes) :
    Yields (checkWitnessesShelley hash verify wits ins nativeOk msg) (fun _ =>
      (∀ w ∈ wits.getD [], Valid verify msg w) ∧ ∀ h, InputView.key h ∈ ins → Signed hash verify msg (wits.getD []) h) := by
  cases wits with
  | none => trivial
  | some ws =>
    have hl := inputLoopShelley_yields hash verify msg ins (ws.map fun w => (false, w))
    simp only [checkWitnessesShelley, mkCheckList]
    split
    · cases nativeOk with
      | true => exact remaining_yields hash verify ws ins msg _ (hl.ok ‹_›)
      | false => trivial
    · trivial
    · exact hl.np ‹_›

/-- **The property (Shelley, Allegra, Mary).** -/
theorem shelley_accept_implies_all_valid (wits : Option (List Wit)) (ins : List (InputView H))
    (nativeOk : Bool) (msg : Bytes)
    (hacc : checkWitnessesShelley hash verify wits ins nativeOk msg = .ok ()) :
    (∀ w ∈ wits.getD [], Valid verify msg w) ∧
    (∀ h, InputView.key h ∈ ins → Signed hash verify msg (wits.getD []) h) :=
  (checkWitnessesShelley_yields hash verify wits ins nativeOk msg).ok hacc

/-! ## The early `return Ok(())` of the unchanged tree (DESIGN §6 #22) as a counter-model: the last two examples below -/

/-- `check_remaining_vk_wits` of the unchanged tree: `return Ok(())` at the first uncovered witness that verifies -/
def checkRemainingOld (msg : Bytes) : List (Bool × Wit) → R Unit
  | [] => .ok ()
  | (c, w) :: rest =>
    if !c then
      match verifySignature verify w msg with
      | none => .panic
      | some true => .ok ()
      | some false => .err .vkWrongSignature
    else checkRemainingOld msg rest

/-! ## Non-vacuity (a toy `hash`/`verify`: key hash = first byte, valid iff the signature starts with the key's first byte) -/
section examples
private def k (b : UInt8) : Bytes := List.replicate 32 b
private def s (b : UInt8) : Bytes := List.replicate 64 b
private def thash (key : Bytes) : Nat := (key.headD 0).toNat
private def tverify (key _msg sig : Bytes) : Bool := key.headD 0 == sig.headD 1

example : checkWitnessSet thash tverify false (some [7]) (some [⟨k 7, s 7⟩, ⟨k 9, s 9⟩])
    [.key 7, .script false, .key 9] [] = .ok () := by decide
example : checkWitnessSet thash tverify false none (some [⟨k 7, s 7⟩, ⟨k 8, s 8⟩, ⟨k 9, s 1⟩])
    [.key 7] [] = .err .vkWrongSignature := by decide
example : checkWitnessSet thash tverify true (some [3]) none [] [] = .err .reqSignerMissing := by decide
example : checkWitnessSet thash tverify false none (some [⟨k 7, s 7⟩]) [.key 8] [] = .err .vkWitnessMissing := by decide
example : checkWitnessSet thash tverify false none (some [⟨[7], s 7⟩]) [.key 7] [] = .err .vkWrongSignature := by decide
example : checkWitnessesShelley thash tverify (some [⟨k 7, s 7⟩]) [.key 7, .script true] true [] = .ok () := by decide
/-- the early return accepts a garbage witness behind a valid uncovered one; the pass of the fixed code rejects it -/
example : checkRemainingOld tverify [] [(false, ⟨k 8, s 8⟩), (false, ⟨k 9, s 1⟩)] = .ok () := by decide
example : checkRemaining tverify [] [(false, ⟨k 8, s 8⟩), (false, ⟨k 9, s 1⟩)] = .err .vkWrongSignature := by decide
end examples

end PallasVerif.Props.C35
