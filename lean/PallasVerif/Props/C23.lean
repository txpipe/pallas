import PallasVerif.Gen.FsmN1
import PallasVerif.Model.FsmSpecN1
import PallasVerif.Proofs.Agent
/-!
# C23 — Original-stack agents follow the mini-protocol state machines

`Gen/FsmN1.lean` is regenerated on every run from every `client.rs` / `server.rs` of the nine
protocols the property names (`has_agency`, `assert_outbound_state`, `assert_inbound_state`, the
shape of `send_message` / `recv_message`, and every `self.0 = State::X` after a send or in an arm of a
receiving method). `Model/FsmSpecN1.lean` holds the hand-written specification tables.

`agents_conform` decides `Agent.AgentTable` for every agent over the complete state × message product;
the theorems after it state the clauses of the property (quoted) for every state, message, method and
history of calls, through Proofs/Agent.
-/
namespace PallasVerif.Props.C23
open PallasVerif.Fsm PallasVerif.Agent PallasVerif.Gen PallasVerif.FsmSpecN1

/-- the translator classified every construct of every agent -/
theorem unknowns_nil : FsmN1.unknowns = [] := by decide

/-- every protocol of the property has a client agent, and all but tx-monitor a server agent; there
    are no agents of other protocols in the table -/
theorem agents_covered :
    (∀ sp ∈ specs, ∃ a ∈ FsmN1.agents, a.proto = sp.name ∧ a.role = .client) ∧
    (∀ sp ∈ specs, sp.name ≠ "txmonitor" → ∃ a ∈ FsmN1.agents, a.proto = sp.name ∧ a.role = .server) ∧
    (∀ a ∈ FsmN1.agents, a.proto ∈ specs.map (·.name)) ∧
    (specs.map (·.name)).Nodup ∧ (FsmN1.agents.map (fun a => (a.proto, a.role))).Nodup := by decide +kernel

theorem agents_conform :
    ∀ a ∈ FsmN1.agents, ∀ sp ∈ specs, a.proto = sp.name → AgentTable a sp := by decide +kernel

/-- "accepts to send exactly the messages the specification lets its role send in the current state" -/
theorem send_accepts_iff_spec (a : Agent) (ha : a ∈ FsmN1.agents) (sp : Spec) (hsp : sp ∈ specs)
    (hn : a.proto = sp.name) (s m : String) (hs : s ∈ a.states) (hm : m ∈ a.msgs) :
    (∃ u, a.sendMessage s m = .ok u) ↔ (sp.agency s = a.role ∧ ∃ n, sp.step s m = some n) :=
  accepts_iff ((agents_conform a ha sp hsp hn).send_accepts s hs m hm)

/-- "accepts to receive exactly the messages the peer may send" -/
theorem recv_accepts_iff_spec (a : Agent) (ha : a ∈ FsmN1.agents) (sp : Spec) (hsp : sp ∈ specs)
    (hn : a.proto = sp.name) (s m : String) (hs : s ∈ a.states) (hm : m ∈ a.msgs) :
    (∃ u, a.recvMessage s m = .ok u) ↔ (sp.agency s = peer a.role ∧ ∃ n, sp.step s m = some n) :=
  accepts_iff ((agents_conform a ha sp hsp hn).recv_accepts s hs m hm)

/-- "ends in the state the specification prescribes after each exchange": an accepted method call
    (sending or receiving) is a transition of the specification to the prescribed state -/
theorem exchange_ends_in_prescribed_state (a : Agent) (ha : a ∈ FsmN1.agents) (sp : Spec) (hsp : sp ∈ specs)
    (hn : a.proto = sp.name) (s s' : String) (hs : s ∈ a.states) :
    (∀ st ∈ a.sends, a.callSend s st = .ok s' → sp.step s st.msg = some s') ∧
    (∀ f m ok, m ∈ a.msgs → a.callRecv s f m ok = .ok s' → sp.step s m = some s') := by
  have ht := agents_conform a ha sp hsp hn
  exact ⟨fun st hst h => callSend_ok ht hs hst h, fun f m ok hm h => callRecv_ok ht hs hm h⟩

/-- For every history of calls (low-level sends/receives and methods, any length) from any state:
    verdicts and states are the specification's. -/
theorem agent_refines_spec (a : Agent) (ha : a ∈ FsmN1.agents) (sp : Spec) (hsp : sp ∈ specs)
    (hn : a.proto = sp.name) (es : List Ev) (s : String) (hs : s ∈ a.states) (hwf : ∀ e ∈ es, e.wf a) :
    a.run s es = specRun sp a s es :=
  history_refines (agents_conform a ha sp hsp hn) es s hs hwf

/-- "rejects everything else with an error rather than a state change" -/
theorem rejected_leaves_state (a : Agent) (s : String) (e : Ev) (h : (a.step s e).2 = false) :
    (a.step s e).1 = s := by
  cases e with
  | rawSend m | rawRecv m => rfl
  | send st =>
    simp only [Agent.step] at h ⊢
    cases hc : a.callSend s st <;> simp_all
  | recv f m ok =>
    simp only [Agent.step] at h ⊢
    cases hc : a.callRecv s f m ok <;> simp_all

/-- The roles are tested before the protocol names so that names are compared for client–server pairs only: what
    the kernel spends in these sweeps is `String` equality (each name encoded to bytes once, every equal comparison
    walking them again), not the quantifiers around it. -/
theorem paired :
    ∀ c ∈ FsmN1.agents, c.role = .client → ∀ sv ∈ FsmN1.agents, sv.role = .server → c.proto = sv.proto →
      (c.init = sv.init ∧ ∀ s ∈ c.states, ¬ (c.hasAgency s = true ∧ sv.hasAgency s = true)) ∧
      ∀ sp ∈ specs, c.proto = sp.name → ∀ s ∈ c.states, sp.agency s ≠ .nobody →
        (∃ st ∈ c.sends, (c.callSend s st).toBool = true ∧ ∃ st' ∈ sv.recvs, (sv.callRecv s st'.method st.msg).toBool = true) ∨
        (∃ st ∈ sv.sends, (sv.callSend s st).toBool = true ∧ ∃ st' ∈ c.recvs, (c.callRecv s st'.method st.msg).toBool = true) := by
  decide +kernel

/-- the two agents of a protocol start in the same state and never both claim agency -/
theorem agency_exclusive :
    ∀ c ∈ FsmN1.agents, ∀ sv ∈ FsmN1.agents, c.proto = sv.proto → c.role = .client → sv.role = .server →
      c.init = sv.init ∧ ∀ s ∈ c.states, ¬ (c.hasAgency s = true ∧ sv.hasAgency s = true) :=
  fun c hc sv hsv hp hcr hsr => (paired c hc hcr sv hsv hsr hp).1

/-- the client × server product never deadlocks: in every state where the specification gives
    somebody agency, one side has a method that sends a message the other side's `recv_message`
    accepts and has a method for -/
theorem paired_no_deadlock :
    ∀ c ∈ FsmN1.agents, ∀ sv ∈ FsmN1.agents, ∀ sp ∈ specs, c.proto = sv.proto → c.proto = sp.name →
      c.role = .client → sv.role = .server →
      ∀ s ∈ c.states, sp.agency s ≠ .nobody →
        (∃ st ∈ c.sends, (c.callSend s st).toBool = true ∧ ∃ st' ∈ sv.recvs, (sv.callRecv s st'.method st.msg).toBool = true) ∨
        (∃ st ∈ sv.sends, (sv.callSend s st).toBool = true ∧ ∃ st' ∈ c.recvs, (c.callRecv s st'.method st.msg).toBool = true) :=
  fun c hc sv hsv sp hsp hp hn hcr hsr => (paired c hc hcr sv hsv hsr hp).2 sp hsp hn

/-- both sides of an exchange end in the same state (both are the specification's successor) -/
theorem paired_lockstep (c sv : Agent) (hc : c ∈ FsmN1.agents) (hsv : sv ∈ FsmN1.agents) (sp : Spec) (hsp : sp ∈ specs)
    (h1 : c.proto = sp.name) (h2 : sv.proto = sp.name) (s n n' : String) (hs : s ∈ c.states) (hs' : s ∈ sv.states)
    (st : Step) (hst : st ∈ c.sends) (f : String) (ok : Bool) (hm : st.msg ∈ sv.msgs)
    (hsend : c.callSend s st = .ok n) (hrecv : sv.callRecv s f st.msg ok = .ok n') : n = n' := by
  have a := (exchange_ends_in_prescribed_state c hc sp hsp h1 s n hs).1 st hst hsend
  have b := (exchange_ends_in_prescribed_state sv hsv sp hsp h2 s n' hs').2 f st.msg ok hm hrecv
  rw [a] at b; exact Option.some.inj b

example : FsmN1.agents.length = 17 := by decide

/-- a concrete history on the real chain-sync client table: request, await, a refused send while the
    server has agency, roll forward -/
example :
    let a := FsmN1.chainsync_client
    a.run a.init [.send ⟨"send_request_next", "RequestNext", some "CanAwait", false, none, "NoOp"⟩,
                  .recv "recv_while_can_await" "AwaitReply" true, .rawSend "RequestNext",
                  .recv "recv_while_must_reply" "RollForward" true]
      = ("Idle", [true, true, false, true]) := by decide +kernel

/-- the tx-monitor client may send `Release` in `Acquired`: the `(Acquired, Release)` arm of
    `assert_outbound_state`, which DESIGN §6 #13 found missing, is there in the tree the tables come from -/
example : FsmN1.txmonitor_client ∈ FsmN1.agents ∧ txmonitor ∈ specs ∧
    (FsmN1.txmonitor_client.sendMessage "Acquired" "Release").toBool = true := by
  refine ⟨by simp [FsmN1.agents], by simp [specs], by decide⟩

end PallasVerif.Props.C23
