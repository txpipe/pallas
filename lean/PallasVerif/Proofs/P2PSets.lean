import PallasVerif.Model.P2PInitiator
/-! Facts about the small helpers of the initiator model (`sinsert`, `sremove`, `setPeer`, `usub`). -/
namespace PallasVerif.P2P

theorem mem_sinsert {x p : Nat} {l : List Nat} : x ∈ sinsert p l ↔ x = p ∨ x ∈ l := by
  unfold sinsert
  by_cases h : p ∈ l
  · simp [h]; intro e; subst e; exact h
  · simp [h]

theorem sremove_eq_filter (p : Nat) (l : List Nat) : sremove p l = l.filter (fun y => decide (y ≠ p)) := by
  induction l with
  | nil => rfl
  | cons y ys ih =>
    unfold sremove
    by_cases h : y = p <;> simp [h, ih]

theorem mem_sremove {x p : Nat} {l : List Nat} : x ∈ sremove p l ↔ x ∈ l ∧ x ≠ p := by
  rw [sremove_eq_filter, List.mem_filter, decide_eq_true_eq]

theorem nodup_sinsert {p : Nat} {l : List Nat} (h : l.Nodup) : (sinsert p l).Nodup := by
  unfold sinsert
  by_cases hp : p ∈ l <;> simp [hp, h]

theorem nodup_sremove {p : Nat} {l : List Nat} (h : l.Nodup) : (sremove p l).Nodup := by
  rw [sremove_eq_filter]; exact List.Pairwise.filter _ h

theorem length_sinsert_le (p : Nat) (l : List Nat) : (sinsert p l).length ≤ l.length + 1 := by
  unfold sinsert
  by_cases hp : p ∈ l <;> simp [hp]

theorem length_sremove_le (p : Nat) (l : List Nat) : (sremove p l).length ≤ l.length := by
  rw [sremove_eq_filter]; exact List.length_filter_le _ l

/-- without `Nodup`: `sremove` takes out every copy -/
theorem length_sremove (p : Nat) (l : List Nat) : (sremove p l).length + l.count p = l.length := by
  fun_induction sremove p l
  case case1 => rfl
  case case2 ys ih => rw [List.count_cons_self, List.length_cons]; omega
  case case3 y ys e ih => rw [List.count_cons_of_ne e, List.length_cons, List.length_cons]; omega

theorem setPeer_same (f : Nat → Option Peer) (p : Nat) (st : Peer) : setPeer f p st p = some st := by
  simp [setPeer]

theorem setPeer_other (f : Nat → Option Peer) {p q : Nat} (st : Peer) (h : q ≠ p) : setPeer f p st q = f q := by
  simp [setPeer, h]

theorem usub_some {a b : Nat} (h : b ≤ a) : usub a b = some (a - b) := by simp [usub, h]

theorem usub_eq_some {a b r : Nat} (h : usub a b = some r) : b ≤ a ∧ r = a - b := by
  unfold usub at h
  by_cases hb : b ≤ a
  · simp [hb] at h; exact ⟨hb, h.symm⟩
  · simp [hb] at h

end PallasVerif.P2P
