import PallasVerif.Model.NetMsg
import PallasVerif.Proofs.NetCodec
/-!
Per message type: a representable value (`valid`) is encoded to a tree that passes `E.ok`
(so the bytes are exactly one well-formed item) and the transcribed decoder reads the bytes back
to the same value, whatever follows them (`Spec`). Where the decoder is a chain of reads the proof lists the fields of
the message with the primitive that reads each (`Fields`, `Proofs/NetCodec.lean`); where it is not (the maps, whose
entries are `Fields.pair`s under `Fields.decN` / `Fields.decBreak`; a `datatype` look-ahead; a `match` on the outcome of `array`) the proof unfolds the decoder.
-/
namespace PallasVerif.NetCodec
open PallasVerif.Cbor

/-- `Field.arrLabel` for the decoders that drop the declared length (`labelled`) -/
theorem Field.labelled {β : Type} {n k : Nat} {es : List E} {F : Nat → Bytes → Res β} {b : β}
    (hs : Fields es (F k) b) (hl : es.length + 1 = n := by rfl) (hn : n < 2 ^ 64 := by omega)
    (hk : k ≤ 65535 := by omega) :
    Field (.arr n (.uint k :: es)) (fun bs => (NetMsg.labelled bs).bind F) b := by
  simpa only [NetMsg.labelled, Res.bind_assoc] using Field.arrLabel (F := fun _ => F) hs hl hn hk

end PallasVerif.NetCodec

namespace PallasVerif.NetMsg
open PallasVerif.Cbor PallasVerif.NetCodec

def Spec {α : Type} (enc : α → E) (dec : Dec α) (a : α) : Prop := Field (enc a) dec a

def SpecO {α : Type} (enc : α → Option E) (dec : Dec α) (a : α) : Prop :=
  ∃ e, enc a = some e ∧ Field e dec a

/-- what is assumed of an opaque `AnyCbor` payload accepted by `okAny` -/
def AnyOk (okAny : Bytes → Bool) : Prop := ∀ bs, okAny bs = true → isSingleItem bs = true ∧ SkipExact bs

theorem AnyOk.raw {okAny : Bytes → Bool} (hAny : AnyOk okAny) {bs : Bytes} (h : okAny bs = true) :
    Field (.raw bs) anyCbor bs :=
  ⟨(hAny bs h).1, anyCbor_raw bs (hAny bs h).2⟩

theorem lt64_iff (n : Nat) : lt64 n = true ↔ n < 2 ^ 64 := by simp [lt64]

attribute [local simp] lt64_iff Bool.and_eq_true decide_eq_true_eq

theorem Point.spec (p : Point) (h : p.valid = true) : Spec Point.enc Point.dec p := by
  cases p with
  | origin => exact .of (.arr .nil)
  | specific s hh =>
    simp [Point.valid] at h
    exact .of (.arr (.cons (.u64 h.1) (.cons (.bytes h.2) .nil)))

theorem Tip.spec (t : Tip) (h : t.valid = true) : Spec Tip.enc Tip.dec t := by
  simp [Tip.valid] at h
  exact .of (.arr (.cons (Point.spec _ h.1) (.cons (.u64 h.2) .nil)))

theorem BlockFetch.Msg.spec (m : BlockFetch.Msg) (h : m.valid = true) : Spec BlockFetch.Msg.enc BlockFetch.Msg.dec m := by
  cases m with
  | requestRange a b =>
    simp [Msg.valid] at h
    exact .labelled (.cons (Point.spec a h.1) (.cons (Point.spec b h.2) .nil))
  | block body =>
    simp [Msg.valid] at h
    exact .labelled (.tag (.cons (.bytes h) .nil))
  | clientDone | startBatch | noBlocks | batchDone => exact .labelled .nil

theorem EraTxId.spec (t : EraTxId) (h : t.valid = true) : Spec EraTxId.enc EraTxId.dec t := by
  simp [EraTxId.valid] at h
  exact .of (.arr (.cons (.u16 h.1) (.cons (.bytes h.2) .nil)))

theorem EraTx.spec (t : EraTx) (h : t.valid = true) : Spec EraTx.enc EraTx.dec t := by
  simp [EraTx.valid] at h
  exact .of (.arr (.cons (.u16 h.1) (.tag (.cons (.bytes h.2) .nil))))

theorem TxIdAndSize.spec (t : TxIdAndSize) (h : t.valid = true) : Spec TxIdAndSize.enc TxIdAndSize.dec t := by
  simp [TxIdAndSize.valid] at h
  exact .of (.arr (.cons (EraTxId.spec _ h.1) (.cons (.u32 h.2) .nil)))

theorem TxSubmission.Msg.spec (m : TxSubmission.Msg) (h : m.valid = true) : Spec TxSubmission.Msg.enc TxSubmission.Msg.dec m := by
  cases m with
  | init | done => exact .labelled .nil
  | requestTxIds b ack req =>
    simp [Msg.valid] at h
    exact .labelled (.cons (.bool b) (.cons (.u16 h.1) (.cons (.u16 h.2) .nil)))
  | replyTxIds ids =>
    simp [Msg.valid] at h
    exact .labelled (.cons (.vecI (fun x hx => TxIdAndSize.spec x (h x hx))) .nil)
  | requestTxs ids =>
    simp [Msg.valid] at h
    exact .labelled (.cons (.vecI (fun x hx => EraTxId.spec x (h x hx))) .nil)
  | replyTxs txs =>
    simp [Msg.valid] at h
    exact .labelled (.cons (.vecI (fun x hx => EraTx.spec x (h x hx))) .nil)

theorem KeepAlive.Msg.spec (m : KeepAlive.Msg) (h : m.valid = true) : Spec KeepAlive.Msg.enc KeepAlive.Msg.dec m := by
  cases m with
  | done => exact .labelled .nil
  | keepAlive c | responseKeepAlive c =>
    simp [Msg.valid] at h
    exact .labelled (.cons (.u16 h) .nil)

theorem ChainSync.Msg.spec {C : Type} (encC : C → Option E) (decC : Dec C) (vC : C → Bool)
    (hC : ∀ c, vC c = true → SpecO encC decC c) (m : ChainSync.Msg C) (h : m.valid vC = true) :
    SpecO (ChainSync.Msg.enc encC) (ChainSync.Msg.dec decC) m := by
  cases m with
  | requestNext | awaitReply | done => exact ⟨_, rfl, .labelled .nil⟩
  | rollForward c t =>
    simp [Msg.valid] at h
    obtain ⟨e, he, hf⟩ := hC c h.1
    exact ⟨.arr 3 [.uint 2, e, t.enc], by simp [Msg.enc, he], .labelled (.cons hf (.cons (Tip.spec t h.2) .nil))⟩
  | rollBackward p t | intersectFound p t =>
    simp [Msg.valid] at h
    exact ⟨_, rfl, .labelled (.cons (Point.spec p h.1) (.cons (Tip.spec t h.2) .nil))⟩
  | intersectNotFound t =>
    simp [Msg.valid] at h
    exact ⟨_, rfl, .labelled (.cons (Tip.spec t h) .nil)⟩
  | findIntersect ps =>
    simp [Msg.valid] at h
    exact ⟨_, rfl, .labelled (.cons (.vec h.1 fun p hp => Point.spec p (h.2 p hp)) .nil)⟩

theorem TxMonitor.Msg.spec (m : TxMonitor.Msg) (h : m.valid = true) : Spec TxMonitor.Msg.enc TxMonitor.Msg.dec m := by
  cases m with
  | done | acquire | release | awaitAcquire | requestNextTx | requestSizeAndCapacity =>
    exact .arrLabel .nil
  | acquired s =>
    simp [Msg.valid] at h
    exact .arrLabel (.cons (.u64 h) .nil)
  | requestHasTx id =>
    simp [Msg.valid] at h
    exact .arrLabel (.cons (.str h.1 h.2) .nil)
  | responseHasTx b => exact .arrLabel (.cons (.bool b) .nil)
  | responseSizeAndCapacity c s n =>
    simp [Msg.valid] at h
    exact .arrLabel (.arr (.cons (.u32 h.1.1) (.cons (.u32 h.1.2) (.cons (.u32 h.2) .nil))))
  | responseNextTx tx =>
    cases tx with
    | none => exact .arrLabel .nil
    | some eb =>
      simp [Msg.valid] at h
      -- the declared length 2 says that a transaction follows; the decoder's test of it has to be run first
      refine .arrLabel ?_
      exact Fields.cons (d := txDec) (.tuple2 (.u8 h.1) (.of (.tag (.one (.bytes h.2))))) .nil

theorem DmqPayload.spec (p : DmqPayload) (h : p.valid = true) : Spec DmqPayload.enc DmqPayload.dec p := by
  simp [DmqPayload.valid] at h
  exact .of (.arr (.cons (.bytes h.1.1) (.cons (.u64 h.1.2) (.cons (.u32 h.2) .nil))))

theorem DmqOpCert.spec (c : DmqOpCert) (h : c.valid = true) : Spec DmqOpCert.enc DmqOpCert.dec c := by
  simp [DmqOpCert.valid] at h
  exact .of (.arr (.cons (.bytes h.1.1.1) (.cons (.u64 h.1.1.2) (.cons (.u64 h.1.2) (.cons (.bytes h.2) .nil)))))

theorem DmqMsg.spec (m : DmqMsg) (h : m.valid = true) : Spec DmqMsg.enc DmqMsg.dec m := by
  simp [DmqMsg.valid] at h
  exact .of (.arr (.cons (.bytes h.1.1.1.1) (.cons (DmqPayload.spec _ h.1.1.1.2) (.cons (.bytes h.1.1.2)
    (.cons (DmqOpCert.spec _ h.1.2) (.cons (.bytes h.2) .nil))))))

theorem LeiosNotify.Msg.spec (okAny : Bytes → Bool) (hAny : AnyOk okAny) (m : LeiosNotify.Msg) (h : m.valid okAny = true) :
    Spec LeiosNotify.Msg.enc LeiosNotify.Msg.dec m := by
  cases m with
  | requestNext | done => exact .labelled .nil
  | blockAnnouncement x =>
    simp [Msg.valid] at h
    exact .labelled (.cons (hAny.raw h) .nil)
  | blockOffer p sz =>
    simp [Msg.valid] at h
    exact .labelled (.cons (Point.spec p h.1) (.cons (.u32 h.2) .nil))
  | blockTxsOffer p =>
    simp [Msg.valid] at h
    exact .labelled (.cons (Point.spec p h) .nil)
  | votes vs =>
    simp [Msg.valid] at h
    exact .labelled (.cons (.vec h.1 fun x hx => hAny.raw (h.2 x hx)) .nil)

theorem Point.startsNonBreak (p : Point) : p.enc.startsNonBreak := by
  cases p <;> exact E.startsNonBreak_arr _ _

theorem HeaderContent.spec (x : HeaderContent) (h : x.valid = true) : SpecO HeaderContent.enc HeaderContent.dec x := by
  obtain ⟨v, pre, c⟩ := x
  simp only [HeaderContent.valid] at h
  by_cases hv : v = 0
  · subst hv
    cases pre with
    | none => simp at h
    | some ab =>
      simp at h
      exact ⟨_, rfl, .of (.arr (.cons (.u8 (by decide))
        (.arr (.cons (.tuple2 (.u8 h.2.1) (.u64 h.2.2)) (.tag (.cons (.bytes h.1) .nil))))))⟩
  · cases pre with
    | some ab => simp [hv] at h
    | none =>
      simp [hv] at h
      refine ⟨.arr 2 [.uint v, .tag 24 (.bytes c)], by simp [HeaderContent.enc, hv], .of (.arr (.cons (.u8 h.2) ?_))⟩
      -- the decoder's `if variant = 0` has to be decided by `hv` before the next rule can match
      simp only [hv, if_false]
      exact .tag (.cons (.bytes h.1) .nil)

theorem blockContent_spec (b : Bytes) (h : lt64 b.length = true) : SpecO blockContentEnc blockContentDec b :=
  ⟨_, rfl, .of (.tag (.one (.bytes ((lt64_iff _).mp h))))⟩

theorem skipped_spec (u : Unit) : SpecO skippedEnc skippedDec u :=
  -- the encoder writes `null`, which passes `E.ok` by evaluation; `skippedDec` is `skip`
  ⟨_, rfl, rfl, skip_null⟩

theorem v6_words (bits : Nat) :
    bits / 2 ^ 96 * 2 ^ 96 + bits / 2 ^ 64 % 2 ^ 32 * 2 ^ 64 + bits / 2 ^ 32 % 2 ^ 32 * 2 ^ 32 + bits % 2 ^ 32 = bits := by
  omega

theorem PeerAddress.spec (portMax : Nat) (hpm : portMax < 2 ^ 64) (p : PeerAddress) (h : p.valid portMax = true) :
    Spec PeerAddress.enc (PeerAddress.dec portMax) p := by
  cases p with
  | v4 a port =>
    simp [PeerAddress.valid] at h
    exact .labelled (.cons (.u32 h.1) (.cons (.uMax h.2 (by omega)) .nil))
  | v6 bits port =>
    simp [PeerAddress.valid] at h
    have w : ∀ n, n % 2 ^ 32 ≤ 4294967295 := fun n => Nat.le_of_lt_succ (Nat.mod_lt _ (by decide))
    -- the decoder puts the four words together again
    have key : Field (PeerAddress.enc (.v6 bits port)) (PeerAddress.dec portMax) (.v6
        (bits / 2 ^ 96 * 2 ^ 96 + bits / 2 ^ 64 % 2 ^ 32 * 2 ^ 64 + bits / 2 ^ 32 % 2 ^ 32 * 2 ^ 32 + bits % 2 ^ 32) port) :=
      .labelled (.cons (.u32 (by omega)) (.cons (.u32 (w _)) (.cons (.u32 (w _)) (.cons (.u32 (w _))
        (.cons (.uMax h.2 (by omega)) .nil)))))
    rw [v6_words bits] at key
    exact key

theorem PeerSharing.Msg.spec (portMax : Nat) (hpm : portMax < 2 ^ 64) (m : PeerSharing.Msg) (h : m.valid portMax = true) :
    Spec PeerSharing.Msg.enc (PeerSharing.Msg.dec portMax) m := by
  cases m with
  | done => exact .labelled .nil
  | shareRequest n =>
    simp [Msg.valid] at h
    exact .labelled (.cons (.u8 h) .nil)
  | sharePeers ps =>
    simp [Msg.valid] at h
    exact .labelled (.cons (.vecI fun x hx => PeerAddress.spec portMax hpm x (h x hx)) .nil)

theorem VersionTable.spec {D : Type} (encD : D → E) (decD : Dec D) (vD : D → Bool)
    (hD : ∀ d, vD d = true → Spec encD decD d) (vt : VersionTable D) (h : VersionTable.valid vD vt = true) :
    Spec (VersionTable.enc encD) (VersionTable.dec decD) vt := by
  simp [VersionTable.valid] at h
  obtain ⟨⟨hl, hs⟩, hall⟩ := h
  have hd : Fields (vt.flatMap fun kv => [.uint kv.1, encD kv.2]) (decN (pair u64 decD) vt.length) vt :=
    .decN fun p hp => .pair (.u64 (hall p.1 p.2 hp).1) (hD p.2 (hall p.1 p.2 hp).2)
  exact ⟨by simp [VersionTable.enc, E.ok, hl, flatMap_pair_length E.uint encD vt, hd.1], fun r => by
    simp [VersionTable.enc, VersionTable.dec, map_map _ _ hl, hd.2, fromPairs_sorted vt hs]⟩

theorem RefuseReason.spec (x : RefuseReason) (h : x.valid = true) : Spec RefuseReason.enc RefuseReason.dec x := by
  cases x with
  | versionMismatch vs =>
    simp [RefuseReason.valid] at h
    exact .labelled (.cons (.vec (f := E.uint) h.1 fun v hv => .u64 (h.2 v hv)) .nil)
  | handshakeDecodeError v m | refused v m =>
    simp [RefuseReason.valid] at h
    exact .labelled (.cons (.u64 h.1.1) (.cons (.str h.1.2 h.2) .nil))

theorem Handshake.Msg.spec {D : Type} (encD : D → E) (decD : Dec D) (vD : D → Bool)
    (hD : ∀ d, vD d = true → Spec encD decD d) (m : Handshake.Msg D) (h : m.valid vD = true) :
    Spec (Handshake.Msg.enc encD) (Handshake.Msg.dec decD) m := by
  cases m with
  | propose vt | queryReply vt => exact .labelled (.cons (VersionTable.spec encD decD vD hD vt h) .nil)
  | accept v d =>
    simp [Msg.valid] at h
    exact .labelled (.cons (.u64 h.1) (.cons (hD d h.2) .nil))
  | refuse x => exact .labelled (.cons (RefuseReason.spec x h) .nil)

theorem N2NData.spec (d : N2NData) (h : d.valid = true) : Spec N2NData.enc N2NData.dec d := by
  obtain ⟨magic, io, ps, q⟩ := d
  cases ps <;> cases q <;> simp [N2NData.valid] at h
  · exact .of (.arr (.cons (.u64 h) (.cons (.bool io) .nil)))
  · exact .of (.arr (.cons (.u64 h.1) (.cons (.bool io) (.cons (.u8 h.2) (.cons (.bool _) .nil)))))

theorem N2CData.spec (d : N2CData) (h : d.valid = true) : Spec N2CData.enc N2CData.dec d := by
  obtain ⟨magic, q⟩ := d
  simp [N2CData.valid] at h
  cases q with
  | none =>
    refine ⟨by simp [N2CData.enc, E.ok, h], fun r => ?_⟩
    obtain ⟨t, ht, hcases⟩ := datatype_uint magic r
    simp only [N2CData.enc, N2CData.dec, ht, Res.bind_ok, hcases, if_true, (Field.u64 h).2]
  | some q =>
    -- once `datatype` has seen an array head the decoder is a plain run of fields
    have key : Field (.arr 2 [.uint magic, .bool q]) _ (N2CData.mk magic (some q)) :=
      .of (.arr (p := fun _ r => (u64 r).bind fun m r => (NetCodec.bool r).bind fun q r => .ok (N2CData.mk m (some q)) r)
        (.cons (.u64 h) (.cons (.bool q) .nil)))
    exact ⟨key.1, fun r => by simpa [N2CData.enc, N2CData.dec, datatype_arr] using key.2 r⟩

theorem LocalState.AcquireFailure.spec (f : LocalState.AcquireFailure) :
    Spec LocalState.AcquireFailure.enc LocalState.AcquireFailure.dec f := by
  cases f <;> exact .of (.cons (.u16 (by decide)) .nil)

theorem option_point (p : Point) (h : p.valid = true) : Field p.enc (option Point.dec) (some p) :=
  ⟨(Point.spec p h).1, fun r => by
    have hd : datatype (p.enc.encode ++ r) = .ok .array (p.enc.encode ++ r) := by
      cases p <;> exact datatype_arr _ _ _
    simp [option, hd, (Point.spec p h).2 r]⟩

theorem LocalState.Msg.spec (okAny : Bytes → Bool) (hAny : AnyOk okAny) (m : LocalState.Msg) (h : m.valid okAny = true) :
    Spec LocalState.Msg.enc LocalState.Msg.dec m := by
  cases m with
  | acquired | release | done => exact .labelled .nil
  | failure f => exact .labelled (.cons (AcquireFailure.spec f) .nil)
  | query q | result q => exact .labelled (.cons (hAny.raw h) .nil)
  | acquire p =>
    cases p with
    | none => exact .labelled .nil
    | some p => exact .labelled (.cons (Point.spec p h) .nil)
  | reAcquire p =>
    cases p with
    | none => exact .labelled .nil
    | some p => exact .labelled (.cons (option_point p h) .nil)

theorem LocalTx.Msg.spec {Tx Rej : Type} (encTx : Tx → E) (decTx : Dec Tx) (vTx : Tx → Bool)
    (encRej : Rej → E) (decRej : Dec Rej) (vRej : Rej → Bool) (ofString : Bytes → Rej)
    (hTx : ∀ t, vTx t = true → Spec encTx decTx t) (hRej : ∀ x, vRej x = true → Spec encRej decRej x)
    (m : LocalTx.Msg Tx Rej) (h : m.valid vTx vRej = true) :
    Spec (LocalTx.Msg.enc encTx encRej) (LocalTx.Msg.dec decTx decRej ofString) m := by
  -- the decoder matches on the outcome of `array` instead of binding it: no rule of the calculus applies
  cases m with
  | acceptTx | done =>
    exact ⟨by simp [Msg.enc, E.ok, E.okList], fun r => by simp [Msg.enc, Msg.dec, array_arr, (Field.u16 _).2, E.encodeList]⟩
  | submitTx tx =>
    obtain ⟨t1, t2⟩ := hTx tx h
    exact ⟨by simp [Msg.enc, E.ok, E.okList, t1], fun r => by simp [Msg.enc, Msg.dec, array_arr, (Field.u16 _).2, E.encodeList, t2]⟩
  | rejectTx x =>
    obtain ⟨x1, x2⟩ := hRej x h
    exact ⟨by simp [Msg.enc, E.ok, E.okList, x1], fun r => by simp [Msg.enc, Msg.dec, array_arr, (Field.u16 _).2, E.encodeList, x2]⟩

theorem OpaqueReject.spec (okAny : Bytes → Bool) (hAny : AnyOk okAny) (x : OpaqueReject) (h : x.valid okAny = true) :
    Spec OpaqueReject.enc OpaqueReject.dec x := by
  cases x with
  | text s => simp [OpaqueReject.valid] at h
  | cbor raw => exact ⟨(hAny.raw h).1, fun r => by simp [OpaqueReject.enc, OpaqueReject.dec, (hAny.raw h).2 r]⟩

theorem DmqReject.spec (x : DmqReject) (h : x.valid = true) : Spec DmqReject.enc DmqReject.dec x := by
  cases x with
  | alreadyReceived | expired => exact .of (.arr (.cons (.u8 (by decide)) .nil))
  | invalid s | other s =>
    simp [DmqReject.valid] at h
    exact .of (.arr (.cons (.u8 (by decide)) (.cons (.str h.1 h.2) .nil)))

theorem LocalMsgNotification.Msg.spec (m : LocalMsgNotification.Msg) (h : m.valid = true) :
    Spec LocalMsgNotification.Msg.enc LocalMsgNotification.Msg.dec m := by
  cases m with
  | clientDone => exact .labelled .nil
  | requestNonBlocking | requestBlocking => exact .labelled (.cons (.bool _) .nil)
  | replyNonBlocking ms more =>
    simp [Msg.valid] at h
    exact .labelled (.cons (.vecI (fun x hx => DmqMsg.spec x (h x hx)))
      (.cons (.bool more) .nil))
  | replyBlocking ms =>
    simp [Msg.valid] at h
    exact .labelled (.cons (.vecI (fun x hx => DmqMsg.spec x (h x hx))) .nil)

theorem Bitmaps.spec (b : Bitmaps) (h : Bitmaps.valid b = true) : Spec Bitmaps.enc Bitmaps.dec b := by
  simp [Bitmaps.valid] at h
  obtain ⟨hs, hall⟩ := h
  have hp : ∀ p ∈ b, Fields [.uint p.1, .uint p.2] (pair u16 u64) p := fun p hp =>
    .pair (.u16 (hall p.1 p.2 hp).1) (.u64 (hall p.1 p.2 hp).2)
  exact ⟨by simp [Bitmaps.enc, E.ok, flatMap_pair_length E.uint E.uint b, (Fields.decN hp).1], fun r => by
    simp only [Bitmaps.enc, Bitmaps.dec, btreeMap, map_mapI, Res.bind_ok]
    rw [Fields.decBreak hp (fun _ _ => List.cons_ne_nil _ _) r (by simp only [List.length_append]; omega)]
    simp [fromPairs_sorted b hs]⟩

theorem LeiosFetch.Msg.spec (okAny : Bytes → Bool) (hAny : AnyOk okAny) (m : LeiosFetch.Msg) (h : m.valid okAny = true) :
    Spec LeiosFetch.Msg.enc LeiosFetch.Msg.dec m := by
  cases m with
  | done => exact .labelled .nil
  | blockRequest p => exact .labelled (.cons (Point.spec p h) .nil)
  | block x => exact .labelled (.cons (hAny.raw h) .nil)
  | blockTxsRequest p bm =>
    simp only [Msg.valid, Bool.and_eq_true] at h
    exact .labelled (.cons (Point.spec p h.1) (.cons (Bitmaps.spec bm h.2) .nil))
  | blockTxs p bm txs =>
    simp only [Msg.valid, Bool.and_eq_true, lt64_iff, List.all_eq_true] at h
    exact .labelled (.cons (Point.spec p h.1.1.1) (.cons (Bitmaps.spec bm h.1.1.2)
      (.cons (.vec (f := E.raw) h.1.2 fun x hx => hAny.raw (h.2 x hx)) .nil)))

end PallasVerif.NetMsg
