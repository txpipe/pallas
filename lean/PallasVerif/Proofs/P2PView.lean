import PallasVerif.Model.P2PNet
/-! The specification view of the initiator's per-peer record (`viewOf`: the eight tracked protocol states as state
    classes of the specification tables), what the record permits the initiator to send (`Permits`), and the one
    fact that ties `apply_msg` to the tables: on a move of the server table in the view, or a move of the client table
    that the initiator can make (`Emittable`, peer-sharing not parked), the record moves to the view the table gives
    (`applyMsg_view`). -/
namespace PallasVerif.P2P

def viewHs : HsSt → SHs
  | .propose => .propose | .confirm _ => .confirm | _ => .done
def viewKa : KaSt → SKa
  | .client _ => .client | .server _ => .server | .done => .done
/-- `Done` is only ever a *local* mark of the initiator (`try_take_peers` parks the protocol there
    after consuming a response; the initiator never sends `Done`): on the wire that is still `Idle` -/
def viewPs : PsSt → SPs
  | .idle _ => .idle | .busy _ => .busy | .done => .idle
def viewBf : BfSt → SBf
  | .idle => .idle | .busy _ => .busy | .streaming _ => .streaming | .done => .done
def viewCs : CsSt → SCs
  | .idle _ => .idle | .canAwait => .canAwait | .mustReply => .mustReply | .intersect => .intersect | .done => .done
def viewTx : TxSt → STx
  | .init => .init | .idle => .idle | .txIdsNonBlocking => .txIdsNonBlocking | .txIdsBlocking => .txIdsBlocking
  | .txs _ => .txs | .done => .done
def viewLn : LnSt → SLn
  | .idle _ => .idle | .busy => .busy | .done => .done
def viewLf : LfSt → SLf
  | .idle _ => .idle | .awaitingBlock _ => .awaitingBlock | .awaitingBlockTxs _ => .awaitingBlockTxs | .done => .done

def viewOf (st : Peer) : Wire :=
  { hs := viewHs st.hs, ka := viewKa st.ka, ps := viewPs st.ps, bf := viewBf st.bf, cs := viewCs st.cs,
    tx := viewTx st.tx, ln := viewLn st.ln, lf := viewLf st.lf }

def Emittable : Msg → Prop
  | .hs (.propose _) | .ka (.keepAlive _) | .ps (.shareRequest _) | .bf (.requestRange _)
  | .cs .findIntersect | .cs .requestNext | .ln .requestNext | .lf (.blockRequest _)
  | .lf (.blockTxsRequest _) => True
  | _ => False

/-- `m` is one of the initiator's requests, the specification permits it in the tracked view, and a
    peer-sharing request is only sent from `Idle(Empty)` (the last conjunct; it implies the third and is
    needed because `viewPs` does not distinguish `.idle none` from `.idle (some _)` and `.done`) -/
def Permits (st : Peer) (m : Msg) : Prop :=
  Emittable m ∧ (clientStep (viewOf st) m).isSome = true ∧ (m.proto = .ps → st.ps ≠ .done) ∧
    (m.proto = .ps → st.ps = .idle none)

/-! For six protocols both tables are followed unconditionally; the hypothesis takes either side's move. -/

theorem viewHs_step {s : HsSt} {m : HsMsg} {x : SHs}
    (h : cHs (viewHs s) m = some x ∨ sHs (viewHs s) m = some x) : (s.apply m).map viewHs = some x := by
  rcases h with h | h <;> cases s <;> cases m <;> first | exact h | cases h

theorem viewKa_step {s : KaSt} {m : KaMsg} {x : SKa}
    (h : cKa (viewKa s) m = some x ∨ sKa (viewKa s) m = some x) : (s.apply m).map viewKa = some x := by
  rcases h with h | h <;> cases s <;> cases m <;> first | exact h | cases h

theorem viewBf_step {s : BfSt} {m : BfMsg} {x : SBf}
    (h : cBf (viewBf s) m = some x ∨ sBf (viewBf s) m = some x) : (s.apply m).map viewBf = some x := by
  rcases h with h | h <;> cases s <;> cases m <;> first | exact h | cases h

theorem viewCs_step {s : CsSt} {m : CsMsg} {x : SCs}
    (h : cCs (viewCs s) m = some x ∨ sCs (viewCs s) m = some x) : (s.apply m).map viewCs = some x := by
  rcases h with h | h <;> cases s <;> cases m <;> first | exact h | cases h

theorem viewLn_step {s : LnSt} {m : LnMsg} {x : SLn}
    (h : cLn (viewLn s) m = some x ∨ sLn (viewLn s) m = some x) : (s.apply m).map viewLn = some x := by
  rcases h with h | h <;> cases s <;> cases m <;> first | exact h | cases h

theorem viewLf_step {s : LfSt} {m : LfMsg} {x : SLf}
    (h : cLf (viewLf s) m = some x ∨ sLf (viewLf s) m = some x) : (s.apply m).map viewLf = some x := by
  rcases h with h | h <;> cases s <;> cases m <;> first | exact h | cases h

/-- `Done` is the initiator's local parking state (see `viewPs`), and the initiator never sends `Done` -/
theorem viewPs_client {s : PsSt} {m : PsMsg} {x : SPs} (he : Emittable (.ps m)) (hd : s ≠ .done)
    (h : cPs (viewPs s) m = some x) : (s.apply m).map viewPs = some x := by
  cases s <;> cases m <;> first | exact h | exact absurd he id | exact absurd rfl hd | cases h

theorem viewPs_server {s : PsSt} {m : PsMsg} {x : SPs} (h : sPs (viewPs s) m = some x) :
    (s.apply m).map viewPs = some x := by
  cases s <;> cases m <;> first | exact h | cases h

/-- the initiator sends nothing on tx-submission, so only the server's moves occur -/
theorem viewTx_server {s : TxSt} {m : TxMsg} {x : STx} (h : sTx (viewTx s) m = some x) :
    (s.apply m).map viewTx = some x := by
  cases m with
  | requestTxIds b => cases b <;> cases s <;> first | exact h | cases h
  | _ => cases s <;> first | exact h | cases h

/-- `C` rides along in the left disjunct: the side facts of `applyMsg_view`'s client move -/
theorem map_some_or {α β : Type} {f g : Option α} {k : α → β} {v : β} {C : Prop}
    (h : f.map k = some v ∧ C ∨ g.map k = some v) : ∃ x, (f = some x ∧ C ∨ g = some x) ∧ k x = v := by
  rcases h with ⟨h, c⟩ | h <;> obtain ⟨x, hx, hv⟩ := Option.map_eq_some_iff.mp h
  · exact ⟨x, Or.inl ⟨hx, c⟩, hv⟩
  · exact ⟨x, Or.inr hx, hv⟩

/-- The side conditions are only asked of the initiator's own moves: `ShareRequest`
    from the parking state `Done` is permitted by the view (`viewPs` shows `Idle`) and rejected by `apply_msg`,
    which is what `st.ps ≠ .done` excludes; the client moves of tx-submission are not followed at all, and none
    of them is `Emittable` -/
theorem applyMsg_view {st : Peer} {m : Msg} {v1 : Wire}
    (h : clientStep (viewOf st) m = some v1 ∧ Emittable m ∧ (m.proto = .ps → st.ps ≠ .done) ∨
      serverStep (viewOf st) m = some v1) :
    viewOf (st.applyMsg m) = v1 := by
  cases m <;> obtain ⟨x, hx, rfl⟩ := map_some_or h
  case hs a =>
    obtain ⟨n, hn, rfl⟩ := Option.map_eq_some_iff.mp (viewHs_step (hx.imp And.left id))
    simp only [Peer.applyMsg, hn]
    rfl
  case ka a =>
    obtain ⟨n, hn, rfl⟩ := Option.map_eq_some_iff.mp (viewKa_step (hx.imp And.left id))
    simp only [Peer.applyMsg, hn]
    rfl
  case bf a =>
    obtain ⟨n, hn, rfl⟩ := Option.map_eq_some_iff.mp (viewBf_step (hx.imp And.left id))
    simp only [Peer.applyMsg, hn]
    rfl
  case cs a =>
    obtain ⟨n, hn, rfl⟩ := Option.map_eq_some_iff.mp (viewCs_step (hx.imp And.left id))
    simp only [Peer.applyMsg, hn]
    rfl
  case ln a =>
    obtain ⟨n, hn, rfl⟩ := Option.map_eq_some_iff.mp (viewLn_step (hx.imp And.left id))
    simp only [Peer.applyMsg, hn]
    rfl
  case lf a =>
    obtain ⟨n, hn, rfl⟩ := Option.map_eq_some_iff.mp (viewLf_step (hx.imp And.left id))
    simp only [Peer.applyMsg, hn]
    rfl
  case ps a =>
    have hv : (st.ps.apply a).map viewPs = some x := by
      rcases hx with ⟨hx, he, hd⟩ | hx
      · exact viewPs_client he (hd rfl) hx
      · exact viewPs_server hx
    obtain ⟨n, hn, rfl⟩ := Option.map_eq_some_iff.mp hv
    simp only [Peer.applyMsg, hn]
    rfl
  case tx a =>
    have hv : (st.tx.apply a).map viewTx = some x := by
      rcases hx with ⟨-, he, -⟩ | hx
      · cases a <;> exact absurd he id
      · exact viewTx_server hx
    obtain ⟨n, hn, rfl⟩ := Option.map_eq_some_iff.mp hv
    simp only [Peer.applyMsg, hn]
    rfl

/-- `b` has the protocol states of `a` (each field reads `b.x = a.x`) -/
structure ProtoEq (a b : Peer) : Prop where
  hs : b.hs = a.hs
  ka : b.ka = a.ka
  ps : b.ps = a.ps
  bf : b.bf = a.bf
  cs : b.cs = a.cs
  tx : b.tx = a.tx
  ln : b.ln = a.ln
  lf : b.lf = a.lf

theorem ProtoEq.refl (a : Peer) : ProtoEq a a := ⟨rfl, rfl, rfl, rfl, rfl, rfl, rfl, rfl⟩

theorem ProtoEq.trans {a b c : Peer} (h1 : ProtoEq a b) (h2 : ProtoEq b c) : ProtoEq a c :=
  ⟨h2.hs.trans h1.hs, h2.ka.trans h1.ka, h2.ps.trans h1.ps, h2.bf.trans h1.bf, h2.cs.trans h1.cs,
   h2.tx.trans h1.tx, h2.ln.trans h1.ln, h2.lf.trans h1.lf⟩

theorem ProtoEq.symm {a b : Peer} (h : ProtoEq a b) : ProtoEq b a :=
  ⟨h.hs.symm, h.ka.symm, h.ps.symm, h.bf.symm, h.cs.symm, h.tx.symm, h.ln.symm, h.lf.symm⟩

theorem ProtoEq.view {a b : Peer} (h : ProtoEq a b) : viewOf b = viewOf a := by
  unfold viewOf; rw [h.hs, h.ka, h.ps, h.bf, h.cs, h.tx, h.ln, h.lf]

theorem ProtoEq.permits {a b : Peer} (h : ProtoEq a b) {m : Msg} (hp : Permits b m) : Permits a m := by
  unfold Permits at *; rw [← h.view, ← h.ps]; exact hp

theorem applyMsg_tag (st : Peer) (m : Msg) : (st.applyMsg m).tag = st.tag := by
  cases m <;> simp only [Peer.applyMsg] <;> split <;> rfl

theorem applyMsg_err (st : Peer) (m : Msg) : (st.applyMsg m).errorCount = st.errorCount := by
  cases m <;> simp only [Peer.applyMsg] <;> split <;> rfl

theorem applyMsg_ps_other {st : Peer} {m : Msg} (h : m.proto ≠ .ps) : (st.applyMsg m).ps = st.ps := by
  cases m with
  | ps a => exact absurd rfl h
  | _ => simp only [Peer.applyMsg]; split <;> rfl

end PallasVerif.P2P
