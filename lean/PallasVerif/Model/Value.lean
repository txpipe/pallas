/-
  Model of the value arithmetic and the preservation-of-value rule of phase-1 validation:
  `pallas-validate/src/utils.rs` (`add_values`, `add_minted_value`, `coerce_to_i64`, `coerce_to_coin`,
  `add_multiasset_values`, `add_same_policy_assets`, `values_are_equal`, `multi_asset_included` and their
  `conway_*` counterparts, `conway_add_minted_non_zero`, `conway_add_multiasset_non_negative_values`,
  `conway_add_same_non_zero_policy_assets`), `check_preservation_of_value` / `get_consumed` / `get_produced` of
  `shelley_ma.rs`, `alonzo.rs`, `babbage.rs`, `conway.rs` and Byron `check_fees`, as the code stands after the
  `fix:` commit recorded in `known_findings.d/C34.json`.

  `BTreeMap` / `HashMap` are association lists (`AMap`), iterated in list order; `HashMap` entry updates are
  `upsert`. Every quantity is an `Int`; the machine types show up as explicit range checks whose failure is
  `err` (the `NegativeValue`-class error the caller passes down). After the C33 `fix:` commits no arithmetic of
  these functions can panic any more; `R.panic` / `Res.panic` stay as constructors and `Props/C34.lean` proves them
  unreachable (the `…_total_sound` statements, whose first halves are `C33.preservation_total*` and `byron_fees_total`).
  Transactions have no certificates, withdrawals, treasury or donation (the Shelley-MA deposit / refund terms are
  the `Coin(0)` additions the code still performs). UTxO look-ups succeed (the stream only builds such cases).
-/
namespace PallasVerif.Value

def U64_MAX : Int := 18446744073709551615
def I64_MAX : Int := 9223372036854775807
def I64_MIN : Int := -9223372036854775808

abbrev AMap (β : Type) := List (String × β)
/-- `Multiasset<A> = BTreeMap<PolicyId, BTreeMap<AssetName, A>>` -/
abbrev MA := AMap (AMap Int)

inductive R (α : Type) where
  | ok (a : α)
  | err
  | panic
  deriving Repr, DecidableEq

def R.bind {α β : Type} (r : R α) (f : α → R β) : R β :=
  match r with
  | .ok a => f a
  | .err => .err
  | .panic => .panic

def R.map {α β : Type} (f : α → β) (r : R α) : R β := r.bind (fun a => .ok (f a))

/-- `Value::Coin(c) | Value::Multiasset(c, ma)` (Alonzo and Conway flavours alike) -/
inductive Value where
  | coin (c : Int)
  | multi (c : Int) (ma : MA)
  deriving Repr, DecidableEq

/-- first match, as `find_policy` / `find_assets` / `HashMap::get` -/
def AMap.get {β : Type} : AMap β → String → Option β
  | [], _ => none
  | (k', v) :: rest, k => if k' = k then some v else AMap.get rest k

/-- `match res.get(k) { Some(old) => res.insert(k, f(Some(old))), None => res.insert(k, f(None)) }` -/
def upsert {β : Type} (m : AMap β) (k : String) (f : Option β → R β) : R (AMap β) :=
  match m with
  | [] => (f none).map (fun v => [(k, v)])
  | (k', v) :: rest =>
    if k' = k then (f (some v)).map (fun v' => (k', v') :: rest)
    else (upsert rest k f).map (fun r => (k', v) :: r)

/-- the inner loop of `*_add_same_*policy_assets`: `for (name, new) in new_assets { match res.get(name) { Some(old) => add old new, None => fresh new } }` -/
def addAssets (add : Int → Int → R Int) (fresh : Int → R Int) (old : AMap Int) : AMap Int → R (AMap Int)
  | [] => .ok old
  | (n, a) :: rest =>
    (upsert old n (fun o => match o with | some x => add x a | none => fresh a)).bind
      (fun old' => addAssets add fresh old' rest)

/-- one `for (policy, new_assets) in x.iter()` loop over the result `HashMap` -/
def mergePolicies (add : Int → Int → R Int) (fresh : Int → R Int) (res : MA) : MA → R MA
  | [] => .ok res
  | (p, as) :: rest =>
    (upsert res p (fun o => addAssets add fresh (o.getD []) as)).bind
      (fun res' => mergePolicies add fresh res' rest)

/-- a validation pass over every quantity (the `coerce_*` functions), first failure wins -/
def checkAssets (chk : Int → R Unit) : AMap Int → R Unit
  | [] => .ok ()
  | (_, a) :: rest => (chk a).bind (fun _ => checkAssets chk rest)

def checkAll (chk : Int → R Unit) : MA → R Unit
  | [] => .ok ()
  | (_, as) :: rest => (checkAssets chk as).bind (fun _ => checkAll chk rest)

/-! ## Shelley-MA, Alonzo, Babbage (`u64` quantities, `i64` mint) -/

/-- `add_lovelace`: `checked_add(..).ok_or(err)` -/
def addLovelace (a b : Int) : R Int := if a + b > U64_MAX then .err else .ok (a + b)

/-- `coerce_to_i64` (fixed): `i64::try_from(amount).map_err(err)` -/
def coerceToI64 (m : MA) : R MA := (checkAll (fun a => if a > I64_MAX then .err else .ok ()) m).map (fun _ => m)

/-- `coerce_to_coin`: `u64::try_from(amount).map_err(err)` -/
def coerceToCoin (m : MA) : R MA := (checkAll (fun a => if a < 0 then .err else .ok ()) m).map (fun _ => m)

/-- `old.checked_add(new)` on `i64`; `None` becomes the caller's `err` (C33 `fix:`; it was an overflow panic) -/
def addI64 (a b : Int) : R Int := if a + b > I64_MAX ∨ a + b < I64_MIN then .err else .ok (a + b)

/-- `add_multiasset_values` -/
def addMultiassetValues (a b : MA) : R MA :=
  (mergePolicies addI64 .ok [] a).bind (fun r => mergePolicies addI64 .ok r b)

/-- `add_values` -/
def addValues : Value → Value → R Value
  | .coin f, .coin s => (addLovelace f s).map .coin
  | .multi f fma, .coin s => (addLovelace f s).map (fun c => .multi c fma)
  | .coin f, .multi s sma => (addLovelace f s).map (fun c => .multi c sma)
  | .multi f fma, .multi s sma =>
    (addLovelace f s).bind (fun c =>
      (coerceToI64 fma).bind (fun a =>
        (coerceToI64 sma).bind (fun b =>
          (addMultiassetValues a b).bind (fun r =>
            (coerceToCoin r).map (fun ma => .multi c ma)))))

/-- `add_minted_value` -/
def addMintedValue (base : Value) (minted : MA) : R Value :=
  match base with
  | .coin n => (coerceToCoin minted).map (fun ma => .multi n ma)
  | .multi n b =>
    (coerceToI64 b).bind (fun bi =>
      (addMultiassetValues bi minted).bind (fun r =>
        (coerceToCoin r).map (fun ma => .multi n ma)))

/-- `multi_asset_included` (`skip` = the "discard the case where there is 0 of an asset" test) -/
def assetsIncluded (fassets sassets : AMap Int) : Bool :=
  fassets.all (fun (n, a) => a == 0 || AMap.get sassets n == some a)

def multiAssetIncluded (fma sma : MA) : Bool :=
  fma.all (fun (p, fassets) =>
    match AMap.get sma p with
    | some sassets => assetsIncluded fassets sassets
    | none => false)

def multiAssetsAreEqual (fma sma : MA) : Bool := multiAssetIncluded fma sma && multiAssetIncluded sma fma

/-- `values_are_equal` / `conway_values_are_equal` -/
def valuesAreEqual : Value → Value → Bool
  | .coin f, .coin s => f == s
  | .multi f fma, .coin s => f == s && fma.isEmpty
  | .coin f, .multi s sma => f == s && sma.isEmpty
  | .multi f fma, .multi s sma => if f != s then false else multiAssetsAreEqual fma sma

inductive Res where
  | ok | negativeValue | notPreserved | wrongEra | feesBelowMin | other | panic
  deriving Repr, DecidableEq

def emptyValue : Value := .multi 0 []

/-- `res = add_values(&res, v, ..)?` over a list, starting from `empty_value()` -/
def sumFrom (acc : Value) : List Value → R Value
  | [] => .ok acc
  | v :: vs => (addValues acc v).bind (fun acc' => sumFrom acc' vs)

def resOf (r : R Bool) : Res :=
  match r with
  | .ok true => .ok
  | .ok false => .notPreserved
  | .err => .negativeValue
  | .panic => .panic

/-- Alonzo / Babbage `check_preservation_of_value` -/
def checkPreservation (ins outs : List Value) (fee : Int) (mint : Option MA) : Res :=
  resOf <|
    (sumFrom emptyValue ins).bind (fun consumed =>
      (sumFrom emptyValue outs).bind (fun produced =>
        (addValues produced (.coin fee)).bind (fun output =>
          (match mint with
           | some m => addMintedValue consumed m
           | none => .ok consumed).bind (fun input =>
            .ok (valuesAreEqual input output)))))

def isMultiV : Value → Bool
  | .multi _ _ => true
  | .coin _ => false

inductive SR where
  | ok (v : Value)
  | wrongEra
  | err
  | panic

/-- the input / output loops of Shelley-MA `get_consumed` / `get_produced`: a multi-asset value in `Era::Shelley`
    is `ValueNotShelley` / `WrongEraOutput` at the position where the loop meets it -/
def sumShelley (shelley : Bool) (acc : Value) : List Value → SR
  | [] => .ok acc
  | v :: vs =>
    if shelley && isMultiV v then .wrongEra
    else
      match addValues acc v with
      | .ok a => sumShelley shelley a vs
      | .err => .err
      | .panic => .panic

/-- Shelley-MA `check_preservation_of_value` with zero deposit / refund counts; `shelley` = `Era::Shelley` -/
def checkPreservationShelleyMA (shelley : Bool) (ins outs : List Value) (fee : Int) (mint : Option MA) : Res :=
  match sumShelley shelley emptyValue ins with
  | .wrongEra => .wrongEra
  | .err => .negativeValue
  | .panic => .panic
  | .ok r =>
    match (addValues r (.coin 0)).bind (fun r2 =>            -- key_deposit * stk_refund_count
            match mint with
            | some m => addMintedValue r2 m
            | none => .ok r2) with
    | .err => .negativeValue
    | .panic => .panic
    | .ok consumed =>
      match sumShelley shelley emptyValue outs with
      | .wrongEra => .wrongEra
      | .err => .negativeValue
      | .panic => .panic
      | .ok p =>
        resOf <|
          (addValues p (.coin fee)).bind (fun p2 =>
            (addValues p2 (.coin 0)).bind (fun produced =>     -- total_deposits
              .ok (valuesAreEqual consumed produced)))

/-! ## Conway (`PositiveCoin` quantities, `NonZeroInt` mint) -/

/-- `old.checked_add(new)` on `u64`; `None` becomes the caller's `err` -/
def addU64 (a b : Int) : R Int := if a + b > U64_MAX then .err else .ok (a + b)

/-- `conway_coerce_to_coin`: `PositiveCoin::try_from(amount).map_err(err)` -/
def conwayCoerceToCoin (m : MA) : R MA := (checkAll (fun a => if a = 0 then .err else .ok ()) m).map (fun _ => m)

/-- `conway_add_multiasset_values` (on `coerce_to_u64` of both sides, which changes nothing) -/
def conwayAddMultiassetValues (a b : MA) : R MA :=
  (mergePolicies addU64 .ok [] a).bind (fun r => mergePolicies addU64 .ok r b)

/-- `conway_add_values` -/
def conwayAddValues : Value → Value → R Value
  | .coin f, .coin s => (addLovelace f s).map .coin
  | .multi f fma, .coin s => (addLovelace f s).map (fun c => .multi c fma)
  | .coin f, .multi s sma => (addLovelace f s).map (fun c => .multi c sma)
  | .multi f fma, .multi s sma =>
    (addLovelace f s).bind (fun c =>
      (conwayAddMultiassetValues fma sma).bind (fun r =>
        (conwayCoerceToCoin r).map (fun ma => .multi c ma)))

/-- `conway_add_same_non_zero_policy_assets` (fixed): `i128` sum then `u64::try_from`, burns of absent assets rejected -/
def mintAdd (old new : Int) : R Int := if old + new < 0 ∨ old + new > U64_MAX then .err else .ok (old + new)
def mintFresh (new : Int) : R Int := if new < 0 then .err else .ok new

/-- `assets.retain(|_, amount| *amount > 0)` (on `u64`: non-zero) -/
def retainAssets : AMap Int → AMap Int
  | [] => []
  | (n, a) :: rest => if a != 0 then (n, a) :: retainAssets rest else retainAssets rest

/-- `res.retain(|_, assets| { assets.retain(|_, amount| *amount > 0); !assets.is_empty() })` -/
def retainPositive : MA → MA
  | [] => []
  | (p, as) :: rest =>
    if (retainAssets as).isEmpty then retainPositive rest else (p, retainAssets as) :: retainPositive rest

/-- `conway_add_multiasset_non_negative_values` -/
def conwayAddMultiassetNonNegativeValues (first minted : MA) : R MA :=
  (mergePolicies addU64 .ok [] first).bind (fun r =>
    (mergePolicies mintAdd mintFresh r minted).map retainPositive)

/-- `conway_coerce_to_non_zero_coin` (fixed): negative or zero quantities are the caller's error -/
def conwayCoerceToNonZeroCoin (m : MA) : R MA :=
  (checkAll (fun a => if a ≤ 0 then .err else .ok ()) m).map (fun _ => m)

/-- `conway_add_minted_non_zero` -/
def conwayAddMintedNonZero (base : Value) (minted : MA) : R Value :=
  match base with
  | .coin n => (conwayCoerceToNonZeroCoin minted).map (fun ma => .multi n ma)
  | .multi n b =>
    (conwayAddMultiassetNonNegativeValues b minted).bind (fun r =>
      (conwayCoerceToCoin r).map (fun ma => .multi n ma))

def conwaySumFrom (acc : Value) : List Value → R Value
  | [] => .ok acc
  | v :: vs => (conwayAddValues acc v).bind (fun acc' => conwaySumFrom acc' vs)

/-- Conway `check_preservation_of_value` (`get_consumed` / `get_produced` start from the first element;
    outputs are `PostAlonzo` ones) -/
def checkPreservationConway (ins outs : List Value) (fee : Int) (mint : Option MA) : Res :=
  match ins with
  | [] => .other            -- `TxInsEmpty`
  | i :: is =>
    match conwaySumFrom i is with
    | .err => .negativeValue
    | .panic => .panic
    | .ok consumed =>
      match outs with
      | [] => .other       -- (also reported as `TxInsEmpty`)
      | o :: os =>
        resOf <|
          (conwaySumFrom o os).bind (fun produced =>
            (conwayAddValues produced (.coin fee)).bind (fun output =>
              (match mint with
               | some m => conwayAddMintedNonZero consumed m
               | none => .ok consumed).bind (fun input =>
                .ok (valuesAreEqual input output))))

/-! ## Byron `check_fees` (fixed: the balance is checked before the redeem-only exemption from the minimum fee) -/

def sumU64 (acc : Int) : List Int → Option Int
  | [] => some acc
  | a :: rest => if acc + a > U64_MAX then none else sumU64 (acc + a) rest

/-- `onlyRedeem` = every input is a redeem-address UTxO -/
def byronCheckFees (ins outs : List Int) (size summand multiplier : Int) (onlyRedeem : Bool) : Res :=
  match sumU64 0 ins with
  | none => .other                                                    -- `checked_add(..).ok_or(UnableToComputeFees)`
  | some inputsBalance =>
    match sumU64 0 outs with
    | none => .other
    | some outputsBalance =>
      if inputsBalance - outputsBalance < 0 then .feesBelowMin          -- `checked_sub(..).ok_or(FeesBelowMin)`
      else if onlyRedeem then .ok
      else if multiplier * size > U64_MAX then .other                   -- `checked_mul` / `checked_add` of the minimum fee
      else if summand + multiplier * size > U64_MAX then .other
      else if inputsBalance - outputsBalance < summand + multiplier * size then .feesBelowMin
      else .ok

end PallasVerif.Value
