import PallasVerif.Model.TxView
import PallasVerif.Proofs.Cbor
/-! Helper lemmas for C05 / C08 / C30, about `Cbor.Item` and `TxView.viewBlockItem`: an element of an array or map node is a contiguous slice
    of the node's bytes (`IsSeqOf`, `slice_of_isSeqOf`), hence so is every part that `viewBlockItem`
    returns (header, bodies, witness sets, auxiliary data values, Byron payloads). -/
namespace PallasVerif.Traverse.Slices
open PallasVerif.Cbor PallasVerif.TxView

/-- `a` occurs in `b` as a contiguous run of bytes -/
def Slice (a b : Bytes) : Prop := ∃ pre post, b = pre ++ a ++ post

theorem Slice.refl (a : Bytes) : Slice a a := ⟨[], [], by simp⟩
theorem Slice.trans {a b c : Bytes} (h1 : Slice a b) (h2 : Slice b c) : Slice a c := by
  obtain ⟨p1, q1, rfl⟩ := h1
  obtain ⟨p2, q2, rfl⟩ := h2
  exact ⟨p2 ++ p1, q1 ++ q2, by simp [List.append_assoc]⟩

theorem encodeList_eq_flatten (xs : List Item) : encodeList xs = (xs.map Item.encode).flatten := by
  induction xs with
  | nil => rfl
  | cons x xs ih => simp [encodeList, ih]

theorem slice_encodeList (xs : List Item) (x : Item) (h : x ∈ xs) : Slice x.encode (encodeList xs) := by
  obtain ⟨p, q, e⟩ := List.infix_of_mem_flatten (List.mem_map_of_mem (f := Item.encode) h)
  exact ⟨p, q, by rw [encodeList_eq_flatten, e]⟩

/-- `top` is an array or map node, definite or not, whose children are `ys` (for a map: keys and values
    in alternation) -/
def IsSeqOf (top : Item) (ys : List Item) : Prop := (∃ h, top = .seq h ys) ∨ (∃ m, top = .seqIndef m ys)

theorem isSeqOf_arrayItems {top : Item} {xs : List Item} : top.arrayItems? = some xs → IsSeqOf top xs := by
  fun_cases Item.arrayItems? top with
  | case1 hd => rintro ⟨⟩; exact .inl ⟨hd, rfl⟩ -- definite, major type 4
  | case3 => rintro ⟨⟩; exact .inr ⟨4, rfl⟩ -- indefinite, major type 4
  | _ => exact nofun

theorem isSeqOf_mapEntries {top : Item} {es : List (Item × Item)} : top.mapEntries? = some es →
    ∃ ys, pairUp ys = es ∧ IsSeqOf top ys := by
  fun_cases Item.mapEntries? top with
  | case1 hd ys => rintro ⟨⟩; exact ⟨ys, rfl, .inl ⟨hd, rfl⟩⟩ -- definite, major type 5
  | case3 ys => rintro ⟨⟩; exact ⟨ys, rfl, .inr ⟨5, rfl⟩⟩ -- indefinite, major type 5
  | _ => exact nofun

theorem pairUp_mem (ys : List Item) (p : Item × Item) : p ∈ pairUp ys → p.1 ∈ ys ∧ p.2 ∈ ys := by
  fun_induction pairUp ys with
  | case1 k v rest ih =>
    rintro (_ | ⟨_, hp⟩)
    · simp
    · simp [ih hp]
  | case2 => exact nofun

theorem isSeqOf_encode {top : Item} {ys : List Item} (h : IsSeqOf top ys) : Slice (encodeList ys) top.encode := by
  rcases h with ⟨h, rfl⟩ | ⟨m, rfl⟩
  · exact ⟨h.encode, [], by simp [Item.encode]⟩
  · exact ⟨[initByte m 31], [0xff], by simp [Item.encode]⟩

theorem isSeqOf_wf {top : Item} {ys : List Item} (h : IsSeqOf top ys) (w : top.wf = true) : wfList ys = true := by
  rcases h with ⟨h, rfl⟩ | ⟨m, rfl⟩ <;> simp only [Item.wf, Bool.and_eq_true] at w <;> exact w.2

theorem slice_of_isSeqOf {top x : Item} {ys : List Item} (hs : IsSeqOf top ys) (hx : x ∈ ys) :
    Slice x.encode top.encode := (slice_encodeList ys x hx).trans (isSeqOf_encode hs)

theorem slice_arr {top x : Item} {xs : List Item} (ha : top.arrayItems? = some xs) (hx : x ∈ xs) :
    Slice x.encode top.encode := slice_of_isSeqOf (isSeqOf_arrayItems ha) hx

theorem slice_mapValue {top : Item} {es : List (Item × Item)} {p : Item × Item}
    (hm : top.mapEntries? = some es) (hp : p ∈ es) : Slice p.2.encode top.encode := by
  obtain ⟨ys, rfl, hs⟩ := isSeqOf_mapEntries hm
  exact slice_of_isSeqOf hs (pairUp_mem ys p hp).2

theorem mapGet_mem (k : Nat) (es : List (Item × Item)) (v : Item) : mapGet k es = some v → ∃ p ∈ es, p.2 = v := by
  fun_induction mapGet k es with
  | case1 => exact nofun
  | case2 => rintro ⟨⟩; exact ⟨_, List.mem_cons_self .., rfl⟩ -- the first entry has key `k`
  | case3 _ _ _ _ ih => exact fun h => (ih h).imp fun p hp => ⟨List.mem_cons_of_mem _ hp.1, hp.2⟩

theorem slice_mapGet {top v : Item} {es : List (Item × Item)} {k : Nat} (hm : top.mapEntries? = some es)
    (hg : mapGet k es = some v) : Slice v.encode top.encode := by
  obtain ⟨p, hp, rfl⟩ := mapGet_mem k es v hg
  exact slice_mapValue hm hp

theorem auxEntries_mem (es : List (Item × Item)) (aw : List (Nat × Item)) : auxEntries? es = some aw →
    ∀ p ∈ aw, ∃ q ∈ es, p.2 = q.2 := by
  fun_induction auxEntries? es generalizing aw with
  | case1 => rintro ⟨⟩; exact nofun
  | case2 key v rest n r hr _ ih =>
    rintro ⟨⟩ p (_ | ⟨_, hp⟩)
    · exact ⟨_, List.mem_cons_self .., rfl⟩
    · exact (ih r hr p hp).imp fun q hq => ⟨List.mem_cons_of_mem _ hq.1, hq.2⟩
  | case3 => exact nofun

theorem wfList_mem : ∀ (xs : List Item) (x : Item), wfList xs = true → x ∈ xs → x.wf = true
  | y :: ys, x, h, hx => by
    simp only [wfList, Bool.and_eq_true] at h
    rcases List.mem_cons.mp hx with e | hx
    · rw [e]; exact h.1
    · exact wfList_mem ys x h.2 hx

theorem wf_of_arrayItems {top : Item} {xs : List Item} (w : top.wf = true) (ha : top.arrayItems? = some xs)
    (x : Item) (hx : x ∈ xs) : x.wf = true :=
  wfList_mem xs x (isSeqOf_wf (isSeqOf_arrayItems ha) w) hx

/-- in a block `[t, [part, ..]]` every part is a slice of the block, and well formed if the block is -/
theorem block_part {top t inner x : Item} {parts : List Item} (htop : top.arrayItems? = some [t, inner])
    (hparts : inner.arrayItems? = some parts) (hx : x ∈ parts) :
    Slice x.encode top.encode ∧ (top.wf = true → x.wf = true) :=
  ⟨(slice_arr hparts hx).trans (slice_arr htop (by simp)),
    fun w => wf_of_arrayItems (wf_of_arrayItems w htop inner (by simp)) hparts x hx⟩

theorem view_parts_are_slices (top : Item) (v : BlockView) (h : viewBlockItem top = some v) :
    Slice v.header.encode top.encode ∧ (∀ b ∈ v.bodies, Slice b.encode top.encode) ∧
    (∀ w ∈ v.wits, Slice w.encode top.encode) ∧ (∀ p ∈ v.auxWire, Slice p.2.encode top.encode) ∧
    (∀ p ∈ v.payloads, Slice p.encode top.encode) ∧ (top.wf = true → v.header.wf = true) := by
  revert h
  -- the arms of `viewBlockItem` that return a view, the names in the order the function binds them
  fun_cases viewBlockItem top with
  | case1 t inner htop header _ _ hparts => -- epoch boundary
    rintro ⟨⟩
    have hh := block_part htop hparts (x := header) (by simp)
    exact ⟨hh.1, by simp, by simp, by simp, by simp, hh.2⟩
  | case3 t inner htop header body _ txp _ hbody ps hps _ _ hparts => -- Byron main
    rintro ⟨⟩
    have hh := block_part htop hparts (x := header) (by simp)
    have ht := (slice_arr hbody (List.mem_cons_self ..)).trans (block_part htop hparts (x := body) (by simp)).1
    exact ⟨hh.1, by simp, by simp, by simp, fun p hp => (slice_arr hps hp).trans ht, hh.2⟩
  | case7 t inner htop tag _ _ _ header bodies wits aux bs ws es he hw hb aw haw hparts
  | case8 t inner htop tag _ _ _ header bodies wits aux bs ws es he hw hb aw haw _ _ _ _ _ hparts =>
    -- post-Byron, without and with the invalid list
    rintro ⟨⟩
    have part {x} := block_part (x := x) htop hparts
    exact ⟨(part (by simp)).1, fun _ h => (slice_arr hb h).trans (part (by simp)).1,
      fun _ h => (slice_arr hw h).trans (part (by simp)).1, fun p hp => by
        obtain ⟨q, hq, e⟩ := auxEntries_mem es aw haw p hp
        exact e ▸ (slice_mapValue he hq).trans (part (by simp)).1, by simp, (part (by simp)).2⟩
  | _ => exact nofun

theorem viewBlock_some {bs : Bytes} {v : BlockView} : viewBlock bs = some v →
    ∃ top, bs = top.encode ∧ top.wf = true ∧ viewBlockItem top = some v := by
  fun_cases viewBlock bs with
  | case1 top hp =>
    obtain ⟨e, w⟩ := parseItem_sound bs top [] hp
    exact fun h => ⟨top, by simpa using e, w, h⟩
  | case2 => exact nofun

end PallasVerif.Traverse.Slices
