import PallasVerif.Props.C12
/-!
# C13 — KES evolution erases all signing material of past periods   (partial)

Seeds are taken *symbolically*: the instance `sym` of `Model/Kes.lean` names every seed by its path
from the root (`split p = (p ++ [L], p ++ [R])`), so "the seed `x` derives the signing key of period
`q`" is exactly `x <+: leafSeed d s q` (prefix). `material k` lists every secret seed the key buffer
holds — the leaf's Ed25519 secret key (which *is* its seed) and the stored right-child seeds; by the
definition of the layout `keyBytes` (`Model/Kes.lean`) its other bytes are public keys, zeros or the period
(read off the two definitions; no theorem here relates `material` to `keyBytes`).

* `forward_secure` — for every depth `d`, every number of evolutions `t < 2^d` and every earlier
  period `q < t`: no seed held by the key after `t` updates is a prefix of (= derives) the leaf of
  period `q`. It is one half of `derivable_iff` (what the key of period `t` holds derives the leaf of
  period `q < 2^d` exactly when `t ≤ q`), proved by induction on `d` over the halves `t` and `q` lie in,
  on the closed form `keyAt` that `C12.evolve_keygen` identifies the evolved key with.
* `forward_secure_evolved` — the same statement phrased on the result of `t` successive `update`s.
* `material_derive` / `forward_secure_concrete` — the bridge to any concrete instance (in particular `conc`,
  BLAKE2b-256 on bytes): the secret seeds in the concrete key are exactly the seeds at the symbolic positions
  (`derive root x` = follow `split_slice` along `x`), none of which is an ancestor-or-self of an earlier leaf.
* `future_derivable` — the other half: every period `q ≥ t` is still derivable (so `material` is not
  trivially empty and the key is usable), and `current_leaf_present`.

**Partial:** symbolic seeds (a seed "derives" only what the tree structure says — i.e. up to BLAKE2b
preimages/collisions); the buffer contents are tied to the real `as_bytes()` by the correspondence
(byte-for-byte after every update) and the harness additionally scans the real buffer at every byte
offset for all past seeds. Memory that is not reachable through `as_bytes` (stack temporaries of
`keygen_slice`, allocator residue, the caller's seed buffer — the last one is checked by the harness)
is outside the model.
-/
namespace PallasVerif.Props.C13
open PallasVerif.Kes PallasVerif.Props.C12

theorem material_succ (P : Prims) (d : Nat) (s : P.Seed) (t : Nat) :
    material P (keyAt P (d + 1) s t) =
      if t < 2 ^ d then material P (keyAt P d (P.split s).1 t) ++ [(P.split s).2]
      else material P (keyAt P d (P.split s).2 (t - 2 ^ d)) := by
  simp only [keyAt]; split
  · rfl
  · exact List.append_nil _

theorem material_under (d : Nat) (s : Path) (t : Nat) : ∀ x ∈ material sym (keyAt sym d s t), s <+: x := by
  induction d generalizing s t with
  | zero => intro x hx; simp [keyAt, material] at hx; subst hx; exact List.prefix_refl _
  | succ d ih =>
    intro x hx
    rw [material_succ] at hx
    split at hx
    · rw [List.mem_append, List.mem_singleton] at hx
      rcases hx with h | rfl
      · exact (List.prefix_append s [Dir.L]).trans (ih _ _ x h)
      · exact List.prefix_append s [Dir.R]
    · exact (List.prefix_append s [Dir.R]).trans (ih _ _ x hx)

/-- what the key of period `t` holds derives the leaf of period `q` exactly when `q` is not in the past -/
theorem derivable_iff (d : Nat) (s : Path) (t q : Nat) (ht : t < 2 ^ d) (hq : q < 2 ^ d) :
    (∃ x ∈ material sym (keyAt sym d s t), x <+: leafSeed sym d s q) ↔ t ≤ q := by
  induction d generalizing s t q with
  | zero =>
    have h0 : t ≤ q := by omega
    exact ⟨fun _ => h0, fun _ => ⟨s, List.mem_singleton.mpr rfl, List.prefix_refl _⟩⟩
  | succ d ih =>
    have hp := Nat.two_pow_succ d
    by_cases h1 : t < 2 ^ d <;> by_cases h2 : q < 2 ^ d <;>
      simp only [material_succ, leafSeed, h1, h2, ↓reduceIte, List.mem_append, List.mem_singleton]
    · -- both in the left half: the stored right seed covers only periods ≥ 2^d
      rw [← ih _ t q h1 h2]
      constructor
      · rintro ⟨x, hx | rfl, hpre⟩
        · exact ⟨x, hx, hpre⟩
        · exact (not_under_both s _ _ (List.prefix_refl _) (leafSeed_under d _ q) hpre).elim
      · rintro ⟨x, hx, hpre⟩
        exact ⟨x, .inl hx, hpre⟩
    · -- `q` in the right half: the stored right seed derives it
      exact ⟨fun _ => by omega, fun _ => ⟨_, .inr rfl, leafSeed_under d _ _⟩⟩
    · -- the key lives in the regenerated right subtree, `q` in the left one
      constructor
      · rintro ⟨x, hx, hpre⟩
        exact (not_under_both s _ _ (material_under d _ _ x hx) (leafSeed_under d _ q) hpre).elim
      · intro h; omega
    · -- both in the right half
      rw [ih _ _ _ (by omega) (by omega)]; exact Nat.sub_le_sub_iff_right (Nat.le_of_not_lt h2)

/-- **forward security**: after `t` evolutions nothing in the key derives the leaf of an earlier period -/
theorem forward_secure (d : Nat) (s : Path) (t q : Nat) (ht : t < 2 ^ d) (hq : q < t) :
    ∀ x ∈ material sym (keyAt sym d s t), ¬ (x <+: leafSeed sym d s q) := by
  intro x hx hpre
  have := (derivable_iff d s t q ht (by omega)).mp ⟨x, hx, hpre⟩
  omega

theorem forward_secure_evolved (d : Nat) (s : Path) (t q : Nat) (ht : t < 2 ^ d) (hq : q < t) :
    ∃ k, evolve sym (skKeygen sym d s).1 t = some k ∧ k.period = t ∧
      ∀ x ∈ material sym k.key, ¬ (x <+: leafSeed sym d s q) :=
  ⟨_, evolve_keygen sym d s t ht, rfl, forward_secure d s t q ht hq⟩

theorem current_leaf_present (d : Nat) (s : Path) (t : Nat) :
    leafSeed sym d s t ∈ material sym (keyAt sym d s t) := by
  induction d generalizing s t with
  | zero => simp [keyAt, material, leafSeed]
  | succ d ih =>
    -- in either half the leaf is in the material of the active child
    by_cases h1 : t < 2 ^ d <;> simp only [material_succ, h1, ↓reduceIte, leafSeed, List.mem_append]
    · exact Or.inl (ih _ _)
    · exact ih _ _

theorem future_derivable (d : Nat) (s : Path) (t q : Nat) (hq : t ≤ q) (hq2 : q < 2 ^ d) :
    ∃ x ∈ material sym (keyAt sym d s t), x <+: leafSeed sym d s q :=
  (derivable_iff d s t q (by omega) hq2).mpr hq

/-- the seed reached from `root` by following `path` through `Seed::split_slice` -/
def derive (P : Prims) (root : P.Seed) : Path → P.Seed
  | [] => root
  | .L :: q => derive P (P.split root).1 q
  | .R :: q => derive P (P.split root).2 q

/-- with `q = [L]` or `[R]` the right side is a component of `split (derive root p)` by unfolding -/
theorem derive_append (P : Prims) (root : P.Seed) (p q : Path) :
    derive P root (p ++ q) = derive P (derive P root p) q := by
  induction p generalizing root with
  | nil => rfl
  | cons x xs ih => cases x <;> exact ih _

theorem material_derive (P : Prims) (root : P.Seed) (d : Nat) (p : Path) (t : Nat) :
    material P (keyAt P d (derive P root p) t) = (material sym (keyAt sym d p t)).map (derive P root) := by
  induction d generalizing p t with
  | zero => simp [keyAt, material]
  | succ d ih =>
    by_cases h : t < 2 ^ d
    · simp only [material_succ, h, ↓reduceIte, List.map_append, List.map_cons, List.map_nil]
      rw [← ih, derive_append, derive_append]
      rfl
    · simp only [material_succ, h, ↓reduceIte]
      rw [← ih, derive_append]
      rfl

theorem leafSeed_derive (P : Prims) (root : P.Seed) (d : Nat) (p : Path) (q : Nat) :
    leafSeed P d (derive P root p) q = derive P root (leafSeed sym d p q) := by
  induction d generalizing p q with
  | zero => rfl
  | succ d ih =>
    by_cases h : q < 2 ^ d <;> simp only [leafSeed, h, ↓reduceIte] <;> rw [← ih, derive_append] <;> rfl

/-- **forward security read on a concrete key** (e.g. `conc`: BLAKE2b-256 seeds on bytes): after `t`
    evolutions every secret seed in the buffer is the seed at some tree position `x` (reached from the
    master seed by `split_slice` along `x`) that is *not* an ancestor-or-self of the position of any
    earlier period's leaf — so the only way from the buffer to an earlier signing key is to invert or
    collide the seed-splitting hash. -/
theorem forward_secure_concrete (P : Prims) (root : P.Seed) (d : Nat) (t q : Nat) (ht : t < 2 ^ d) (hq : q < t) :
    ∀ s ∈ material P (keyAt P d root t), ∃ x : Path, s = derive P root x ∧
      ¬ (x <+: leafSeed sym d [] q) ∧ leafSeed P d root q = derive P root (leafSeed sym d [] q) := by
  intro s hs
  have hm := material_derive P root d [] t
  simp only [derive] at hm
  rw [hm, List.mem_map] at hs
  obtain ⟨x, hx, rfl⟩ := hs
  exact ⟨x, rfl, forward_secure d [] t q ht hq x hx, by simpa [derive] using leafSeed_derive P root d [] q⟩

example : material sym (keyAt sym 2 [] 2) = [[Dir.R, Dir.L], [Dir.R, Dir.R]] := by decide
example : material sym (keyAt sym 2 [] 0) = [[Dir.L, Dir.L], [Dir.L, Dir.R], [Dir.R]] := by decide
example : leafSeed sym 2 [] 1 = [Dir.L, Dir.R] := by decide

end PallasVerif.Props.C13
