import PallasVerif.Model.Negotiate
/-!
  Both handshake negotiation models (C25) answer by one case distinction (`Decides`): the version sets are disjoint
  and the answer is a version mismatch, or the two sides' data for the highest common version decide. Props/C25 reads
  the property theorems off the lemmas about `Decides`.
-/

namespace PallasVerif.Negotiate
variable {D : Type}

theorem mem_keys {t : Table D} {v : Nat} {d : D} (h : (v, d) ∈ t) : v ∈ keys t :=
  List.mem_map_of_mem (f := (·.1)) h

theorem mem_keys_perm {t t' : Table D} (hp : t.Perm t') {w : Nat} : w ∈ keys t ↔ w ∈ keys t' :=
  (hp.map _).mem_iff

theorem unique_of_nodup_keys {t : Table D} (h : (keys t).Nodup) {x y : Nat × D} (hx : x ∈ t) (hy : y ∈ t)
    (hk : x.1 = y.1) : x = y := by
  have hp : t.Pairwise (fun a b => a.1 ≠ b.1) := List.pairwise_map.mp h
  exact List.Pairwise.forall_of_forall_of_flip (R := fun a b => a.1 = b.1 → a = b) (fun _ _ _ => rfl)
    (hp.imp fun hne e => absurd e hne) (hp.imp fun hne e => absurd e.symm hne) hx hy hk

theorem find_key_some {t : Table D} {v : Nat} {c : Nat × D} (h : t.find? (fun c => c.1 = v) = some c) :
    c ∈ t ∧ c.1 = v :=
  ⟨List.mem_of_find?_eq_some h, by simpa using List.find?_some h⟩

theorem find_key_none {t : Table D} {v : Nat} (h : t.find? (fun c => c.1 = v) = none) : v ∉ keys t := by
  intro hv
  obtain ⟨c, hc, rfl⟩ := List.mem_map.mp hv
  simpa using List.find?_eq_none.mp h c hc

def NoCommon (ours theirs : Table D) : Prop := ∀ w ∈ keys ours, w ∉ keys theirs

/-- `v` is the highest version number both tables offer; `d`, `d'` are the two sides' data for it -/
def HighestCommon (ours theirs : Table D) (v : Nat) (d d' : D) : Prop :=
  (v, d) ∈ ours ∧ (v, d') ∈ theirs ∧ ∀ w, w ∈ keys ours → w ∈ keys theirs → w ≤ v

namespace HighestCommon
variable {ours ours' theirs theirs' : Table D} {v : Nat} {d d' : D}

theorem not_noCommon (h : HighestCommon ours theirs v d d') : ¬ NoCommon ours theirs :=
  fun hd => hd v (mem_keys h.1) (mem_keys h.2.1)

theorem unique (hno : (keys ours).Nodup) (hnt : (keys theirs).Nodup) {w : Nat} {e e' : D}
    (h : HighestCommon ours theirs v d d') (h' : HighestCommon ours theirs w e e') :
    w = v ∧ e = d ∧ e' = d' := by
  have hv : w = v := Nat.le_antisymm (h.2.2 w (mem_keys h'.1) (mem_keys h'.2.1))
    (h'.2.2 v (mem_keys h.1) (mem_keys h.2.1))
  subst hv
  exact ⟨rfl, (Prod.mk.inj (unique_of_nodup_keys hno h'.1 h.1 rfl)).2,
    (Prod.mk.inj (unique_of_nodup_keys hnt h'.2.1 h.2.1 rfl)).2⟩

theorem perm (ho : ours.Perm ours') (ht : theirs.Perm theirs') (h : HighestCommon ours theirs v d d') :
    HighestCommon ours' theirs' v d d' :=
  ⟨ho.mem_iff.mp h.1, ht.mem_iff.mp h.2.1,
    fun w hw hw' => h.2.2 w ((mem_keys_perm ho).mpr hw) ((mem_keys_perm ht).mpr hw')⟩

end HighestCommon

/-- outcomes up to the order in which a version-mismatch lists our versions (a hash map's) -/
def Outcome.sim : Outcome D → Outcome D → Prop
  | .versionMismatch l, .versionMismatch l' => l.Perm l'
  | a, b => a = b

theorem Outcome.sim_refl (a : Outcome D) : a.sim a := by
  cases a <;> simp [Outcome.sim]

/-- `l`: what a version mismatch lists; `differ`: the test on the two sides' data (stack 1: the whole data,
    stack 2: the network magics) -/
def Decides (differ : D → D → Prop) [∀ d d', Decidable (differ d d')] (l : List Nat)
    (ours theirs : Table D) (r : Outcome D) : Prop :=
  (NoCommon ours theirs ∧ r = .versionMismatch l) ∨
  ∃ v d d', HighestCommon ours theirs v d d' ∧ r = if differ d d' then .refused v else .accept v d

namespace Decides
variable {differ : D → D → Prop} [∀ d d', Decidable (differ d d')] {l l' : List Nat}
  {ours ours' theirs theirs' : Table D} {r r' : Outcome D} {v : Nat} {d d' : D}

/-- the converse of `of_noCommon` and `of_highestCommon` -/
theorem sound (h : Decides differ l ours theirs r) :
    (∀ v d, r = .accept v d → ∃ d', HighestCommon ours theirs v d d' ∧ ¬ differ d d') ∧
    (∀ v, r = .refused v → ∃ d d', HighestCommon ours theirs v d d' ∧ differ d d') ∧
    (∀ vs, r = .versionMismatch vs → NoCommon ours theirs) ∧ r ≠ .panic := by
  rcases h with ⟨hdis, rfl⟩ | ⟨v, d, d', hc, rfl⟩
  · exact ⟨nofun, nofun, fun _ _ => hdis, nofun⟩
  · by_cases hd : differ d d'
    · rw [if_pos hd]
      exact ⟨nofun, fun _ h => by cases h; exact ⟨d, d', hc, hd⟩, nofun, nofun⟩
    · rw [if_neg hd]
      exact ⟨fun _ _ h => by cases h; exact ⟨d', hc, hd⟩, nofun, nofun, nofun⟩

theorem of_noCommon (h : Decides differ l ours theirs r) (hdis : NoCommon ours theirs) :
    r = .versionMismatch l := by
  rcases h with ⟨_, h⟩ | ⟨_, _, _, hc, _⟩
  · exact h
  · exact absurd hdis hc.not_noCommon

theorem of_highestCommon (h : Decides differ l ours theirs r) (hno : (keys ours).Nodup)
    (hnt : (keys theirs).Nodup) (hc : HighestCommon ours theirs v d d') :
    r = if differ d d' then .refused v else .accept v d := by
  rcases h with ⟨hdis, _⟩ | ⟨_, _, _, hc', h⟩
  · exact absurd hdis hc.not_noCommon
  · obtain ⟨rfl, rfl, rfl⟩ := hc.unique hno hnt hc'
    exact h

theorem perm (h : Decides differ l ours theirs r) (ho : ours.Perm ours') (ht : theirs.Perm theirs') :
    Decides differ l ours' theirs' r := by
  rcases h with ⟨hdis, h⟩ | ⟨v, d, d', hc, h⟩
  · exact .inl ⟨fun w hw hw' => hdis w ((mem_keys_perm ho).mpr hw) ((mem_keys_perm ht).mpr hw'), h⟩
  · exact .inr ⟨v, d, d', hc.perm ho ht, h⟩

/-- one case analysis for both readings: stack 1 lists `l = l'`, stack 2 a permutation -/
theorem order_independent (h : Decides differ l ours theirs r) (h' : Decides differ l' ours' theirs' r')
    (ho : ours.Perm ours') (ht : theirs.Perm theirs') (hno : (keys ours).Nodup) (hnt : (keys theirs).Nodup) :
    (l = l' → r = r') ∧ (l.Perm l' → r.sim r') := by
  rcases h.perm ho ht with ⟨hdis, rfl⟩ | ⟨v, d, d', hc, rfl⟩
  · rw [h'.of_noCommon hdis]
    exact ⟨fun e => e ▸ rfl, fun hl => hl⟩
  · rw [h'.of_highestCommon ((ho.map _).nodup_iff.mp hno) ((ht.map _).nodup_iff.mp hnt) hc]
    exact ⟨fun _ => rfl, fun _ => Outcome.sim_refl _⟩

end Decides

theorem sortDesc_perm (t : Table D) : (sortDesc t).Perm t := List.mergeSort_perm _ _

theorem sortDesc_sorted (t : Table D) : (sortDesc t).Pairwise (fun a b => b.1 ≤ a.1) := by
  have := List.pairwise_mergeSort (le := fun (a b : Nat × D) => decide (b.1 ≤ a.1))
    (by intro a b c hab hbc; simp at *; omega) (by intro a b; simp; omega) t
  simpa [sortDesc] using this

theorem sortDesc_eq_of_perm {t t' : Table D} (hp : t.Perm t') (hn : (keys t).Nodup) : sortDesc t = sortDesc t' := by
  have hp' : (sortDesc t).Perm (sortDesc t') := (sortDesc_perm t).trans (hp.trans (sortDesc_perm t').symm)
  refine List.Perm.eq_of_pairwise (le := fun a b => b.1 ≤ a.1) ?_ (sortDesc_sorted t) (sortDesc_sorted t') hp'
  intro a b ha hb h1 h2
  have ha' : a ∈ t := (sortDesc_perm t).mem_iff.mp ha
  have hb' : b ∈ t := hp.mem_iff.mpr ((sortDesc_perm t').mem_iff.mp hb)
  exact unique_of_nodup_keys hn ha' hb' (by omega)

-- `decide` cannot evaluate `mergeSort` (well-founded recursion); the examples of Props/C25 give
-- `negotiate1` sorted tables and remove the sort with the next two lemmas.
theorem sortDesc_of_sorted {t : Table D} (h : t.Pairwise (fun a b => b.1 ≤ a.1)) : sortDesc t = t := by
  unfold sortDesc
  exact List.mergeSort_of_pairwise (le := fun (a b : Nat × D) => decide (b.1 ≤ a.1)) (by simpa using h)

section
variable [DecidableEq D]

theorem negotiate1_of_sorted {ours theirs : Table D} (h : ours.Pairwise (fun a b => b.1 ≤ a.1)) :
    negotiate1 ours theirs = scan1 theirs ours ours := by
  unfold negotiate1; rw [sortDesc_of_sorted h]

/-- The first common number a descending scan meets is the highest; `all` is only what a version mismatch lists. -/
theorem scan1_decides (theirs all : Table D) : ∀ {t : Table D}, t.Pairwise (fun a b => b.1 ≤ a.1) →
    Decides (· ≠ ·) (keys all) t theirs (scan1 theirs all t)
  | [], _ => .inl ⟨nofun, rfl⟩
  | (v, d) :: rest, hs => by
    obtain ⟨hv, hrest⟩ := List.pairwise_cons.mp hs
    cases hf : theirs.find? (fun c => c.1 = v) with
    | some c =>
      obtain ⟨hc, rfl⟩ := find_key_some hf
      refine .inr ⟨c.1, d, c.2, ⟨List.mem_cons_self .., hc, fun w hw _ => ?_⟩, by simp only [scan1, hf, ite_not]⟩
      rcases List.mem_cons.mp hw with rfl | hw
      · exact Nat.le_refl _
      · obtain ⟨x, hx, rfl⟩ := List.mem_map.mp hw
        exact hv x hx
    | none =>
      have hnv := find_key_none hf
      have hscan : scan1 theirs all ((v, d) :: rest) = scan1 theirs all rest := by simp only [scan1, hf]
      rw [hscan]
      rcases scan1_decides theirs all hrest with ⟨hdis, hres⟩ | ⟨v', d', d'', hc, hres⟩
      · exact .inl ⟨List.forall_mem_cons.mpr ⟨hnv, hdis⟩, hres⟩
      · refine .inr ⟨v', d', d'', ⟨List.mem_cons_of_mem _ hc.1, hc.2.1, fun w hw hwt => ?_⟩, hres⟩
        rcases List.mem_cons.mp hw with rfl | hw
        · exact absurd hwt hnv
        · exact hc.2.2 w hw hwt

/-- stack 1 scans its own table in descending order -/
theorem negotiate1_decides (ours theirs : Table D) :
    Decides (· ≠ ·) (keys (sortDesc ours)) ours theirs (negotiate1 ours theirs) :=
  (scan1_decides theirs _ (sortDesc_sorted ours)).perm (sortDesc_perm ours) (.refl _)

end

/-- Which entry among equal numbers is returned (the last, as `max_by_key`) is not said: `Decides` asks for some entry
    of the highest common number, and `Decides.of_highestCommon` assumes unique keys. -/
theorem maxByKey_some {l : Table D} {r : Nat × D} (h : maxByKey l = some r) : r ∈ l ∧ ∀ y ∈ l, y.1 ≤ r.1 := by
  cases l with
  | nil => cases h
  | cons x xs =>
    induction xs generalizing x with
    | nil => cases h; simp
    | cons a xs ih =>
      -- one step of the fold: the running maximum becomes `a` or stays `x`
      by_cases hxa : x.1 ≤ a.1
      · have hstep : maxByKey (x :: a :: xs) = maxByKey (a :: xs) := by
          simp only [maxByKey, List.foldl_cons, if_pos hxa]
        obtain ⟨hmem, hmax⟩ := ih a (hstep ▸ h)
        have ha := hmax a (List.mem_cons_self ..)
        exact ⟨List.mem_cons_of_mem _ hmem, List.forall_mem_cons.mpr ⟨by omega, hmax⟩⟩
      · have hstep : maxByKey (x :: a :: xs) = maxByKey (x :: xs) := by
          simp only [maxByKey, List.foldl_cons, if_neg hxa]
        obtain ⟨hmem, hmax⟩ := ih x (hstep ▸ h)
        obtain ⟨hx, hxs⟩ := List.forall_mem_cons.mp hmax
        exact ⟨((List.sublist_cons_self a xs).cons_cons x).subset hmem,
          List.forall_mem_cons.mpr ⟨hx, List.forall_mem_cons.mpr ⟨by omega, hxs⟩⟩⟩

theorem maxByKey_none {l : Table D} (h : maxByKey l = none) : l = [] := by
  cases l with
  | nil => rfl
  | cons a xs => cases h

theorem mem_common {ours proposed : Table D} {p : Nat × D} :
    p ∈ common ours proposed ↔ p ∈ proposed ∧ p.1 ∈ keys ours := by
  simp [common, List.mem_filter]

theorem lookup_some {t : Table D} {v : Nat} {d : D} (h : lookup t v = some d) : (v, d) ∈ t := by
  obtain ⟨c, hf, rfl⟩ := Option.map_eq_some_iff.mp h
  obtain ⟨hc, rfl⟩ := find_key_some hf
  exact hc

theorem lookup_none {t : Table D} {v : Nat} (h : lookup t v = none) : v ∉ keys t :=
  find_key_none (Option.map_eq_none_iff.mp h)

theorem negotiate2_decides (magic : D → Nat) (ours proposed : Table D) :
    Decides (fun d pd => magic pd ≠ magic d) (keys ours) ours proposed (negotiate2 magic ours proposed) := by
  unfold negotiate2
  cases hm : maxByKey (common ours proposed) with
  | none =>
    refine .inl ⟨fun w hwo hwp => ?_, rfl⟩
    obtain ⟨p, hp, rfl⟩ := List.mem_map.mp hwp
    exact List.not_mem_nil (maxByKey_none hm ▸ mem_common.mpr ⟨hp, hwo⟩)
  | some x =>
    obtain ⟨v, pd⟩ := x
    obtain ⟨hx, hmax⟩ := maxByKey_some hm
    rw [mem_common] at hx
    cases hl : lookup ours v with
    -- the indexing `values[num]` cannot fail: the filter has put `v` among our keys
    | none => exact absurd hx.2 (lookup_none hl)
    | some d =>
      simp only [hl]
      refine .inr ⟨v, d, pd, ⟨lookup_some hl, hx.1, fun w hwo hwp => ?_⟩, rfl⟩
      obtain ⟨p, hp, rfl⟩ := List.mem_map.mp hwp
      exact hmax p (mem_common.mpr ⟨hp, hwo⟩)

end PallasVerif.Negotiate
