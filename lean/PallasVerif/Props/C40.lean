import PallasVerif.Proofs.TxBuild
import PallasVerif.Model.TxBuildEnc
import PallasVerif.Proofs.Cbor
/-!
# C40 — Built transactions encode the staged content with a correct id

`Model/TxBuild.lean` transcribes the `StagingTransaction` builder methods and `build_conway_raw` /
`build_babbage_raw` as the code stands after the four `fix: txbuilder …` commits (DESIGN §6 #25:
zero quantities dropped, staged inputs deduplicated, a redeemer without execution units reported as
an error; and the script integrity hash taken over the emitted witness set).

Every function on the way to `build` returns `.ok a` when a condition `P` holds and an error otherwise,
and never panics: `Is r P a`. Each is described so once (`buildBabbageRaw_is`, `buildRedeemer_is`,
`collect_is` for the two `collect` recursions, ...), `Is.bind` composing the descriptions along the `?`
chain, up to `build_is : Is (build s) (¬ Refused s) (built s)` with `built s` the transaction `build`
returns when it does not refuse. Totality, the acceptance condition and the content theorems are read
off that one statement (`build_ok_inv`).

`mint_policies_ascending` is about every staging reachable by any history of builder calls
(`Staging.applyAll`, unbounded), the one place where an invariant of the staging is needed (`MintWF`); the
other theorems hold of every staging value. The stream compares `build_id_concrete`'s `tx_bytes` and ids with the implementation's, byte
for byte, whenever no `HashMap` iteration order enters them.

Not modelled (sampled by the stream `txbuild` only): CBOR decoding of the transaction, decoding of
caller payloads (a boolean; payloads are taken to be in the form the pallas encoder
writes back), the hash functions that key scripts and datums, the value of `auxiliary_data_hash`
(presence only).
-/
namespace PallasVerif.Props.C40
open PallasVerif.TxBuild PallasVerif.Proofs.TxBuild

inductive Forall2 {α β : Type} (R : α → β → Prop) : List α → List β → Prop
  | nil : Forall2 R [] []
  | cons {a : α} {b : β} {as : List α} {bs : List β} : R a b → Forall2 R as bs → Forall2 R (a :: as) (b :: bs)

theorem Forall2.map {α β : Type} {R : α → β → Prop} (f : α → β) :
    ∀ (l : List α), (∀ a ∈ l, R a (f a)) → Forall2 R l (l.map f)
  | [], _ => .nil
  | a :: t, h => .cons (h a (List.mem_cons_self ..)) (Forall2.map f t fun x hx => h x (List.mem_cons_of_mem _ hx))

/-- `r` is `.ok a` when `P` holds and some error otherwise; in particular not a panic -/
def Is {α : Type} (r : Res α) (P : Prop) (a : α) : Prop := (P ∧ r = .ok a) ∨ (¬ P ∧ ∃ e, r = .err e)

theorem Is.ok {α : Type} (a : α) : Is (.ok a) True a := .inl ⟨trivial, rfl⟩

theorem Is.of_iff {α : Type} {r : Res α} {P Q : Prop} {a : α} (hpq : Q ↔ P) (h : Is r P a) : Is r Q a := by
  rw [Is, hpq]; exact h

theorem Is.bind {α β : Type} {r : Res α} {f : α → Res β} {P Q : Prop} {a : α} {b : β}
    (hr : Is r P a) (hf : Is (f a) Q b) : Is (r.bind f) (P ∧ Q) b := by
  rcases hr with ⟨hp, rfl⟩ | ⟨hp, e, rfl⟩
  · exact hf.of_iff (and_iff_right hp)
  · exact .inr ⟨fun h => hp h.1, e, rfl⟩

theorem Is.ne_panic {α : Type} {r : Res α} {P : Prop} {a : α} (h : Is r P a) : r ≠ .panic := by
  rcases h with ⟨_, rfl⟩ | ⟨_, e, rfl⟩ <;> exact nofun

theorem Is.ok_iff {α : Type} {r : Res α} {P : Prop} {a : α} (h : Is r P a) (b : α) : r = .ok b ↔ P ∧ b = a := by
  rcases h with ⟨hp, rfl⟩ | ⟨hp, e, rfl⟩
  · simp [hp, eq_comm]
  · simp [hp]

theorem failIf_is (c : Bool) (e : Err) : Is (failIf c e) (c = false) () := by
  cases c
  · exact .inl ⟨rfl, rfl⟩
  · exact .inr ⟨nofun, e, rfl⟩

/-- `.map(g).collect::<Result<Vec<_>, _>>()`, for any `f` with the equations of that recursion -/
theorem collect_is {α β : Type} (g : α → Res β) (f : List α → Res (List β)) (hnil : f [] = .ok [])
    (hcons : ∀ a t, f (a :: t) = (g a).bind fun b => (f t).bind fun bs => .ok (b :: bs))
    (Bad : α → Prop) (p : α → β) (hg : ∀ a, Is (g a) (¬ Bad a) (p a)) (l : List α) :
    Is (f l) (¬ ∃ a ∈ l, Bad a) (l.map p) := by
  induction l with
  | nil => rw [hnil]; exact (Is.ok _).of_iff (by simp)
  | cons a t ih =>
    rw [hcons]
    exact .of_iff (by simp only [List.mem_cons, exists_eq_or_imp, not_or, and_true]) ((hg a).bind (ih.bind (Is.ok _)))

/-- the `unwrap` on the witness-set datums sits behind `!is_empty()` and cannot fire -/
theorem witnessDatums_is (d : List Bytes) : Is (witnessDatums d) True d := by
  cases d <;> exact Is.ok _

/-- an output `build_babbage_raw` refuses: datum hash of the wrong length, undecodable inline
    datum, undecodable native script reference -/
def OutputBad (o : Output) : Prop :=
  (∃ b, o.datum = some (.hash b) ∧ b.length ≠ 32) ∨ (∃ d, o.datum = some (.inline d) ∧ d.ok = false) ∨
  (∃ sc, o.script = some sc ∧ sc.kind = 0 ∧ sc.body.ok = false)

/-- what `build_babbage_raw` keeps of an output: everything, the assets without zero quantities -/
def builtOutput (o : Output) : BuiltOutput :=
  { addr := o.addr, coin := o.coin, assets := nonZeroAssets (fun q => decide (q = 0)) o.assets,
    datum := o.datum, script := o.script }

theorem buildBabbageRaw_is (o : Output) : Is o.buildBabbageRaw (¬ OutputBad o) (builtOutput o) := by
  -- the datum check, then the script check
  refine .of_iff (by simp only [OutputBad, not_or, and_true, and_assoc]) (Is.bind (a := ())
    (P := ¬ ((∃ b, o.datum = some (.hash b) ∧ b.length ≠ 32) ∨ ∃ d, o.datum = some (.inline d) ∧ d.ok = false)) ?_
    (Is.bind (a := ()) (P := ¬ ∃ sc, o.script = some sc ∧ sc.kind = 0 ∧ sc.body.ok = false) ?_ (Is.ok _)))
  · cases o.datum with
    | none => exact (Is.ok _).of_iff (by simp)
    | some d => cases d <;> exact (failIf_is _ _).of_iff (by simp)
  · cases o.script with
    | none => exact (Is.ok _).of_iff (by simp)
    | some sc => exact (failIf_is _ _).of_iff (by simp)

theorem buildOutputs_is (l : List Output) : Is (buildOutputs l) (¬ ∃ o ∈ l, OutputBad o) (l.map builtOutput) :=
  collect_is _ buildOutputs rfl (fun _ _ => rfl) OutputBad _ buildBabbageRaw_is l

/-- a redeemer the loop refuses: no execution units, undecodable payload, or a target that is not
    among the (deduplicated) inputs / the policies with a non-zero mint -/
def RedeemerBad (inputs : List Inp) (policies : List Hash) (p : Purpose) (r : Redeemer) : Prop :=
  r.exUnits = none ∨ r.data.ok = false ∨
  (match p with
   | .spend i => i ∉ inputs
   | .mint pid => pid ∉ policies)

/-- the built redeemer's tag and index name the purpose's target in the two ordered lists -/
def Target (inputs : List Inp) (policies : List Hash) (p : Purpose) (b : BuiltRedeemer) : Prop :=
  match p with
  | .spend i => b.tag = 0 ∧ inputs[b.index]? = some i
  | .mint pid => b.tag = 1 ∧ policies[b.index]? = some pid

/-- staged redeemer ↦ built redeemer: same payload and budget, index = position of the target in
    the input field (spend) / among the policy ids of the mint field (mint) -/
def PointsAt (tx : BuiltTx) (staged : Purpose × Redeemer) (b : BuiltRedeemer) : Prop :=
  b.data = staged.2.data.bytes ∧ staged.2.exUnits = some (b.mem, b.steps) ∧
  Target tx.inputs (tx.mint.map (·.1)) staged.1 b

/-- what `position(..)` finds: the library's `idxOf`, at the equality test `positionOf` uses -/
def position {α : Type} [DecidableEq α] (l : List α) (x : α) : Nat := l.idxOf x

theorem positionOf_is {α : Type} [DecidableEq α] (l : List α) (x : α) : Is (positionOf l x) (x ∈ l) (position l x) := by
  unfold positionOf
  cases h : l.findIdx? (fun y => decide (y = x)) with
  | some k =>
    obtain ⟨hk, rfl⟩ := List.findIdx?_eq_some_iff_findIdx_eq.1 h
    exact .inl ⟨List.idxOf_lt_length_iff.1 hk, rfl⟩
  | none => exact .inr ⟨fun hm => by simpa using List.findIdx?_eq_none_iff.1 h x hm, _, rfl⟩

theorem position_getElem? {α : Type} [DecidableEq α] (l : List α) (x : α) (h : x ∈ l) : l[position l x]? = some x := by
  rw [position, List.getElem?_eq_getElem (List.idxOf_lt_length_of_mem h), List.getElem_idxOf]

/-- one iteration of the redeemer loop when it does not fail (the budget's default is never read:
    a redeemer without execution units is refused) -/
def builtRedeemer (inputs : List Inp) (policies : List Hash) (e : Purpose × Redeemer) : BuiltRedeemer :=
  { tag := match e.1 with | .spend _ => 0 | .mint _ => 1
    index := match e.1 with | .spend i => position inputs i | .mint pid => position policies pid
    data := e.2.data.bytes, mem := (e.2.exUnits.getD (0, 0)).1, steps := (e.2.exUnits.getD (0, 0)).2 }

theorem buildRedeemer_is (inputs : List Inp) (policies : List Hash) (e : Purpose × Redeemer) :
    Is (buildRedeemer inputs policies e.1 e.2) (¬ RedeemerBad inputs policies e.1 e.2) (builtRedeemer inputs policies e) := by
  obtain ⟨p, r⟩ := e
  -- the budget, the payload, then the target's position
  refine .of_iff (by simp [RedeemerBad, not_or]) (Is.bind (P := ¬ r.exUnits = none) (a := r.exUnits.getD (0, 0)) ?_
    ((failIf_is _ _).bind (Q := ¬ match p with | .spend i => i ∉ inputs | .mint pid => pid ∉ policies) ?_))
  · cases r.exUnits with
    | none => exact .inr ⟨fun h => h rfl, _, rfl⟩
    | some ex => exact (Is.ok _).of_iff (by simp)
  · cases p <;> exact .of_iff (by simp) ((positionOf_is _ _).bind (Is.ok _))

theorem buildRedeemers_is (inputs : List Inp) (policies : List Hash) (l : List (Purpose × Redeemer)) :
    Is (buildRedeemers inputs policies l) (¬ ∃ e ∈ l, RedeemerBad inputs policies e.1 e.2)
      (l.map (builtRedeemer inputs policies)) :=
  collect_is _ (buildRedeemers inputs policies) rfl (fun _ _ => rfl) _ _ (buildRedeemer_is inputs policies) l

theorem builtRedeemer_pointsAt (tx : BuiltTx) (e : Purpose × Redeemer)
    (h : ¬ RedeemerBad tx.inputs (tx.mint.map (·.1)) e.1 e.2) :
    PointsAt tx e (builtRedeemer tx.inputs (tx.mint.map (·.1)) e) := by
  obtain ⟨p, r⟩ := e
  simp only [RedeemerBad, not_or] at h
  unfold PointsAt
  refine ⟨rfl, ?_, ?_⟩
  · cases hx : r.exUnits with
    | none => exact absurd hx h.1
    | some ex => simp [builtRedeemer, hx]
  · cases p <;> exact ⟨rfl, position_getElem? _ _ (Classical.not_not.1 h.2.2)⟩

/-- the documented reasons for refusal, in the order in which `build` meets them -/
def Refused (s : Staging) : Prop :=
  (∃ o ∈ s.outputs, OutputBad o) ∨ (∃ n, s.networkId = some n ∧ n > 1) ∨ (∃ o, s.collOut = some o ∧ OutputBad o) ∨
  (∃ e ∈ s.scripts, e.2.kind = 0 ∧ e.2.body.ok = false) ∨ (∃ e ∈ s.datums, e.2.ok = false) ∨
  (∃ e ∈ s.redeemers, RedeemerBad (dedup (isort inpLe s.inputs))
      ((nonZeroAssets (fun q => decide (q = 0)) s.mint).map (·.1)) e.1 e.2)

def built (s : Staging) : BuiltTx :=
  let inputs := dedup (isort inpLe s.inputs)
  let mint := nonZeroAssets (fun q => decide (q = 0)) s.mint
  let redeemers := s.redeemers.map (builtRedeemer inputs (mint.map (·.1)))
  let datums := s.datums.map (·.2.bytes)
  { inputs, outputs := s.outputs.map builtOutput, fee := s.fee.getD 0, ttl := s.invalidFrom,
    validFrom := s.validFrom, mint, collateral := s.collIns, signers := s.signers, networkId := s.networkId,
    collateralReturn := s.collOut.map builtOutput, refInputs := s.refInputs,
    scriptDataHash := scriptDataHashOf redeemers datums s.langViews,
    auxDataHash := s.aux.isSome, scripts := s.scripts.map (fun e => (e.2.kind, e.2.body.bytes)),
    datums, redeemers, aux := s.aux }

theorem build_is (s : Staging) : Is (build s) (¬ Refused s) (built s) := by
  -- one condition per `?` of `build`, in its order
  refine .of_iff (by simp only [Refused, not_or, and_true]) <| (buildOutputs_is _).bind <|
    Is.bind (a := ()) (P := ¬ ∃ n, s.networkId = some n ∧ n > 1) ?_ <|
    Is.bind (a := s.collOut.map builtOutput) (P := ¬ ∃ o, s.collOut = some o ∧ OutputBad o) ?_ <|
    Is.bind (a := ()) (P := ¬ ∃ e ∈ s.scripts, e.2.kind = 0 ∧ e.2.body.ok = false) ((failIf_is _ _).of_iff (by simp [scriptsErr])) <|
    Is.bind (a := ()) (P := ¬ ∃ e ∈ s.datums, e.2.ok = false) ((failIf_is _ _).of_iff (by simp)) <|
    (buildRedeemers_is _ _ _).bind <| (witnessDatums_is _).bind (Is.ok _)
  · cases s.networkId with
    | none => exact (Is.ok _).of_iff (by simp)
    | some n => exact (failIf_is _ _).of_iff (by simp)
  · cases s.collOut with
    | none => exact (Is.ok _).of_iff (by simp)
    | some o => exact .of_iff (by simp) ((buildBabbageRaw_is o).bind (Is.ok _))

theorem build_no_panic (s : Staging) : build s ≠ .panic := (build_is s).ne_panic

/-- what an accepted build is: the staging is not refused and the transaction is `built s`; the collateral
    return once more by cases on the staged one, the form in which `build_content` states it -/
theorem build_ok_inv (s : Staging) (tx : BuiltTx) (h : build s = .ok tx) :
    ¬ Refused s ∧ tx = built s ∧
    (match s.collOut with
      | some o => tx.collateralReturn = some (builtOutput o)
      | none => tx.collateralReturn = none) := by
  obtain ⟨hacc, rfl⟩ := ((build_is s).ok_iff tx).1 h
  refine ⟨hacc, rfl, ?_⟩
  unfold built
  cases s.collOut <;> rfl

theorem build_scriptDataHash_eq (s : Staging) (tx : BuiltTx) (h : build s = .ok tx) :
    tx.scriptDataHash = scriptDataHashOf tx.redeemers tx.datums s.langViews := by
  obtain ⟨-, rfl, -⟩ := build_ok_inv s tx h; rfl

theorem build_mint_eq (s : Staging) (tx : BuiltTx) (h : build s = .ok tx) :
    tx.mint = nonZeroAssets (fun q => decide (q = 0)) s.mint := by
  obtain ⟨-, rfl, -⟩ := build_ok_inv s tx h; rfl

/-- `build` neither refuses without cause nor accepts a malformed staging, so the theorems about accepted
    builds are about every staging free of the documented defects -/
theorem build_accepts_iff (s : Staging) : (∃ tx, build s = .ok tx) ↔ ¬ Refused s :=
  ⟨fun ⟨tx, h⟩ => (build_ok_inv s tx h).1, fun h => ⟨_, ((build_is s).ok_iff _).2 ⟨h, rfl⟩⟩⟩

/-- The input field is the staged inputs as a set in the ledger's order: strictly ascending by
    (transaction id, index), with exactly the staged members. -/
theorem build_inputs_canonical (s : Staging) (tx : BuiltTx) (h : build s = .ok tx) :
    tx.inputs.Pairwise inpLt ∧ ∀ x, x ∈ tx.inputs ↔ x ∈ s.inputs := by
  obtain ⟨-, rfl, -⟩ := build_ok_inv s tx h
  constructor
  · have hs := pairwise_isort inpLe inpLe_trans inpLe_total s.inputs
    exact (dedup_strict inpLe inpLe_antisymm _ hs).imp (fun ⟨h1, h2⟩ => inpLt_of_le_ne _ _ h1 h2)
  · exact fun x => (mem_dedup _ x).trans (mem_isort inpLe x s.inputs)

/-- Each redeemer points at its target: one built redeemer per staged one (same order as the
    model's iteration), carrying its payload and budget, whose index is the position of the spent
    input in the input field / of the policy in the mint field. -/
theorem build_redeemers_point_at_targets (s : Staging) (tx : BuiltTx) (h : build s = .ok tx) :
    Forall2 (PointsAt tx) s.redeemers tx.redeemers := by
  obtain ⟨hacc, rfl, -⟩ := build_ok_inv s tx h
  exact Forall2.map _ _ fun e he => builtRedeemer_pointsAt (built s) e fun hb =>
    hacc (.inr (.inr (.inr (.inr (.inr ⟨e, he, hb⟩)))))

/-- Outputs come out in staging order with the staged address, coin, datum and script; their
    assets are the staged non-zero quantities. -/
theorem build_outputs_content (s : Staging) (tx : BuiltTx) (h : build s = .ok tx) :
    Forall2 (fun (o : Output) (b : BuiltOutput) =>
      b.addr = o.addr ∧ b.coin = o.coin ∧ b.datum = o.datum ∧ b.script = o.script ∧
      b.assets = nonZeroAssets (fun q => decide (q = 0)) o.assets) s.outputs tx.outputs := by
  obtain ⟨-, rfl, -⟩ := build_ok_inv s tx h
  exact Forall2.map _ _ fun _ _ => ⟨rfl, rfl, rfl, rfl, rfl⟩

/-- Collateral, reference inputs, required signers, validity bounds, network id, fee, witness-set
    datums and scripts and the auxiliary data are the staged ones; the two hash fields are present
    exactly when their source is. -/
theorem build_content (s : Staging) (tx : BuiltTx) (h : build s = .ok tx) :
    tx.collateral = s.collIns ∧ tx.refInputs = s.refInputs ∧ tx.signers = s.signers ∧
    tx.validFrom = s.validFrom ∧ tx.ttl = s.invalidFrom ∧ tx.networkId = s.networkId ∧
    tx.fee = s.fee.getD 0 ∧ tx.datums = s.datums.map (·.2.bytes) ∧
    tx.scripts = s.scripts.map (fun e => (e.2.kind, e.2.body.bytes)) ∧ tx.aux = s.aux ∧
    tx.scriptDataHash = scriptDataHashOf tx.redeemers tx.datums s.langViews ∧ tx.auxDataHash = s.aux.isSome ∧
    (∀ n, tx.networkId = some n → n ≤ 1) ∧
    (match s.collOut with
      | some o => ∃ b, tx.collateralReturn = some b ∧ b.addr = o.addr ∧ b.coin = o.coin ∧ b.datum = o.datum ∧ b.script = o.script
      | none => tx.collateralReturn = none) := by
  obtain ⟨hacc, rfl, hc⟩ := build_ok_inv s tx h
  refine ⟨rfl, rfl, rfl, rfl, rfl, rfl, rfl, rfl, rfl, rfl, rfl, rfl, ?_, ?_⟩
  · exact fun n hn => Nat.le_of_not_lt fun hgt => hacc (.inr (.inl ⟨n, hn, hgt⟩))
  · cases hco : s.collOut with
    | none => simp only [hco] at hc; exact hc
    | some o => simp only [hco] at hc; exact ⟨_, hc, rfl, rfl, rfl, rfl⟩

def qty {Q : Type} (m : Assets Q) (p : Hash) (name : Bytes) : Option Q := (alFind m p).bind (alFind · name)

theorem build_mint_content (s : Staging) (tx : BuiltTx) (h : build s = .ok tx) (p : Hash) (name : Bytes) (q : Int) :
    (∃ names, (p, names) ∈ tx.mint ∧ (name, q) ∈ names) ↔
      (q ≠ 0 ∧ ∃ orig, (p, orig) ∈ s.mint ∧ (name, q) ∈ orig) := by
  rw [build_mint_eq s tx h]
  simp only [mem_nonZeroAssets]
  constructor
  · rintro ⟨names, ⟨_, orig, ho, rfl⟩, hm⟩
    simp only [List.mem_filter, Bool.not_eq_eq_eq_not, Bool.not_true, decide_eq_false_iff_not] at hm
    exact ⟨hm.2, orig, ho, hm.1⟩
  · rintro ⟨hq, orig, ho, hm⟩
    have hf : (name, q) ∈ orig.filter (fun x => !decide (x.2 = 0)) := by simp [List.mem_filter, hm, hq]
    exact ⟨_, ⟨List.ne_nil_of_mem hf, orig, ho, rfl⟩, hf⟩

/-- no zero quantity and no empty policy is ever written into the mint field -/
theorem build_mint_no_zero (s : Staging) (tx : BuiltTx) (h : build s = .ok tx) :
    ∀ p names, (p, names) ∈ tx.mint → names ≠ [] ∧ ∀ n q, (n, q) ∈ names → q ≠ 0 := by
  intro p names hm
  refine ⟨?_, fun n q hq => ((build_mint_content s tx h p n q).1 ⟨names, hm, hq⟩).1⟩
  rw [build_mint_eq s tx h] at hm
  exact ((mem_nonZeroAssets _ _ _ _).mp hm).1

/-- every accepting arm of `accumulate` stores one value under (policy, name) in that policy's
    staged map: the amount itself, or its sum with the quantity already there -/
theorem accumulate_ok {Q : Type} (add : Q → Q → Option Q) (m m' : Assets Q) (p : Hash) (name : Bytes) (a : Q)
    (h : accumulate add m p name a = .ok m') :
    ∃ v, m' = alInsert m p (alInsert ((alFind m p).getD []) name v) ∧
      match qty m p name with
      | some q => add q a = some v
      | none => v = a := by
  revert h
  fun_cases accumulate add m p name a with
  -- a name longer than 32 bytes (an error) / `add q amount = none` (the panic)
  | case1 | case3 => exact nofun
  -- policy and name are staged with `q`, `add q amount = some s`
  | case2 _ pm hp q hn s hs => intro h; cases h; exact ⟨s, by simp [hp], by simp [qty, hp, hn, hs]⟩
  -- the policy is staged, the name is not
  | case4 _ pm hp hn => intro h; cases h; exact ⟨a, by simp [hp], by simp [qty, hp, hn]⟩
  -- the policy is not staged
  | case5 _ hp => intro h; cases h; exact ⟨a, by rw [hp]; rfl, by simp [qty, hp]⟩

/-- `mint_asset` adds the amount to what is staged under (policy, name) — so opposite amounts
    cancel to a staged zero, which `build` then drops — and touches nothing else. -/
theorem mint_asset_accumulates (m m' : Assets Int) (p : Hash) (name : Bytes) (amount : Int)
    (h : accumulate i64Add m p name amount = .ok m') :
    qty m' p name = some ((qty m p name).getD 0 + amount) ∧
    ∀ p' name', (p', name') ≠ (p, name) → qty m' p' name' = qty m p' name' := by
  obtain ⟨v, rfl, hv⟩ := accumulate_ok i64Add m m' p name amount h
  constructor
  · have hq : v = (qty m p name).getD 0 + amount := by
      cases hq : qty m p name with
      | none => simp only [hq] at hv; simp [hv]
      | some q =>
        simp only [hq, i64Add] at hv
        split at hv
        · cases hv; rfl
        · cases hv
    simp [qty, alFind_insert_self, hq]
  · intro p' name' hne
    by_cases hpp : p' = p
    · subst hpp
      have hnn : name' ≠ name := fun e => hne (by rw [e])
      simp only [qty, alFind_insert_self, Option.bind_some, alFind_insert_ne _ _ _ _ hnn]
      cases alFind m p' <;> rfl
    · simp [qty, alFind_insert_ne _ _ _ _ hpp]

/-! ## reachable stagings: one entry per policy, hence the mint redeemer index is the ledger's -/

def MintWF (s : Staging) : Prop := (s.mint.map (·.1)).Nodup

theorem accumulate_nodup {Q : Type} (add : Q → Q → Option Q) (m m' : Assets Q) (p : Hash) (name : Bytes) (a : Q)
    (hm : (m.map (·.1)).Nodup) (h : accumulate add m p name a = .ok m') : (m'.map (·.1)).Nodup := by
  obtain ⟨v, rfl, -⟩ := accumulate_ok add m m' p name a h
  exact nodup_keys_insert _ _ _ hm

theorem apply_mintWF (s s' : Staging) (op : Op) (hw : MintWF s) (h : s.apply op = .ok s') : MintWF s' := by
  -- only `mint_asset` and `remove_mint_asset` write the staged mint; three more calls need a case split
  cases op
  case mintAsset p name amount =>
    simp only [Staging.apply, Staging.mintAsset] at h
    cases ha : accumulate i64Add s.mint p name amount with
    | ok m => simp only [ha] at h; cases h; exact accumulate_nodup _ _ _ _ _ _ hw ha
    | err e | panic => simp [ha] at h
  case removeMintAsset p name =>
    cases h
    unfold Staging.removeMintAsset
    split
    · dsimp only
      split
      · exact nodup_keys_erase _ _ hw
      · exact nodup_keys_insert _ _ _ hw
    · exact hw
  case removeOutput idx =>
    simp only [Staging.apply, Staging.removeOutput] at h
    split at h
    · cases h; exact hw
    · cases h
  case addLanguage kind costs =>
    cases h
    unfold Staging.addLanguage
    split <;> exact hw
  case addAux d =>
    cases h
    unfold Staging.addAux
    split <;> exact hw
  all_goals (cases h; exact hw)

theorem applyAll_mintWF (ops : List Op) (s : Staging) (hw : MintWF s) : MintWF (s.applyAll ops) := by
  fun_induction Staging.applyAll s ops with
  | case1 => exact hw
  | case2 s op ops s' h ih => exact ih (apply_mintWF s s' op hw h)
  -- a refused call leaves the staging as it was
  | case3 s op ops _ ih => exact ih hw

/-- For every history of builder calls, the policy ids of the built mint field are strictly
    ascending — so the mint-redeemer index of `build_redeemers_point_at_targets` is the position
    in the ledger's order of minting policies. -/
theorem mint_policies_ascending (ops : List Op) (tx : BuiltTx)
    (h : build (({} : Staging).applyAll ops) = .ok tx) : (tx.mint.map (·.1)).Pairwise (· < ·) := by
  have hw : MintWF (({} : Staging).applyAll ops) := applyAll_mintWF ops {} (by simp [MintWF])
  rw [build_mint_eq _ tx h]
  exact nonZeroAssets_sorted _ _ hw

/-- `script_data_hash` is present exactly when language views were staged and the witness set
    carries a redeemer or a datum; it is then BLAKE2b-256 (`Model/Blake2b.lean`) of C08's
    `ScriptData` hash input: the redeemers as written (or the byte `0xa0`), the datum set as written, the
    canonical language-view encoding when there are redeemers (else `0xa0`). -/
theorem build_script_data_hash (s : Staging) (tx : BuiltTx) (h : build s = .ok tx) :
    (tx.scriptDataHash.isSome = (s.langViews.isSome && (!tx.redeemers.isEmpty || !tx.datums.isEmpty))) ∧
    ∀ lv, s.langViews = some lv → (!tx.redeemers.isEmpty || !tx.datums.isEmpty) = true →
      tx.scriptDataHash = some ((Blake2b.blake2b256 (ScriptData.hashInput
        { redeemers := if tx.redeemers.isEmpty then none else some (redeemersBytes tx.redeemers),
          datums := if tx.datums.isEmpty then none else some (datumSetBytes tx.datums),
          languageViews := if tx.redeemers.isEmpty then none else some (ScriptData.fromList lv) })).map (·.toNat)) := by
  rw [build_scriptDataHash_eq s tx h]
  constructor
  · cases hl : s.langViews with
    | none => simp [scriptDataHashOf]
    | some lv =>
      simp only [scriptDataHashOf, ScriptData.buildFor, Option.isSome_some, Bool.true_and]
      cases hr : tx.redeemers.isEmpty <;> cases hd : tx.datums.isEmpty <;> simp
  · intro lv hl hne
    simp only [hl, scriptDataHashOf, ScriptData.buildFor, ScriptData.hashOf]
    cases hr : tx.redeemers.isEmpty <;> cases hd : tx.datums.isEmpty <;> simp [hr, hd] at hne ⊢

/-- `BuiltTransaction { tx_hash: H(encode(body)), tx_bytes: encode(tx) }` -/
structure Built (Bs Hs : Type) where
  txBytes : Bs
  txHash : Hs

/-- If the transaction encoder writes the body's own encoding as the span that a decoder reads
    back as the body (`bodySpan`), the reported id is the hash of exactly that span. Both the
    hash and the encoder are parameters: this is the shape of the id clause, not a statement about
    BLAKE2b or CBOR (the harness recomputes BLAKE2b-256 over the span it slices itself). -/
theorem build_id_is_hash_of_body_span {Bs Hs Body Tx : Type} (H : Bs → Hs) (encBody : Body → Bs)
    (encTx : Tx → Bs) (bodyOf : Tx → Body) (bodySpan : Bs → Bs)
    (hspan : ∀ t, bodySpan (encTx t) = encBody (bodyOf t)) (t : Tx)
    (b : Built Bs Hs) (hb : b = { txBytes := encTx t, txHash := H (encBody (bodyOf t)) }) :
    b.txHash = H (bodySpan b.txBytes) := by
  subst hb; simp [hspan]

theorem build_id_is_blake2b256_of_body_span {Body Tx : Type} (encBody : Body → Blake2b.Bytes)
    (encTx : Tx → Blake2b.Bytes) (bodyOf : Tx → Body) (bodySpan : Blake2b.Bytes → Blake2b.Bytes)
    (hspan : ∀ t, bodySpan (encTx t) = encBody (bodyOf t)) (t : Tx) :
    let b : Built Blake2b.Bytes Blake2b.Bytes := { txBytes := encTx t, txHash := Blake2b.blake2b256 (encBody (bodyOf t)) }
    b.txHash = Blake2b.blake2b256 (bodySpan b.txBytes) :=
  build_id_is_hash_of_body_span Blake2b.blake2b256 encBody encTx bodyOf bodySpan hspan t _ rfl

open PallasVerif.Cbor in
/-- The id clause, concretely: whenever the model produces `tx_bytes` for a built transaction,
    (1) those bytes parse as an array whose first element is the body's own encoding (`bodySpan`, how a
    reader slices the body out of `tx_bytes`), and
    (2) the reported id is the Lean BLAKE2b-256 (`Model/Blake2b.lean`) of exactly that span.
    Body and witness set are encoded by C06's model of the derived encoders over the generated
    Conway schemas. -/
theorem build_id_concrete (t : BuiltTx) (bs : TxBuildEnc.B8) (h : TxBuildEnc.txBytes t = some bs) :
    ∃ body, TxBuildEnc.bodyBytes t = some body ∧ TxBuildEnc.bodySpan bs = some body ∧
      TxBuildEnc.txId t = some (Blake2b.blake2b256 body) := by
  unfold TxBuildEnc.txBytes at h
  split at h
  · next it hi =>
    split at h
    · next hwf =>
      cases h
      unfold TxBuildEnc.txItem at hi
      split at hi
      · next b w a hb hw ha =>
        cases hi
        refine ⟨b.encode, by simp [TxBuildEnc.bodyBytes, hb], ?_, by simp [TxBuildEnc.txId, TxBuildEnc.bodyBytes, hb]⟩
        unfold TxBuildEnc.bodySpan
        have hp := parseItem_encode (mkArray [b, w, mkBool true, a]) [] hwf
        rw [List.append_nil] at hp
        rw [hp]
        rfl
      · cases hi
    · cases h
  · cases h

def exS : Staging :=
  ({} : Staging).applyAll [
    .input (7, 1), .input (3, 5), .input (7, 1), .input (3, 0),
    .mintAsset 9 [65] 5, .mintAsset 9 [65] (-5), .mintAsset 4 [66] 2, .mintAsset 9 [67] 1,
    .output { addr := [97], coin := 10, assets := [(4, [([66], 0)])], datum := none, script := none },
    .addRedeemer (.spend (7, 1)) { data := { bytes := [24, 42], ok := true }, exUnits := some (1, 2) },
    .addRedeemer (.mint 9) { data := { bytes := [1], ok := true }, exUnits := some (3, 4) }]

def summary (r : Res BuiltTx) : Option (List Inp × List (Nat × List (Bytes × Int)) × List (Nat × Nat) × List (List (Nat × List (Bytes × Nat)))) :=
  match r with
  | .ok t => some (t.inputs, t.mint, t.redeemers.map (fun r => (r.tag, r.index)), t.outputs.map (·.assets))
  | _ => none

-- duplicates collapse, the cancelled asset and the zero output asset are gone, pointers follow the order
example : summary (build exS) =
    some ([(3, 0), (3, 5), (7, 1)], [(4, [([66], 2)]), (9, [([67], 1)])], [(1, 1), (0, 2)], [[]]) := by rfl

example : (match build (exS.applyAll [.addRedeemer (.mint 5) { data := { bytes := [1], ok := true }, exUnits := none }]) with
    | .err .exUnits => true | _ => false) = true := by decide
example : (match build (exS.applyAll [.networkId (some 2)]) with | .err .netId => true | _ => false) = true := by decide
example : qty exS.mint 9 [65] = some 0 := by decide

end PallasVerif.Props.C40
