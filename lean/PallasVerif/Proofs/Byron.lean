import PallasVerif.Model.Byron
import PallasVerif.Proofs.CborWrappers
/-!
  CRC-32: the register updates keep 32 bits and are injective (`Reg32`, closed under composition), hence two messages that
  differ in exactly one byte have different checksums (`crc32_set_ne`). Then the Byron codecs: the derived two-field decoder
  on a definite array, the attribute codecs, and `ByronAddress.dec` on an address written as a definite array of exactly two
  elements with heads of any width (the decoder also accepts longer and indefinite arrays, which are not covered); what the
  encoder writes is the case of minimal heads.
-/
namespace PallasVerif.Byron
open PallasVerif.Cbor PallasVerif.Minicbor PallasVerif.Wrappers

theorem xor_cancel_right {a b p : Nat} (h : a ^^^ p = b ^^^ p) : a = b := by
  have ha : a = (a ^^^ p) ^^^ p := by rw [Nat.xor_assoc, Nat.xor_self, Nat.xor_zero]
  have hb : b = (b ^^^ p) ^^^ p := by rw [Nat.xor_assoc, Nat.xor_self, Nat.xor_zero]
  rw [ha, hb, h]

theorem xor_cancel_left {a b p : Nat} (h : p ^^^ a = p ^^^ b) : a = b := by
  rw [Nat.xor_comm p a, Nat.xor_comm p b] at h; exact xor_cancel_right h

theorem crcPoly_lt : crcPoly < 2 ^ 32 := by decide
theorem crcPoly_bit31 : crcPoly.testBit 31 = true := by decide

theorem crcStep_lt {c : Nat} (h : c < 2 ^ 32) : crcStep c < 2 ^ 32 := by
  unfold crcStep
  split
  · exact Nat.xor_lt_two_pow (by omega) crcPoly_lt
  · omega

-- the parity of the state decides the half it lands in: odd above `2^31`, even below

theorem crcStep_odd_ge {c : Nat} (h : c < 2 ^ 32) (ho : c % 2 = 1) : crcStep c ≥ 2 ^ 31 := by
  unfold crcStep
  rw [if_pos ho]
  apply Nat.ge_two_pow_of_testBit
  rw [Nat.testBit_xor, Nat.testBit_lt_two_pow (by omega : c / 2 < 2 ^ 31), crcPoly_bit31]
  rfl

theorem crcStep_even_lt {c : Nat} (h : c < 2 ^ 32) (he : ¬ c % 2 = 1) : crcStep c < 2 ^ 31 := by
  unfold crcStep
  rw [if_neg he]; omega

theorem crcStep_inj {c1 c2 : Nat} (h1 : c1 < 2 ^ 32) (h2 : c2 < 2 ^ 32) (h : crcStep c1 = crcStep c2) : c1 = c2 := by
  by_cases o1 : c1 % 2 = 1 <;> by_cases o2 : c2 % 2 = 1
  · have e : c1 / 2 = c2 / 2 := by
      unfold crcStep at h; rw [if_pos o1, if_pos o2] at h; exact xor_cancel_right h
    omega
  · have := crcStep_odd_ge h1 o1; have := crcStep_even_lt h2 o2; omega
  · have := crcStep_even_lt h1 o1; have := crcStep_odd_ge h2 o2; omega
  · unfold crcStep at h; rw [if_neg o1, if_neg o2] at h; omega

/-- `f` maps the 32-bit registers into themselves, injectively. Such maps compose, and the checksum is built from them. -/
structure Reg32 (f : Nat → Nat) : Prop where
  lt : ∀ {c}, c < 2 ^ 32 → f c < 2 ^ 32
  inj : ∀ {c1 c2}, c1 < 2 ^ 32 → c2 < 2 ^ 32 → f c1 = f c2 → c1 = c2

theorem Reg32.comp {f g : Nat → Nat} (hf : Reg32 f) (hg : Reg32 g) : Reg32 fun c => f (g c) :=
  ⟨fun h => hf.lt (hg.lt h), fun h1 h2 e => hg.inj h1 h2 (hf.inj (hg.lt h1) (hg.lt h2) e)⟩

theorem crcStep_reg : Reg32 crcStep := ⟨crcStep_lt, crcStep_inj⟩

theorem crcStep8_reg : Reg32 crcStep8 :=
  crcStep_reg.comp (crcStep_reg.comp (crcStep_reg.comp (crcStep_reg.comp (crcStep_reg.comp (crcStep_reg.comp
    (crcStep_reg.comp crcStep_reg))))))

theorem byte_lt_2_32 (b : UInt8) : b.toNat < 2 ^ 32 := by have := UInt8.toNat_lt b; omega

theorem crcByte_reg (b : UInt8) : Reg32 (crcByte · b) :=
  crcStep8_reg.comp ⟨fun h => Nat.xor_lt_two_pow h (byte_lt_2_32 b), fun _ _ => xor_cancel_right⟩

theorem crcByte_inj_byte {c : Nat} (hc : c < 2 ^ 32) (b1 b2 : UInt8) (h : crcByte c b1 = crcByte c b2) : b1 = b2 :=
  UInt8.toNat_inj.mp (xor_cancel_left
    (crcStep8_reg.inj (Nat.xor_lt_two_pow hc (byte_lt_2_32 b1)) (Nat.xor_lt_two_pow hc (byte_lt_2_32 b2)) h))

theorem crcRun_cons (c : Nat) (b : UInt8) (t : Bytes) : crcRun c (b :: t) = crcRun (crcByte c b) t :=
  List.foldl_cons ..

theorem crcRun_reg : ∀ bs : Bytes, Reg32 (crcRun · bs)
  | [] => ⟨id, fun _ _ => id⟩
  | b :: t => by simp only [crcRun_cons]; exact (crcRun_reg t).comp (crcByte_reg b)

theorem crcMask_lt : crcMask < 2 ^ 32 := by decide

theorem crc32_lt (bs : Bytes) : crc32 bs < 2 ^ 32 :=
  Nat.xor_lt_two_pow ((crcRun_reg bs).lt crcMask_lt) crcMask_lt

/-- the register before a message, the bytes around one position and the register after determine the byte there: the
    prefix gives both runs the same register, and from there every update is injective -/
theorem crcRun_mid_inj {c : Nat} (hc : c < 2 ^ 32) (p s : Bytes) (b b' : UInt8)
    (h : crcRun c (p ++ b :: s) = crcRun c (p ++ b' :: s)) : b = b' := by
  have hp := (crcRun_reg p).lt hc
  simp only [crcRun, List.foldl_append, List.foldl_cons] at h
  exact crcByte_inj_byte hp b b' ((crcRun_reg s).inj ((crcByte_reg b).lt hp) ((crcByte_reg b').lt hp) h)

theorem crc32_set_ne (bs : Bytes) (j : Nat) (hj : j < bs.length) (b' : UInt8) (hne : b' ≠ bs[j]) :
    crc32 (bs.set j b') ≠ crc32 bs := by
  intro h
  have h := xor_cancel_right h
  rw [List.set_eq_take_append_cons_drop, if_pos hj] at h
  conv at h => rhs; rw [← List.take_append_drop j bs, List.drop_eq_getElem_cons hj]
  exact hne (crcRun_mid_inj crcMask_lt _ _ _ _ h)

def flipBit (bs : Bytes) (i : Nat) : Bytes :=
  bs.set (i / 8) (UInt8.ofNat ((bs.getD (i / 8) 0).toNat ^^^ 2 ^ (i % 8)))

theorem xor_two_pow_ne (c k : Nat) : c ^^^ 2 ^ k ≠ c := fun h => by
  have := xor_cancel_left (h.trans (Nat.xor_zero c).symm)
  have : 0 < 2 ^ k := Nat.pow_pos (by omega)
  omega

theorem flipped_byte_ne (b : UInt8) (k : Nat) (hk : k < 8) : UInt8.ofNat (b.toNat ^^^ 2 ^ k) ≠ b := by
  intro h
  have hb := UInt8.toNat_lt b
  have hp : 2 ^ k < 2 ^ 8 := Nat.pow_lt_pow_right (by omega) hk
  have hlt : b.toNat ^^^ 2 ^ k < 2 ^ 8 := Nat.xor_lt_two_pow hb hp
  have := congrArg UInt8.toNat h
  rw [toNat_ofNat_lt _ (by omega)] at this
  exact xor_two_pow_ne _ _ this

theorem flipBit_length (bs : Bytes) (i : Nat) : (flipBit bs i).length = bs.length := by simp [flipBit]

/-- the loop tests its index three times for two fields (before each field and once to stop), hence the fuel -/
theorem fieldsDef_two {α β : Type} (p0 : P α) (p1 : P β) (f : Nat) (cur : Bytes) :
    fieldsDef p0 p1 (f + 3) 0 2 none none cur =
      (p0 cur).andThen fun a r1 => (p1 r1).andThen fun b r2 => .ok (some a, some b) r2 := by
  rw [fieldsDef, if_neg (by decide), if_pos rfl]
  cases p0 cur with
  | err e => rfl
  | ok a r1 =>
    rw [Res.andThen_ok, Res.andThen_ok, fieldsDef, if_neg (by decide), if_neg (by decide), if_pos rfl]
    cases p1 r1 with
    | err e => rfl
    | ok b r2 => rw [Res.andThen_ok, Res.andThen_ok, fieldsDef, if_pos (by decide)]

/-- the model's fuel `r.length + 1` covers the three tests of `fieldsDef_two` when two bytes remain (`hl`) -/
theorem structArray2_two {α β : Type} (p0 : P α) (p1 : P β) (cur r : Bytes) (ha : array cur = .ok (some 2) r)
    (hl : 2 ≤ r.length) :
    structArray2 p0 p1 cur = (p0 r).andThen fun a r1 => (p1 r1).map fun b => (a, b) := by
  obtain ⟨f, hf⟩ : ∃ f, r.length + 1 = f + 3 := ⟨r.length - 2, by omega⟩
  rw [structArray2, ha, Res.andThen_ok]
  show (fieldsDef p0 p1 (r.length + 1) 0 2 none none r).andThen _ = _
  rw [hf, fieldsDef_two]
  cases p0 r with
  | err e => rfl
  | ok a r1 =>
    show ((p1 r1).andThen _).andThen _ = Res.map _ (p1 r1)
    cases p1 r1 <;> rfl

def AddrDistr.wf : AddrDistr → Prop
  | .singleKey h => h.length = 28
  | .bootstrapEra => True

def AddrAttr.wf : AddrAttr → Prop
  | .addrDistr d => d.wf
  | .derivationPath b => b.length < 2 ^ 64
  | .networkTag b => b.length < 2 ^ 64

def AddressPayload.wf (p : AddressPayload) : Prop :=
  p.root.length = 28 ∧ (∀ a ∈ p.attributes, a.wf) ∧ p.attributes.length < 2 ^ 64 ∧ p.addrtype < 2 ^ 32

theorem hash28_enc (h r : Bytes) (hl : h.length = 28) : hash28 (encBytes h ++ r) = .ok h r := by
  simp [hash28, bytes_enc h r (by omega), hl]

theorem addrDistr_rt (d : AddrDistr) (hw : d.wf) (r : Bytes) : AddrDistr.dec (d.enc ++ r) = .ok d r := by
  cases d
  all_goals
    simp only [AddrDistr.wf] at hw
    simp [AddrDistr.dec, AddrDistr.enc, List.append_assoc, array_enc, Minicbor.u32, uintN_enc, hash28_enc, hw]

theorem addrAttr_rt : RTon cAddrAttr AddrAttr.wf := by
  intro a hw r
  cases a
  all_goals
    simp only [AddrAttr.wf] at hw
    simp [cAddrAttr, AddrAttr.dec, AddrAttr.enc, List.append_assoc, Minicbor.u8, uintN_enc, addrDistr_rt, bytes_enc, hw]

/-- a well-formed definite head of major type `m` (the same proposition as `Cbor.Head.definite h m`) -/
def headOk (h : Head) (m : Nat) : Prop := h.wf = true ∧ h.major = m ∧ h.ai ≠ 31

/-- an address written with the given heads for the array, the tag, the byte string and the checksum -/
def encWith (ha ht hb hc : Head) (payload : Bytes) : Bytes :=
  ha.encode ++ (ht.encode ++ (hb.encode ++ (payload ++ hc.encode)))

theorem byronAddress_dec_encWith (ha ht hb hc : Head) (payload r : Bytes)
    (h1 : headOk ha 4) (h1v : ha.val = 2) (h2 : headOk ht 6) (h3 : headOk hb 2) (h3v : hb.val = payload.length)
    (h4 : headOk hc 0) :
    ByronAddress.dec (encWith ha ht hb hc payload ++ r) =
      if hc.val < 2 ^ 32 then .ok ⟨payload, hc.val⟩ r else .err .overflow := by
  have e0 : TagWrap.dec cBytes (ht.encode ++ (hb.encode ++ (payload ++ (hc.encode ++ r)))) = .ok payload (hc.encode ++ r) := by
    rw [TagWrap.dec, tag_head ht _ h2]; exact bytes_head hb payload _ h3 h3v
  have ea : array (ha.encode ++ (ht.encode ++ (hb.encode ++ (payload ++ (hc.encode ++ r))))) =
      .ok (some 2) (ht.encode ++ (hb.encode ++ (payload ++ (hc.encode ++ r)))) :=
    h1v ▸ seqHead_head 4 ha _ h1
  have hlen : 2 ≤ (ht.encode ++ (hb.encode ++ (payload ++ (hc.encode ++ r)))).length := by
    have := Head.encode_length_pos ht; have := Head.encode_length_pos hb
    simp only [List.length_append]; omega
  rw [ByronAddress.dec, encWith, List.append_assoc, List.append_assoc, List.append_assoc, List.append_assoc,
    structArray2_two _ _ _ _ ea hlen, e0, Res.andThen_ok, Minicbor.u32, uintN_head 32 hc r h4]
  split <;> rfl

theorem byronAddress_dec_enc (a : ByronAddress) (r : Bytes) (hp : a.payload.length < 2 ^ 64) (hc : a.crc < 2 ^ 32) :
    ByronAddress.dec (a.enc ++ r) = .ok a r := by
  have hcr : a.crc < 2 ^ 64 := Nat.lt_trans hc (by decide)
  have h := byronAddress_dec_encWith (minHead 4 2) (minHead 6 24) (minHead 2 a.payload.length) (minHead 0 a.crc)
    a.payload r (Head.definite.minHead 4 2 (by omega)) (minHead_val 4 2 (by omega))
    (Head.definite.minHead 6 24 (by omega)) (Head.definite.minHead 2 _ (by omega)) (minHead_val 2 _ hp)
    (Head.definite.minHead 0 _ (by omega))
  rw [minHead_val 0 _ hcr, if_pos hc] at h
  have e : a.enc = encWith (minHead 4 2) (minHead 6 24) (minHead 2 a.payload.length) (minHead 0 a.crc) a.payload := by
    simp [ByronAddress.enc, encWith, TagWrap.enc, cBytes, encArrayHead, encTag, encBytes, encUInt, encHead]
  rw [e]; exact h

theorem fromBytes_enc (a : ByronAddress) (hp : a.payload.length < 2 ^ 64) (hc : a.crc < 2 ^ 32) :
    fromBytes a.enc = if crc32 a.payload = a.crc then .ok a else .error (.cbor .msg) := by
  have hd := byronAddress_dec_enc a [] hp hc
  rw [List.append_nil] at hd
  simp only [fromBytes, hd, ite_not]

end PallasVerif.Byron
