import PallasVerif.Proofs.FlatBits
/-!
  The decoder of `Model/Flat.lean` seen as a reader of a bit string. A state with `used_bits < 8` is a
  buffer and a cursor (`Dec.cursor`, in bits); `Dec.rem` is the unread bits and `d.dropBits k` the state
  `k` bits further on, which is where every call that consumed `k` bits leaves the decoder. The two calls
  that touch bytes bit-wise, `bit` and `bits8`, are given in these terms. The block loop of `byte_array`
  works on whole bytes, as the Rust does, and is given by one equation per way a round can go.
-/
namespace PallasVerif.Flat

def Dec.cursor (d : Dec) : Nat := 8 * d.pos + d.used

def Dec.rem (d : Dec) : List Bool := (bitsOf d.buf).drop d.cursor

theorem Dec.rem_length (d : Dec) : d.rem.length = 8 * d.buf.length - d.cursor := by
  simp [Dec.rem]

theorem Dec.length_le_of_rem {d : Dec} {l rest : List Bool} (h : d.rem = l ++ rest) :
    l.length ≤ 8 * d.buf.length - d.cursor := by
  rw [← Dec.rem_length, h, List.length_append]
  exact Nat.le_add_right _ _

theorem Dec.rem_split (d : Dec) (hp : d.pos < d.buf.length) (hu : d.used ≤ 8) :
    d.rem = (byteBits d.buf[d.pos]).drop d.used ++ bitsOf (d.buf.drop (d.pos + 1)) := by
  unfold Dec.rem Dec.cursor
  rw [← List.drop_drop, bitsOf_drop, List.drop_eq_getElem_cons hp, bitsOf_cons,
    List.drop_append_of_le_length (by simpa using hu)]

theorem Dec.dropBits_buf (d : Dec) (k : Nat) : (d.dropBits k).buf = d.buf := rfl

theorem Dec.dropBits_used (d : Dec) (k : Nat) : (d.dropBits k).used < 8 := Nat.mod_lt _ (by decide)

theorem Dec.dropBits_cursor (d : Dec) (k : Nat) : (d.dropBits k).cursor = d.cursor + k := by
  simp only [Dec.dropBits, Dec.cursor]
  omega

theorem Dec.incBit_eq (d : Dec) (hu : d.used < 8) : d.incBit = d.dropBits 1 := by
  simp only [Dec.incBit, Dec.dropBits]
  split
  · next h7 => simp [h7]
  · congr 1 <;> omega

theorem Dec.eq_dropBits {d d' : Dec} {k : Nat} (h1 : d'.buf = d.buf) (h2 : d'.used < 8)
    (h3 : d'.cursor = d.cursor + k) : d' = d.dropBits k := by
  cases d'
  simp only [Dec.cursor] at h1 h2 h3
  simp only [Dec.dropBits, Dec.mk.injEq, h1, true_and]
  omega

theorem Dec.dropBits_zero (d : Dec) (hu : d.used < 8) : d.dropBits 0 = d :=
  (Dec.eq_dropBits rfl hu rfl).symm

theorem Dec.dropBits_dropBits (d : Dec) (k m : Nat) : (d.dropBits k).dropBits m = d.dropBits (k + m) :=
  Dec.eq_dropBits rfl (Dec.dropBits_used _ _) (by rw [Dec.dropBits_cursor, Dec.dropBits_cursor, Nat.add_assoc])

theorem Dec.rem_dropBits {d : Dec} {l rest : List Bool} (h : d.rem = l ++ rest) :
    (d.dropBits l.length).rem = rest := by
  rw [Dec.rem, Dec.dropBits_cursor, ← List.drop_drop]
  exact (congrArg (List.drop l.length) h).trans (List.drop_left' rfl)

theorem Dec.dropBits_all {d : Dec} {l : List Bool} (h : d.rem = l) (hl : 0 < l.length) :
    (d.dropBits l.length).pos = d.buf.length ∧ (d.dropBits l.length).used = 0 := by
  have hr := d.rem_length
  have hc := d.dropBits_cursor l.length
  have hu := d.dropBits_used l.length
  rw [h] at hr
  simp only [Dec.cursor] at hr hc
  omega

theorem Dec.dropBits_bytes (d : Dec) (h0 : d.used = 0) (m : Nat) :
    d.dropBits (8 * m) = { d with pos := d.pos + m } := by
  simp only [Dec.dropBits, h0, Dec.mk.injEq, true_and]
  omega

theorem Dec.bit_eq (d : Dec) (hu : d.used < 8) :
    d.bit = match d.rem with
      | [] => .err .eob d
      | b :: _ => .ok b (d.dropBits 1) := by
  by_cases hp : d.pos < d.buf.length
  · have hs := Dec.rem_split d hp (by omega)
    rw [List.drop_eq_getElem_cons (by simpa using hu), getElem_byteBits] at hs
    rw [hs, ← Dec.incBit_eq d hu]
    simp only [Dec.bit, show ¬ d.pos ≥ d.buf.length by omega, if_false, List.getElem?_eq_getElem hp,
      show ¬ d.used ≥ 8 by omega, and_bit_ne_zero _ hu]
    rfl
  · have hr : d.rem = [] := List.eq_nil_of_length_eq_zero (by rw [Dec.rem_length, Dec.cursor]; omega)
    rw [hr]
    simp only [Dec.bit, ge_iff_le, show d.buf.length ≤ d.pos by omega, if_true]

theorem Dec.ensureBits_iff (d : Dec) (n : Nat) : d.ensureBits n = true ↔ d.cursor + n ≤ 8 * d.buf.length := by
  simp only [Dec.ensureBits, Dec.cursor, decide_eq_true_eq]
  omega

theorem Dec.ensureBytes_iff (d : Dec) (k : Nat) : d.ensureBytes k = true ↔ d.pos + k ≤ d.buf.length := by
  simp only [Dec.ensureBytes, decide_eq_true_eq]
  omega

theorem Dec.bits8_of_short (d : Dec) (n : Nat) (hn1 : 1 ≤ n) (hn : n ≤ 8)
    (he : 8 * d.buf.length < d.cursor + n) : d.bits8 n = .err (.bits n) d := by
  simp only [Dec.bits8, show ¬ n > 8 by omega, show ¬ n = 0 by omega, Dec.ensureBits_iff,
    show ¬ d.cursor + n ≤ 8 * d.buf.length by omega, if_false, not_false_eq_true, if_true]

theorem Dec.bits8_of_enough (d : Dec) (hu : d.used < 8) (n : Nat) (hn1 : 1 ≤ n) (hn : n ≤ 8)
    (he : d.cursor + n ≤ 8 * d.buf.length) :
    ∃ x, d.bits8 n = .ok x (d.dropBits n) ∧ byteBits x = List.replicate (8 - n) false ++ d.rem.take n := by
  have he' := (d.ensureBits_iff n).mpr he
  simp only [Dec.cursor] at he
  have hp : d.pos < d.buf.length := by omega
  have hs := Dec.rem_split d hp (by omega)
  unfold Dec.bits8
  simp only [show ¬ n > 8 by omega, if_false, show ¬ n = 0 by omega, he', not_true_eq_false,
    show ¬ d.used > 8 by omega, List.getElem?_eq_getElem hp, show ¬ (d.used ≥ 8 ∨ 8 - n ≥ 8) by omega]
  split
  · next hn2 =>
    have hp1 : d.pos + 1 < d.buf.length := by omega
    simp only [List.getElem?_eq_getElem hp1, show ¬ (8 - d.used + (8 - n) ≥ 8) by omega, if_false]
    refine ⟨_, rfl, ?_⟩
    rw [hs, List.drop_eq_getElem_cons hp1, bitsOf_cons, ← List.append_assoc,
      List.take_append_of_le_length (by simp; omega)]
    exact bits8_val_two d.used n hn _ _
  · next hn2 =>
    refine ⟨_, rfl, ?_⟩
    rw [hs, List.take_append_of_le_length (by simp; omega)]
    -- all `n` bits come from the current byte: the two-byte value with nothing or-ed in
    have := bits8_val_two d.used n hn d.buf[d.pos] 0#8
    rwa [BitVec.zero_ushiftRight, BitVec.or_zero, List.take_append_of_le_length (by simp; omega)] at this

theorem Dec.blkLoop_zero (fuel : Nat) (d : Dec) (acc : List Byte) :
    Dec.blkLoop (fuel + 1) d 0 acc = .ok acc d := by
  simp only [Dec.blkLoop, if_true]

theorem Dec.blkLoop_short (fuel : Nat) (d : Dec) (blkLen : Nat) (acc : List Byte) (h0 : blkLen ≠ 0)
    (h : d.buf.length ≤ d.pos + blkLen) :
    Dec.blkLoop (fuel + 1) d blkLen acc = .err (.bytes (blkLen + 1)) d := by
  simp only [Dec.blkLoop, h0, if_false, Dec.ensureBytes_iff, show ¬ d.pos + (blkLen + 1) ≤ d.buf.length by omega,
    not_false_eq_true, if_true]

/-- one block: `blk_len` bytes are copied and the next length byte `b` is read -/
theorem Dec.blkLoop_step (fuel : Nat) (d : Dec) (blkLen : Nat) (acc : List Byte) (b : Byte) (h0 : blkLen ≠ 0)
    (hb : d.buf[d.pos + blkLen]? = some b) :
    Dec.blkLoop (fuel + 1) d blkLen acc =
      Dec.blkLoop fuel { d with pos := d.pos + blkLen + 1 } b.toNat (acc ++ (d.buf.drop d.pos).take blkLen) := by
  have hlt : d.pos + blkLen < d.buf.length := (List.getElem?_eq_some_iff.mp hb).1
  simp only [Dec.blkLoop, h0, if_false, Dec.ensureBytes_iff, show d.pos + (blkLen + 1) ≤ d.buf.length by omega,
    not_true_eq_false, show ¬ d.pos + blkLen > d.buf.length by omega, hb]

theorem Dec.byteArray_enter (d : Dec) (b : Byte) (h0 : d.used = 0) (hb : d.buf[d.pos]? = some b) :
    d.byteArray = Dec.blkLoop (d.buf.length - d.pos + 1) { d with pos := d.pos + 1 } b.toNat [] := by
  have hlt : d.pos < d.buf.length := (List.getElem?_eq_some_iff.mp hb).1
  simp only [Dec.byteArray, h0, ne_eq, not_true_eq_false, if_false, Dec.ensureBytes_iff,
    show d.pos + 1 ≤ d.buf.length by omega, hb]

end PallasVerif.Flat
