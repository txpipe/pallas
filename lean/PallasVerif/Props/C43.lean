import PallasVerif.Proofs.ChunkReader
import PallasVerif.Props.C42
import PallasVerif.Model.ImmutableDbFiles
/-!
# C43 — Immutable-DB readers report corrupted files as errors

`Model/ChunkReader.lean` transcribes the primary-index, secondary-index and chunk readers over
files given as byte lists, as the code stands after the two commits `fix: hardano chunk reader
rejects decreasing offsets and reads no more than the file holds` and `fix: hardano secondary index
reader rejects an entry offset behind the read position`. In that model a reader's outcome is a
list of blocks / errors by construction — the two subtraction sites are `checkedSub` — so the
content of the property is carried by:

* `blocks_within_file` — for **arbitrary** index contents and file lengths every yielded block is a
  slice of the chunk file, the slices lie one after another, and together they are no longer than
  what is left of the file: nothing is ever allocated beyond the file;
* `secondary_never_seeks_back` — every secondary entry is read at or after the end of the
  previous one (the seek distance is never negative);
* `fixed_refines_unfixed_chunk`, `fixed_refines_unfixed_secondary` — on every input on which the
  readers before those commits (`Unfixed`: their unchecked subtractions are a panic, `none`, and their
  eager `vec![0; delta]` a recorded allocation) finish, the readers after them return the same items:
  the two commits change nothing but the failure mode;
* `unfixed_chunk_panics_at_witness`, `unfixed_secondary_panics_at_witness`,
  `unfixed_allocates_beyond_file_at_witness` — the code before the commits panics / asks for memory
  unrelated to the file size at concrete corrupted indexes (DESIGN §6 #28 and the second site
  named by the property, `current - start`);
* `intact_slicing`, `intact_roundtrip` — on an intact index (offsets = running sums of the block
  lengths) the chunk reader yields exactly the blocks; and byte for byte: a primary index file
  without empty slots, a secondary index file with one 56-byte entry per block and the chunk file
  made of the blocks are read back, through all three readers, as exactly the blocks;
* `damaged_db_total`, `intact_db_from_files` — the composed model (`Model/ImmutableDbFiles.lean`: the
  directory level of C42 over what these file readers deliver, chunks that fail to open included):
  for arbitrary bytes in every file `read_blocks_from_point` / `get_tip` return a result or an error;
  and for intact files, end to end from index bytes to the returned suffix, the reads are the ones
  C42 specifies.

Not modelled: OS read errors other than end of file, the `u32` relative-slot counter of the primary
reader (overflows only on a primary index above 16 GiB), the directory listing.
-/
namespace PallasVerif.Props.C43
open PallasVerif.ChunkReader PallasVerif.Proofs.ChunkReader

variable {β : Type}

def blockBytes : List (BlockItem β) → Nat
  | [] => 0
  | .block b :: t => b.length + blockBytes t
  | _ :: t => blockBytes t

/-- the blocks are consecutive slices `c[a₁..a₁+n₁], c[a₂..], …` with `pos ≤ a₁`, `aᵢ + nᵢ ≤ aᵢ₊₁`; a read error
    may leave the position anywhere further on (a short read stops at the end of the file), an index
    error does not move it -/
inductive SlicesFrom (c : List β) : Nat → List (BlockItem β) → Prop
  | nil (pos : Nat) : SlicesFrom c pos []
  | block (pos start : Nat) (n : Nat) (t : List (BlockItem β)) :
      pos ≤ start → SlicesFrom c (start + n) t → SlicesFrom c pos (.block ((c.drop start).take n) :: t)
  | readErr (pos pos' : Nat) (t : List (BlockItem β)) : pos ≤ pos' → SlicesFrom c pos' t → SlicesFrom c pos (.readErr :: t)
  | indexErr (pos : Nat) (t : List (BlockItem β)) : SlicesFrom c pos t → SlicesFrom c pos (.indexErr :: t)

/-- one `read_middle_block`: a slice taken at the position, or a read error; the position only moves forward -/
theorem readMiddle_slices (c : List β) (pos off : Nat) (t : List (BlockItem β)) :
    SlicesFrom c (readMiddle c pos off).2 t → SlicesFrom c pos ((readMiddle c pos off).1 :: t) := by
  unfold readMiddle
  cases checkedSub off pos with
  | none => exact .readErr pos pos _ (Nat.le_refl _)
  | some delta =>
    dsimp only
    split
    · exact .block pos pos delta _ (Nat.le_refl _)
    · exact .readErr pos _ _ (Nat.le_add_right _ _)

theorem chunkItems_slices (c : List β) (pos : Nat) (sec : List SecItem) :
    SlicesFrom c pos (chunkItems c pos sec) := by
  fun_induction chunkItems c pos sec with
  -- no item left: the rest of the file
  | case1 pos =>
    unfold readLast
    rw [← List.take_length (l := c.drop pos)]
    exact .block pos pos _ [] (Nat.le_refl _) (.nil _)
  -- `.inconsistent`
  | case2 pos => exact .indexErr pos [] (.nil _)
  -- `.entry off`
  | case3 pos off rest r ih => exact readMiddle_slices c pos off _ ih

theorem slices_bytes_le (c : List β) (pos : Nat) (items : List (BlockItem β)) (h : SlicesFrom c pos items) :
    blockBytes items ≤ c.length - pos := by
  induction h with
  | nil pos => exact Nat.zero_le _
  | block pos start n t hle _ ih =>
    -- the block has at most `n` bytes, all of them after `start`, and the rest fits after `start + n`
    have hb : ((c.drop start).take n).length ≤ n := by rw [List.length_take]; exact Nat.min_le_left ..
    have hb' : ((c.drop start).take n).length ≤ c.length - start := by
      rw [List.length_take, List.length_drop]; exact Nat.min_le_right ..
    simp only [blockBytes]
    omega
  | readErr pos pos' t hle _ ih => exact Nat.le_trans ih (Nat.sub_le_sub_left hle _)
  | indexErr pos t _ ih => exact ih

/-- a corrupted offset can produce errors or fewer / shorter blocks, never memory unrelated to the file -/
theorem blocks_within_file (p s : Bytes) (c : List β) (items : List (BlockItem β))
    (h : readChunk p s c = some items) : SlicesFrom c 0 items ∧ blockBytes items ≤ c.length := by
  obtain ⟨sec, -, rfl⟩ := Option.map_eq_some_iff.1 h
  have hs : SlicesFrom c 0 (chunkBlocksOf c sec) := by
    unfold chunkBlocksOf
    cases sec with
    | nil => exact .nil 0
    | cons _ rest => exact chunkItems_slices c 0 rest
  exact ⟨hs, slices_bytes_le c 0 _ hs⟩

/-- positions at which entries are read by `secondaryItems`, in order -/
def readPositions (s : Bytes) : Nat → List Nat → List Nat
  | _, [] => []
  | pos, cur :: rest =>
    match checkedSub cur pos with
    | none => []
    | some _ => if cur + 56 ≤ s.length then cur :: readPositions s (cur + 56) rest else []

theorem secondary_never_seeks_back (s : Bytes) (pos : Nat) (occ : List Nat) :
    (readPositions s pos occ).Pairwise (fun a b => a + 56 ≤ b) ∧ ∀ a ∈ readPositions s pos occ, pos ≤ a := by
  fun_induction readPositions s pos occ with
  -- `checkedSub cur pos = some _` and the entry lies inside the file: `cur` is read; every other arm reads nothing
  | case3 pos cur rest d hs _ ih =>
    have hle := (checkedSub_some _ _ _ hs).1
    refine ⟨List.Pairwise.cons ih.2 ih.1, fun a ha => ?_⟩
    rcases List.mem_cons.mp ha with rfl | e
    · exact hle
    · exact Nat.le_trans hle (Nat.le_trans (Nat.le_add_right _ _) (ih.2 a e))
  | _ => simp

namespace Unfixed

/-- what a run of the readers before the two commits yields when it does not panic (a panic, `a - b`
    with `a < b` under overflow checks, is the `none` of the functions below): the items, and in
    `alloc` the largest `vec![0u8; delta]` requested -/
structure Run (α : Type) where
  items : List α
  alloc : Nat

/-- `read_middle_block` before the commit: `next_offset - start` unchecked, `vec![0u8; delta]`, `read_exact` -/
def readMiddle (c : List β) (pos nextOffset : Nat) : Option (BlockItem β × Nat × Nat) :=
  if nextOffset < pos then none
  else
    let delta := nextOffset - pos
    let got := (c.drop pos).take delta
    if got.length = delta then some (.block got, pos + delta, delta) else some (.readErr, pos + got.length, delta)

def chunkItems (c : List β) : Nat → List SecItem → Option (Run (BlockItem β))
  | pos, [] => some ⟨[readLast c pos], 0⟩
  | _, .inconsistent :: _ => some ⟨[.indexErr], 0⟩
  | pos, .entry off :: rest =>
    match readMiddle c pos off with
    | none => none
    | some (item, pos', a) =>
      match chunkItems c pos' rest with
      | none => none
      | some r => some ⟨item :: r.items, max a r.alloc⟩

/-- `secondary::Reader::next` before the commit: `current as u64 - start` unchecked -/
def secondaryItems (s : Bytes) : Nat → List Nat → Option (List SecItem)
  | _, [] => some []
  | pos, cur :: rest =>
    if cur < pos then none
    else if cur + 56 ≤ s.length then
      (secondaryItems s (cur + 56) rest).map (fun t => .entry (beNat ((s.drop cur).take 8)) :: t)
    else some [.inconsistent]

end Unfixed

theorem unfixed_readMiddle_eq (c : List β) (pos off : Nat) :
    Unfixed.readMiddle c pos off =
      if off < pos then none else some ((readMiddle c pos off).1, (readMiddle c pos off).2, off - pos) := by
  unfold Unfixed.readMiddle readMiddle checkedSub
  by_cases h : off < pos
  · rw [if_pos h, if_pos h]
  · rw [if_neg h, if_neg h, if_pos (Nat.le_of_not_lt h)]
    dsimp only
    split <;> rfl

theorem fixed_refines_unfixed_chunk (c : List β) (pos : Nat) (sec : List SecItem) (r : Unfixed.Run (BlockItem β))
    (h : Unfixed.chunkItems c pos sec = some r) : chunkItems c pos sec = r.items := by
  fun_induction Unfixed.chunkItems c pos sec generalizing r with
  -- no item left / an `.inconsistent` one: the same single item on both sides
  | case1 | case2 => cases h; rfl
  -- `.entry off` and `readMiddle` panics / the rest of the run does
  | case3 | case4 => cases h
  -- `.entry off`, `readMiddle` and the rest of the run finish
  | case5 pos off rest item pos' a hm r' hr ih =>
    cases h
    rw [unfixed_readMiddle_eq] at hm
    split at hm
    · cases hm
    · cases hm; rw [chunkItems, ih r' hr]

theorem fixed_refines_unfixed_secondary (s : Bytes) (pos : Nat) (occ : List Nat) (items : List SecItem)
    (h : Unfixed.secondaryItems s pos occ = some items) : secondaryItems s pos occ = items := by
  fun_induction Unfixed.secondaryItems s pos occ generalizing items with
  -- no offset left
  | case1 => cases h; rfl
  -- `cur < pos`: the panic
  | case2 => cases h
  -- `pos ≤ cur` and the entry lies inside the file
  | case3 pos cur rest hge hl ih =>
    obtain ⟨t, ht, rfl⟩ := Option.map_eq_some_iff.1 h
    rw [secondaryItems_cons s rest (Nat.le_of_not_lt hge) hl, ih t ht]
  -- `pos ≤ cur` and the file ends before the entry does: `.inconsistent`
  | case4 pos cur rest hge hl =>
    cases h
    simp only [secondaryItems, checkedSub, if_pos (Nat.le_of_not_lt hge), if_neg hl]

/-- DESIGN §6 #28: a secondary offset of 0 for the third block — the `Unfixed` chunk reader computes
    `0 - 3` and panics; `chunkItems` reports a read error and goes on -/
theorem unfixed_chunk_panics_at_witness :
    Unfixed.chunkItems [1, 2, 3, 4, 5] 0 [.entry 3, .entry 0] = none ∧
    chunkItems [1, 2, 3, 4, 5] 0 [.entry 3, .entry 0] = [.block [1, 2, 3], .readErr, .block [4, 5]] := by
  decide

/-- the second subtraction named by the property: two occupied primary offsets closer than one
    entry (0 and 10) make the `Unfixed` secondary reader compute `10 - 56` -/
theorem unfixed_secondary_panics_at_witness :
    Unfixed.secondaryItems (List.replicate 112 0) 0 [0, 10] = none ∧
    secondaryItems (List.replicate 112 0) 0 [0, 10] = [.entry 0, .inconsistent] := by
  decide

/-- an offset of `2^64 - 1`: the `Unfixed` reader asks for that many bytes for a 5-byte file -/
theorem unfixed_allocates_beyond_file_at_witness :
    (Unfixed.chunkItems [1, 2, 3, 4, 5] 0 [.entry 18446744073709551615]).map (·.alloc) = some 18446744073709551615 ∧
    chunkItems [1, 2, 3, 4, 5] 0 [.entry 18446744073709551615] = [.readErr, .block []] := by
  constructor
  · simp [Unfixed.chunkItems, Unfixed.readMiddle, readLast]
  · simp [chunkItems, readMiddle, checkedSub, readLast]

/-- end offsets of the blocks: running sums of the lengths from `pos`. The start offsets, which the
    secondary index holds, are `pos ::` these without the last. -/
def startsFrom (pos : Nat) : List (List β) → List Nat
  | [] => []
  | b :: t => (pos + b.length) :: startsFrom (pos + b.length) t

theorem startsFrom_length (pos : Nat) (bs : List (List β)) : (startsFrom pos bs).length = bs.length := by
  induction bs generalizing pos with
  | nil => rfl
  | cons b t ih => simp [startsFrom, ih]

theorem mem_startsFrom_le (pos : Nat) (bs : List (List β)) (x : Nat) (h : x ∈ startsFrom pos bs) :
    x ≤ pos + bs.flatten.length := by
  induction bs generalizing pos with
  | nil => simp [startsFrom] at h
  | cons b t ih =>
    simp only [startsFrom, List.mem_cons] at h
    simp only [List.flatten_cons, List.length_append]
    rcases h with e | e
    · omega
    · have := ih _ e; omega

/-- `pre` is what has been read already and grows along the induction -/
theorem chunkItems_intact (pre b : List β) (rest : List (List β)) :
    chunkItems (pre ++ (b :: rest).flatten) pre.length
        ((startsFrom pre.length (b :: rest)).dropLast.map .entry) = (b :: rest).map .block := by
  induction rest generalizing pre b with
  | nil =>
    simp [startsFrom, chunkItems, readLast]
  | cons b' rest ih =>
    have hrm : readMiddle (pre ++ (b :: b' :: rest).flatten) pre.length (pre.length + b.length)
        = (.block b, pre.length + b.length) := by
      simp [readMiddle, checkedSub, List.flatten_cons]
    have := ih (pre ++ b) b'
    rw [List.length_append, List.append_assoc, ← List.flatten_cons] at this
    simp only [startsFrom, List.dropLast_cons_cons, List.map_cons, chunkItems, hrm]
    rw [← startsFrom, this, List.map_cons]

theorem intact_slicing (b : List β) (rest : List (List β)) :
    chunkBlocksOf ((b :: rest).flatten) ((0 :: (startsFrom 0 (b :: rest)).dropLast).map .entry) = (b :: rest).map .block :=
  -- `Reader::open` pulls the first entry (offset `0`) as `current`; what is left is the loop from position `0` with nothing read
  chunkItems_intact [] b rest

/-- `hidx`, `hsz`: the offsets fit the `u32` of the primary and the `u64` of the secondary index -/
theorem intact_roundtrip {β : Type} (b : List β) (rest : List (List β))
    (hidx : 56 * ((b :: rest).length + 1) ≤ 256 ^ 4) (hsz : (b :: rest).flatten.length < 256 ^ 8) :
    readChunk (primaryBytes (arith 0 ((b :: rest).length + 1)))
        (secondaryBytes (0 :: (startsFrom 0 (b :: rest)).dropLast)) ((b :: rest).flatten)
      = some ((b :: rest).map BlockItem.block) := by
  unfold readChunk secondaryEntries
  rw [primaryOffsets_primaryBytes _ fun o ho => by have := mem_arith_lt 0 _ o ho; omega]
  simp only [Option.map_some, occupied_arith]
  have hstarts : (0 :: (startsFrom 0 (b :: rest)).dropLast).length = (b :: rest).length := by
    simp [startsFrom_length]
  have hb : ∀ o ∈ (0 :: (startsFrom 0 (b :: rest)).dropLast), o < 256 ^ 8 := by
    intro o ho
    rcases List.mem_cons.mp ho with e | e
    · subst e; decide
    · have := mem_startsFrom_le 0 (b :: rest) o (List.dropLast_subset _ e)
      omega
  have hs := secondaryItems_intact [] (0 :: (startsFrom 0 (b :: rest)).dropLast) hb
  simp only [List.nil_append, List.length_nil, hstarts] at hs
  rw [hs]
  exact congrArg some (intact_slicing b rest)

/-- `intact_roundtrip` for every block list: the files of an empty chunk (one primary offset, no occupied slot) read back as no block -/
theorem readChunk_intact (bs : List (List β)) (hidx : 56 * (bs.length + 1) ≤ 256 ^ 4) (hsz : bs.flatten.length < 256 ^ 8) :
    readChunk (primaryBytes (arith 0 (bs.length + 1))) (secondaryBytes (0 :: (startsFrom 0 bs).dropLast)) bs.flatten
      = some (bs.map BlockItem.block) := by
  cases bs with
  | nil => rfl
  | cons b rest => exact intact_roundtrip b rest hidx hsz

section Composed
open PallasVerif.ImmutableDb PallasVerif.Proofs.ImmutableDb
variable {H : Type}

/-- the three files of a chunk holding the blocks `bs` (encoded by `enc`), as `intact_roundtrip` builds them -/
def intactFiles (enc : Block H → List β) (bs : List (Block H)) : ImmutableDbFiles.ChunkFiles β :=
  let blocks := bs.map enc
  { primary := primaryBytes (arith 0 (blocks.length + 1))
    secondary := secondaryBytes (0 :: (startsFrom 0 blocks).dropLast)
    chunk := blocks.flatten }

theorem chunkOf_intact (enc : Block H → List β) (decode : List β → Option (Block H)) (hdec : ∀ b, decode (enc b) = some b)
    (bs : List (Block H))
    (hidx : 56 * (bs.length + 1) ≤ 256 ^ 4) (hsz : ((bs.map enc).flatten).length < 256 ^ 8) :
    ImmutableDbFiles.chunkOf decode (intactFiles enc bs) = some (C42.toChunk bs) := by
  unfold ImmutableDbFiles.chunkOf intactFiles
  rw [readChunk_intact (bs.map enc) (by rwa [List.length_map]) hsz, Option.map_some, List.map_map, List.map_map]
  exact congrArg some (List.map_congr_left fun x _ => by simp only [Function.comp, ImmutableDbFiles.itemOf, hdec])

variable [DecidableEq H]

/-- any bytes in any file, any behaviour of the block decoder on what is sliced out: the file readers
    yield items (their model has no failing arithmetic left), the binary search stays in bounds and
    terminates, the peek loop ends -/
theorem damaged_db_total (decode : List β → Option (Block H)) (files : List (ImmutableDbFiles.ChunkFiles β))
    (slot : Nat) (hash : Option H) :
    ImmutableDbFiles.readBlocksFromPoint decode files slot hash ≠ .panic ∧
    ImmutableDbFiles.getTip decode files ≠ .panic := by
  constructor
  · exact readBlocksFromPointF_ne_panic _ slot hash
  · exact getTipF_ne_panic _

/-- intact files are read as the chunks they hold, every one of them open -/
theorem intactFiles_reads (enc : Block H → List β) (decode : List β → Option (Block H)) (hdec : ∀ b, decode (enc b) = some b)
    (chunks : List (List (Block H)))
    (hidx : ∀ c ∈ chunks, 56 * (c.length + 1) ≤ 256 ^ 4) (hsz : ∀ c ∈ chunks, ((c.map enc).flatten).length < 256 ^ 8)
    (slot : Nat) (hash : Option H) :
    ImmutableDbFiles.readBlocksFromPoint decode (chunks.map (intactFiles enc)) slot hash =
      readBlocksFromPoint (chunks.map C42.toChunk) slot hash ∧
    ImmutableDbFiles.readBlocks decode (chunks.map (intactFiles enc)) = readBlocks (chunks.map C42.toChunk) ∧
    ImmutableDbFiles.getTip decode (chunks.map (intactFiles enc)) = getTip (chunks.map C42.toChunk) := by
  have hdb : ImmutableDbFiles.dbOf decode (chunks.map (intactFiles enc)) = (chunks.map C42.toChunk).map some := by
    unfold ImmutableDbFiles.dbOf
    rw [List.map_map, List.map_map]
    exact List.map_congr_left fun c hc => chunkOf_intact enc decode hdec c (hidx c hc) (hsz c hc)
  unfold ImmutableDbFiles.readBlocksFromPoint ImmutableDbFiles.readBlocks ImmutableDbFiles.getTip
  rw [hdb]
  exact ⟨readBlocksFromPointF_some _ slot hash, readBlocksF_some _, getTipF_some _⟩

/-- **End to end on intact files** (any encoding `enc` the block decoder inverts, index files without empty
    slots): the reads are C42's, through the byte-level index parsers, the chunk slicing, the binary
    search and the peek loop together. -/
theorem intact_db_from_files (enc : Block H → List β) (decode : List β → Option (Block H)) (hdec : ∀ b, decode (enc b) = some b)
    (db : List (List (Block H))) (newest : List (Block H))
    (hne : ∀ c ∈ db ++ [newest], c ≠ []) (hsorted : C42.Sorted db.flatten)
    (hidx : ∀ c ∈ db ++ [newest], 56 * (c.length + 1) ≤ 256 ^ 4) (hsz : ∀ c ∈ db ++ [newest], ((c.map enc).flatten).length < 256 ^ 8)
    (pre post : List (Block H)) (b : Block H) (hchain : db.flatten = pre ++ b :: post) :
    ImmutableDbFiles.readBlocksFromPoint decode ((db ++ [newest]).map (intactFiles enc)) b.slot (some b.hash)
      = .ok ((b :: post).map Item.blk) ∧
    ImmutableDbFiles.readBlocks decode ((db ++ [newest]).map (intactFiles enc)) = db.flatten.map Item.blk ∧
    ImmutableDbFiles.getTip decode ((db ++ [newest]).map (intactFiles enc)) = .ok db.flatten.getLast? := by
  have hint : C42.Intact ((db ++ [newest]).map C42.toChunk) db := by
    refine ⟨?_, fun c hc => hne c (by simp [hc]), hsorted⟩
    simp [List.map_append]
  obtain ⟨h1, h2, h3⟩ := intactFiles_reads enc decode hdec (db ++ [newest]) hidx hsz b.slot (some b.hash)
  rw [h1, h2, h3]
  exact ⟨C42.from_existing_point _ db hint pre post b hchain, (C42.read_all _ db hint).1, C42.tip_is_last _ db hint⟩
end Composed

example : readChunk [1, 0,0,0,0, 0,0,0,56, 0,0,0,112] (List.replicate 56 0 ++ ([0,0,0,0,0,0,0,2] ++ List.replicate 48 0)) [7, 8, 9]
    = some [.block [7, 8], .block [9]] := by decide
example : readChunk ([] : Bytes) [] [7, 8, 9] = none := by decide
example : readChunk (primaryBytes (arith 0 3)) (secondaryBytes [0, 2]) [7, 8, 9] = some [.block [7, 8], .block [9]] :=
  intact_roundtrip [7, 8] [[9]] (by decide) (by decide)
example : occupied [0, 0, 56, 56, 56, 112] = [0, 56] := by decide
example : startsFrom 0 [[1, 2], [3], [4, 5, 6]] = [2, 3, 6] := by decide

end PallasVerif.Props.C43
