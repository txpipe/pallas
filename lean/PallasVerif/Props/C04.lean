import PallasVerif.Model.ConwayValue
import PallasVerif.Proofs.Minicbor
/-!
# C04 — Decoded numeric wrappers never violate their declared ranges

Model: `PositiveCoin.dec` / `NonZeroInt.dec` of `Model/CborWrappers.lean` (utils.rs after
`fix: PositiveCoin rejects zero when decoding`; `NonZeroInt` already rejected zero) and the Conway
layouts that embed them, `Model/ConwayValue.lean` (`Value` through `codec_by_datatype!`,
`Mint = Multiasset<NonZeroInt>` through minicbor's `BTreeMap` decoder, `donation: Option<PositiveCoin>`).

Statements, for **all** byte strings (no bound on length, nesting, number of policies / assets, head
widths, definite or indefinite maps):
* a decoded wrapper is never zero and is inside the Rust type's range;
* it satisfies exactly what the checked constructor (`try_from`) checks;
* every encoding of zero (any head width) is rejected, with the `message` error class;
* the same for every quantity inside a decoded `Value`, `Mint`, and for the `donation` field: a post-condition of the leaf
  decoder (`Ensures`) survives the element loops and the `BTreeMap` rebuild (inductions, first section); single `andThen` /
  `map` / `datatype()` steps are inverted in place.
-/
namespace PallasVerif.ConwayValue
open PallasVerif.Cbor PallasVerif.Minicbor

def Ensures {α : Type} (p : P α) (Q : α → Prop) : Prop := ∀ cur a r, p cur = .ok a r → Q a

theorem _root_.PallasVerif.Minicbor.Run.all {α : Type} {p : P α} {Q : α → Prop} (h : Ensures p Q) {cur r : Bytes} {xs : List α}
    (hr : Run p cur xs r) : ∀ x ∈ xs, Q x := by
  induction hr with
  | nil => exact nofun
  | cons e _ ih => exact List.forall_mem_cons.mpr ⟨h _ _ _ e, ih⟩

theorem iterCollect_ensures {α : Type} (p : P α) (Q : α → Prop) (h : Ensures p Q) (len : Option Nat) :
    Ensures (iterCollect p len) (fun xs => ∀ x ∈ xs, Q x) :=
  fun _ _ _ e => (iterCollect_run e).elim fun _ hr => hr.all h

theorem mapIter_ensures {α β : Type} (k : P α) (v : P β) (Q : β → Prop) (h : Ensures v Q) :
    Ensures (mapIter k v) (fun xs => ∀ p ∈ xs, Q p.2) := by
  intro cur xs r e
  simp only [mapIter] at e
  obtain ⟨len, r1, _, e2⟩ := Res.andThen_eq_ok e
  have hp : Ensures (pairOf k v) (fun p => Q p.2) := by
    intro c p r' e'
    simp only [pairOf] at e'
    obtain ⟨a, r2, _, e4⟩ := Res.andThen_eq_ok e'
    obtain ⟨b, e5, rfl⟩ := Res.map_eq_ok e4
    exact h r2 b r' e5
  exact iterCollect_ensures _ _ hp len r1 xs r e2

theorem mem_bmInsert {β : Type} {k : Bytes} {v : β} {p : Bytes × β} :
    ∀ {m : List (Bytes × β)}, p ∈ bmInsert k v m → p = (k, v) ∨ p ∈ m
  | [], h => .inl (List.mem_singleton.mp h)
  | (k', v') :: rest, h => by
    rw [bmInsert] at h
    split at h
    · exact List.mem_cons.mp h
    · split at h
      · exact (List.mem_cons.mp h).elim (fun e => .inr (e ▸ List.mem_cons_self)) fun h' =>
          (mem_bmInsert h').imp id (List.mem_cons_of_mem _)
      · exact (List.mem_cons.mp h).imp id (List.mem_cons_of_mem _)

/-- the rebuilt map holds only pairs that were read -/
theorem bmOfList_subset {β : Type} (xs : List (Bytes × β)) : ∀ p ∈ bmOfList xs, p ∈ xs := by
  suffices ∀ (xs acc : List (Bytes × β)), ∀ p ∈ xs.foldl (fun m p => bmInsert p.1 p.2 m) acc, p ∈ acc ∨ p ∈ xs from
    fun p hp => (this xs [] p hp).resolve_left List.not_mem_nil
  intro xs
  induction xs with
  | nil => exact fun _ _ h => .inl h
  | cons x rest ih =>
    intro acc p h
    rcases ih _ p h with h1 | h1
    · exact (mem_bmInsert h1).elim (fun e => .inr (e ▸ List.mem_cons_self)) .inl
    · exact .inr (List.mem_cons_of_mem _ h1)

theorem btreeMap_ensures {β : Type} (k : P Bytes) (v : P β) (Q : β → Prop) (h : Ensures v Q) :
    Ensures (btreeMap k v) (fun m => ∀ p ∈ m, Q p.2) := by
  intro cur m r e
  simp only [btreeMap] at e
  obtain ⟨xs, e1, rfl⟩ := Res.map_eq_ok e
  exact fun p hp => mapIter_ensures k v Q h cur xs r e1 p (bmOfList_subset xs p hp)

theorem multiasset_ensures {α : Type} (q : P α) (Q : α → Prop) (h : Ensures q Q) :
    Ensures (multiasset q) (fun m => ∀ x ∈ quantities m, Q x) := by
  intro cur m r e
  have h1 := btreeMap_ensures hash28 (btreeMap Minicbor.bytes q) _ (btreeMap_ensures Minicbor.bytes q Q h) cur m r e
  intro x hx
  simp only [quantities, List.mem_flatMap, List.mem_map] at hx
  obtain ⟨p, hp, a, ha, rfl⟩ := hx
  exact h1 p hp a ha

end PallasVerif.ConwayValue

namespace PallasVerif.Props.C04
open PallasVerif.Cbor PallasVerif.Minicbor PallasVerif.Wrappers PallasVerif.ConwayValue

/-- decoding never produces `PositiveCoin(0)`; what it produces is a `u64` in `1..=u64::MAX` -/
theorem positiveCoin_decoded_nonzero (bs : Bytes) (n : Nat) (r : Bytes) (h : PositiveCoin.dec bs = .ok n r) :
    n ≠ 0 ∧ n < 2 ^ 64 := by
  obtain ⟨m, r1, e1, e2⟩ := Res.andThen_eq_ok h
  by_cases hz : m = 0
  · rw [if_pos hz] at e2; cases e2
  · rw [if_neg hz] at e2; cases e2
    cases bs with
    | nil => cases e1
    | cons b t => exact ⟨hz, (uintN_inv 64 b t _ _ e1).2.2⟩

/-- decoding never produces `NonZeroInt(0)`; what it produces is an `i64` other than 0 -/
theorem nonZeroInt_decoded_nonzero (bs : Bytes) (i : Int) (r : Bytes) (h : NonZeroInt.dec bs = .ok i r) :
    i ≠ 0 ∧ -(2 ^ 63 : Int) ≤ i ∧ i < 2 ^ 63 := by
  obtain ⟨m, r1, e1, e2⟩ := Res.andThen_eq_ok h
  by_cases hz : m = 0
  · rw [if_pos hz] at e2; cases e2
  · rw [if_neg hz] at e2; cases e2
    exact ⟨hz, sintN_inv 64 bs _ _ e1⟩

/-- a value obtained from bytes passes the checked constructor: same invariant on both paths -/
theorem decoded_satisfies_checked_constructor :
    (∀ bs n r, PositiveCoin.dec bs = .ok n r → PositiveCoin.tryFrom n = some n) ∧
    (∀ bs i r, NonZeroInt.dec bs = .ok i r → NonZeroInt.tryFrom i = some i) := by
  constructor
  · intro bs n r h; simp [PositiveCoin.tryFrom, (positiveCoin_decoded_nonzero bs n r h).1]
  · intro bs i r h; simp [NonZeroInt.tryFrom, (nonZeroInt_decoded_nonzero bs i r h).1]

/-- every encoding of zero as an unsigned integer (`00`, `18 00`, `19 0000`, …) is rejected with a
    decode error of class `message` -/
theorem zero_encodings_rejected :
    (∀ bs r, Minicbor.u64 bs = .ok 0 r → PositiveCoin.dec bs = .err .msg) ∧
    (∀ bs r, Minicbor.i64 bs = .ok 0 r → NonZeroInt.dec bs = .err .msg) := by
  constructor
  · intro bs r h; simp [PositiveCoin.dec, h]
  · intro bs r h; simp [NonZeroInt.dec, h]

/-- and nothing else is lost: a non-zero `u64` / `i64` encoding is accepted unchanged -/
theorem nonzero_encodings_accepted :
    (∀ bs n r, Minicbor.u64 bs = .ok n r → n ≠ 0 → PositiveCoin.dec bs = .ok n r) ∧
    (∀ bs i r, Minicbor.i64 bs = .ok i r → i ≠ 0 → NonZeroInt.dec bs = .ok i r) := by
  constructor
  · intro bs n r h hn; simp [PositiveCoin.dec, h, hn]
  · intro bs i r h hi; simp [NonZeroInt.dec, h, hi]

/-- every asset quantity of a decoded Conway `Value` is a non-zero `u64` -/
theorem value_quantities_nonzero (bs : Bytes) (v : Value) (r : Bytes) (h : value bs = .ok v r) :
    ∀ q ∈ v.quantities, q ≠ 0 ∧ q < 2 ^ 64 := by
  obtain ⟨ty, _, h⟩ := datatype_dispatch h
  dsimp only at h
  split at h
  · -- an array: the fields `coin, multiasset` after `d.array()?`
    obtain ⟨len, r1, _, e2⟩ := Res.andThen_eq_ok h
    obtain ⟨c, r2, _, e4⟩ := Res.andThen_eq_ok e2
    obtain ⟨m, e5, rfl⟩ := Res.map_eq_ok e4
    exact multiasset_ensures PositiveCoin.dec _ positiveCoin_decoded_nonzero r2 m r e5
  · -- the arm `U8 | U16 | U32 | U64 => Coin` holds no quantity; no other datatype has an arm
    simp only [byDatatypeArms] at h
    split at h
    · obtain ⟨c, _, rfl⟩ := Res.map_eq_ok h
      intro q hq; simp [Value.quantities] at hq
    · cases h

/-- every quantity of a decoded Conway `Mint` is a non-zero `i64` -/
theorem mint_quantities_nonzero (bs : Bytes) (m : Multiasset Int) (r : Bytes) (h : mint bs = .ok m r) :
    ∀ q ∈ quantities m, q ≠ 0 ∧ -(2 ^ 63 : Int) ≤ q ∧ q < 2 ^ 63 :=
  multiasset_ensures NonZeroInt.dec _ nonZeroInt_decoded_nonzero bs m r h

/-- a decoded `donation` field is absent or a non-zero `u64` -/
theorem donation_nonzero (bs : Bytes) (n : Nat) (r : Bytes) (h : donation bs = .ok (some n) r) :
    n ≠ 0 ∧ n < 2 ^ 64 := by
  obtain ⟨ty, _, h⟩ := datatype_dispatch h
  split at h
  · obtain ⟨_, _, hv⟩ := Res.map_eq_ok h; cases hv
  · obtain ⟨m, e, hv⟩ := Res.map_eq_ok h
    cases hv
    exact positiveCoin_decoded_nonzero bs n r e

/-- the derived decoder that was there before the fix violates the property at `00` -/
theorem positiveCoin_before_fix_fails_at_witness :
    ¬ (∀ bs n r, PositiveCoin.decBefore bs = .ok n r → n ≠ 0) := by
  intro h
  exact h [0x00] 0 [] rfl rfl

/-- only a plain unsigned head is ever accepted as a `PositiveCoin`: whatever follows it, an input
    that starts with any other initial byte (negative int, byte/text string, array, map, **tag** —
    e.g. an RFC 8949 bignum `c2 40` —, simple, float, break) is rejected. So there is no alternative
    encoding through which a zero (or anything else) could enter. -/
theorem positiveCoin_accepts_only_uint_heads (b : UInt8) (rest : Bytes) (hb : 0x1b < b.toNat) :
    ∀ n r, PositiveCoin.dec (b :: rest) ≠ .ok n r := by
  intro n r h
  have hb' : ¬ b.toNat ≤ 0x1b := by omega
  simp only [PositiveCoin.dec, Minicbor.u64, Minicbor.uintN, hb', if_false] at h
  simp [Res.andThen] at h

/-- the same for `NonZeroInt`: only major types 0 and 1 with a width ≤ 8 bytes are accepted -/
theorem nonZeroInt_accepts_only_int_heads (b : UInt8) (rest : Bytes)
    (hb : ¬ b.toNat ≤ 0x1b) (hb2 : ¬ (0x20 ≤ b.toNat ∧ b.toNat ≤ 0x3b)) :
    ∀ i r, NonZeroInt.dec (b :: rest) ≠ .ok i r := by
  intro i r h
  simp only [NonZeroInt.dec, Minicbor.i64, Minicbor.sintN, hb, hb2, if_false] at h
  simp [Res.andThen] at h

/-! ## non-vacuity -/

-- an RFC 8949 bignum (tag 2 / 3 over a byte string) is not an alternative encoding
example : PositiveCoin.dec [0xc2, 0x40] = .err .typ := by decide +kernel
example : PositiveCoin.dec [0xc2, 0x41, 0x00] = .err .typ := by decide +kernel
example : NonZeroInt.dec [0xc3, 0x40] = .err .typ := by decide +kernel

example : PositiveCoin.dec [0x01] = .ok 1 [] := rfl
example : PositiveCoin.dec [0x00] = .err .msg := rfl
example : PositiveCoin.dec [0x19, 0x00, 0x00] = .err .msg := by decide +kernel
example : NonZeroInt.dec [0x20] = .ok (-1) [] := rfl
example : NonZeroInt.dec [0x00] = .err .msg := rfl
example : donation [0xf6] = .ok none [] := rfl
example : donation [0x00] = .err .msg := rfl
/-- a `Value` with one policy, one asset named `00`, quantity 7 — and the same with quantity 0 is rejected -/
example : (value ([0x82, 0x05, 0xa1, 0x58, 0x1c] ++ List.replicate 28 0x11 ++ [0xa1, 0x41, 0x00, 0x07])).map Value.quantities
    = .ok [7] [] := by decide +kernel
example : (value ([0x82, 0x05, 0xa1, 0x58, 0x1c] ++ List.replicate 28 0x11 ++ [0xa1, 0x41, 0x00, 0x00])).map Value.quantities
    = .err .msg := by
  decide +kernel

end PallasVerif.Props.C04
