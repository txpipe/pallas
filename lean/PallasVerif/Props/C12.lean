import PallasVerif.Model.KesBytes
import PallasVerif.Proofs.HashBytes
import PallasVerif.Proofs.LittleEndian
import PallasVerif.Gen.KesConsts
/-!
# C12 — KES keys sign verifiably for exactly their current period   (partial)

The first five items are about the key tree of `Model/Kes.lean` (the `sum_kes!` / `sum_compact_kes!` macros transcribed
for an arbitrary depth `d`, parametric in the primitives) and hold for every depth — induction on `d`, there is no
bound at 7 —, every seed, period and message:

* `evolve_keygen` / `period_after_updates` — a key evolved `t < 2^d` times is the closed form
  `keyAt d s t` and reports period `t`;
* `pk_invariant` — its public key (`to_pk`) is the one `keygen` returned;
* `update_fails_iff` — evolution of that key fails exactly when `t = 2^d − 1`;
* `verify_own_period`, `cverify_own_period` — its signature verifies at period `t` under that key
  (hypothesis `BaseCorrect`: the base scheme accepts its own signatures. For the byte instance `conc` the base
  verifier is `verifyStrict`, the ed25519-dalek `verify_strict`; that it accepts `Ed25519.sign` is proved nowhere —
  C11's sign-then-verify theorem is about the cryptoxide `verify`);
* `verify_other_period_fails`, `cverify_other_period_fails` — it fails at every other period
  `p < 2^d`. **Idealisation, stated as explicit hypotheses and not as axioms:** the pair hash is
  injective (`HashInj`), a base signature verifies only under its maker's key (`SigIdeal`, sum
  construction only) and the `2^d` leaf keys of this tree are pairwise different (`LeavesDistinct`).
  Concretely: "fails unless there is a BLAKE2b-256 collision among the ≤ 2^(d+1) node keys of this
  tree or an Ed25519 signature that verifies under a different leaf key of the tree". The symbolic
  instance `sym` (free hash, free key derivation, ideal signature) satisfies all of them, so the theorems are not
  vacuous and hold unconditionally there (`sym_verify_iff`, `sym_cverify_iff`);
* `sumSig_bytes_roundtrip`, `cSig_bytes_roundtrip` — signatures round-trip through bytes.
* `gen_unknowns`, `gen_constants`, `gen_sizes`, `gen_instantiations` — the size formulas, constants and the
  macro instantiation chain *regenerated from the pallas sources on every run* (`lib/translate_kes.py` →
  `Gen/KesConsts.lean`) are the model's; `keyBytes_length` / `skBytes_length` — the model's key buffer has
  `32 + 96·d (+ 4)` bytes at every period.
* the `_refines` theorems and `evolveBytes_keygen` — the second, slice-level transcription (`Model/KesBytes.lean`:
  in-place writes at byte offsets, sub-slices, the zeroing done by `split_slice`, the big-endian period) computes, on
  the layout `keyBytes`, exactly the tree operations — so `keygen` followed by `t` `update`s leaves
  `skBytes (keyAt d seed t)` in the buffer, for every depth.

Not proved: the hypotheses for the concrete BLAKE2b/Ed25519 instance (they are cryptographic
assumptions). That the slice-level transcription is what the Rust does is checked on every run by
comparing the real key buffer with it after `keygen` and after every `update`.
-/
namespace PallasVerif.Props.C12
open PallasVerif.Kes
open PallasVerif.Blake2b (blake2b256 blit)

variable (P : Prims)

theorem pkTree_succ (d : Nat) (s : P.Seed) :
    pkTree P (d + 1) s = P.h2 (pkTree P d (P.split s).1) (pkTree P d (P.split s).2) := rfl

theorem keyAt_left (d : Nat) (s : P.Seed) (t : Nat) (h : t < 2 ^ d) :
    keyAt P (d + 1) s t =
      .node (keyAt P d (P.split s).1 t) (some (P.split s).2) (pkTree P d (P.split s).1) (pkTree P d (P.split s).2) := by
  simp only [keyAt, if_pos h]

theorem keyAt_right (d : Nat) (s : P.Seed) (t : Nat) (h : ¬ t < 2 ^ d) :
    keyAt P (d + 1) s t =
      .node (keyAt P d (P.split s).2 (t - 2 ^ d)) none (pkTree P d (P.split s).1) (pkTree P d (P.split s).2) := by
  simp only [keyAt, if_neg h]

theorem keyAt_zero (d : Nat) (s : P.Seed) : keyAt P d s 0 = (keygen P d s).1 := by
  induction d generalizing s with
  | zero => rfl
  | succ d ih => rw [keyAt_left P d s 0 (Nat.two_pow_pos d), ih]; rfl

theorem update_keyAt (d : Nat) (s : P.Seed) (t : Nat) (h : t + 1 < 2 ^ d) :
    update P d (keyAt P d s t) t = some (keyAt P d s (t + 1)) := by
  induction d generalizing s t with
  | zero => exact absurd h (by omega)
  | succ d ih =>
    have hp := Nat.two_pow_succ d
    have hne : ¬ t + 1 = 2 ^ (d + 1) := by omega
    by_cases h1 : t < 2 ^ d
    · rw [keyAt_left P d s t h1, update, if_neg hne]
      by_cases h2 : t + 1 < 2 ^ d
      · rw [if_pos h2, ih _ _ h2, keyAt_left P d s _ h2]; rfl
      · -- crossing into the right half: its key is freshly generated from the stored seed
        have h3 : t + 1 = 2 ^ d := by omega
        rw [if_neg h2, if_pos h3, keyAt_right P d s _ h2, h3, Nat.sub_self, keyAt_zero]; rfl
    · have h2 : ¬ t + 1 < 2 ^ d := by omega
      have h3 : ¬ t + 1 = 2 ^ d := by omega
      rw [keyAt_right P d s t h1, update, if_neg hne, if_neg h2, if_neg h3, ih _ _ (by omega),
        keyAt_right P d s _ h2, show t + 1 - 2 ^ d = t - 2 ^ d + 1 by omega]
      rfl

theorem update_fails_at_end (d : Nat) (s : P.Seed) :
    update P d (keyAt P d s (2 ^ d - 1)) (2 ^ d - 1) = none := by
  cases d with
  | zero => rfl
  | succ d =>
    have hp := Nat.two_pow_succ d
    have : 0 < 2 ^ d := Nat.two_pow_pos d
    rw [keyAt_right P d s _ (by omega), update, if_pos (by omega)]

/-- `n` successive `KesSk::update` calls (`none` as soon as one fails) -/
def evolve (k : SK P) : Nat → Option (SK P)
  | 0 => some k
  | n + 1 => (evolve k n).bind (skUpdate P)

theorem evolve_keygen (d : Nat) (s : P.Seed) (t : Nat) (ht : t < 2 ^ d) :
    evolve P (skKeygen P d s).1 t = some { depth := d, key := keyAt P d s t, period := t } := by
  induction t with
  | zero => rw [evolve, keyAt_zero]; rfl
  | succ t ih =>
    simp only [evolve, ih (by omega), Option.bind_some, skUpdate]
    rw [update_keyAt P d s t ht]; rfl

theorem period_after_updates (d : Nat) (s : P.Seed) (t : Nat) (ht : t < 2 ^ d) :
    (evolve P (skKeygen P d s).1 t).map (·.period) = some t := by
  rw [evolve_keygen P d s t ht]; rfl

theorem toPk_keyAt (d : Nat) (s : P.Seed) (t : Nat) : toPk P (keyAt P d s t) = pkTree P d s := by
  cases d with
  | zero => rfl
  | succ d => simp only [keyAt]; split <;> rfl

theorem pk_invariant (d : Nat) (s : P.Seed) (t : Nat) (ht : t < 2 ^ d) :
    (evolve P (skKeygen P d s).1 t).map (fun k => toPk P k.key) = some (skKeygen P d s).2 := by
  rw [evolve_keygen P d s t ht, Option.map_some, toPk_keyAt]; rfl

theorem update_fails_iff (d : Nat) (s : P.Seed) (t : Nat) (ht : t < 2 ^ d) :
    (evolve P (skKeygen P d s).1 (t + 1) = none) ↔ t = 2 ^ d - 1 := by
  simp only [evolve, evolve_keygen P d s t ht, Option.bind_some, skUpdate]
  constructor
  · intro h
    by_cases h1 : t + 1 < 2 ^ d
    · rw [update_keyAt P d s t h1] at h; simp at h
    · omega
  · intro h; subst h; rw [update_fails_at_end]; rfl

/-- the base scheme accepts its own signatures -/
def BaseCorrect : Prop := ∀ (s : P.Seed) (m : Bytes), P.bverify (P.leafPk s) m (P.bsign s m) = true

theorem verify_own_period (hc : BaseCorrect P) (d : Nat) (s : P.Seed) (t : Nat) (m : Bytes) :
    verify P d (sign P (keyAt P d s t) m) t (pkTree P d s) m = true := by
  induction d generalizing s t with
  | zero => exact hc s m
  | succ d ih =>
    by_cases h1 : t < 2 ^ d <;> simp [keyAt, h1, sign, verify, pkTree_succ, ih]

/-- closed form of the compact signature made at period `t` -/
def csigAt : Nat → P.Seed → Nat → Bytes → CSig P
  | 0, s, _, m => .leaf (P.bsign s m) (P.leafPk s)
  | d + 1, s, t, m =>
    if t < 2 ^ d then .node (csigAt d (P.split s).1 t m) (pkTree P d (P.split s).2)
    else .node (csigAt d (P.split s).2 (t - 2 ^ d) m) (pkTree P d (P.split s).1)

theorem csign_keyAt (d : Nat) (s : P.Seed) (t : Nat) (m : Bytes) :
    csign P d (keyAt P d s t) m t = some (csigAt P d s t m) := by
  induction d generalizing s t with
  | zero => rfl
  | succ d ih =>
    by_cases h1 : t < 2 ^ d <;> simp [keyAt, h1, csign, csigAt, ih]

theorem recompute_own (hc : BaseCorrect P) (d : Nat) (s : P.Seed) (t : Nat) (m : Bytes) :
    recompute P d (csigAt P d s t m) t m = some (pkTree P d s) := by
  induction d generalizing s t with
  | zero => simp [csigAt, recompute, hc s m, pkTree, keygen]
  | succ d ih =>
    by_cases h1 : t < 2 ^ d <;> simp [csigAt, h1, recompute, ih, pkTree_succ]

theorem cverify_own_period (hc : BaseCorrect P) (d : Nat) (s : P.Seed) (t : Nat) (m : Bytes) :
    (csign P d (keyAt P d s t) m t).map (fun sg => cverify P d sg t (pkTree P d s) m) = some true := by
  rw [csign_keyAt]; simp [cverify, recompute_own P hc]

def HashInj : Prop := ∀ a b c e : P.Pk, P.h2 a b = P.h2 c e → a = c ∧ b = e
def SigIdeal : Prop := ∀ (pk : P.Pk) (s : P.Seed) (m : Bytes), P.bverify pk m (P.bsign s m) = true → pk = P.leafPk s
def LeavesDistinct (d : Nat) (s : P.Seed) : Prop :=
  ∀ p t, p < 2 ^ d → t < 2 ^ d → p ≠ t → P.leafPk (leafSeed P d s p) ≠ P.leafPk (leafSeed P d s t)

/-- a signature made with the key `k` verifies under `k`'s own public key only (`SigIdeal` is needed at depth 0 only:
    a node signature carries the subtree keys, which `verify` hashes) -/
theorem verify_true_pk (hs : SigIdeal P) (d : Nat) (k : Key P) (p : Nat) (pk : P.Pk) (m : Bytes)
    (h : verify P d (sign P k m) p pk m = true) : pk = toPk P k := by
  match d, k with
  | 0, .leaf s => exact hs pk s m h
  | d + 1, .node a sr pk0 pk1 =>
    rw [sign, verify] at h
    split at h
    · exact absurd h Bool.false_ne_true
    · next hh => exact (Decidable.not_not.mp hh).symm
  | 0, .node .. | _ + 1, .leaf _ => exact absurd h Bool.false_ne_true

/-- the base signature at the leaf of a sum signature -/
def leafSig : SumSig P → P.Sig
  | .leaf σ => σ
  | .node sg _ _ => leafSig sg

theorem leafSig_sign (d : Nat) (s : P.Seed) (t : Nat) (m : Bytes) :
    leafSig P (sign P (keyAt P d s t) m) = P.bsign (leafSeed P d s t) m := by
  induction d generalizing s t with
  | zero => rfl
  | succ d ih => by_cases h1 : t < 2 ^ d <;> simp [keyAt, h1, sign, leafSig, leafSeed, ih]

/-- soundness of the verifier against *any* signature: what is accepted at period `p` under the key of the tree grown
    from `s`, the base scheme accepts under that tree's leaf key of period `p` (`HashInj` opens the Merkle path) -/
theorem verify_sound (hi : HashInj P) (d : Nat) (sg : SumSig P) (s : P.Seed) (p : Nat) (pk : P.Pk) (m : Bytes)
    (hpk : pk = pkTree P d s) (h : verify P d sg p pk m = true) :
    P.bverify (P.leafPk (leafSeed P d s p)) m (leafSig P sg) = true := by
  fun_induction verify P d sg p pk m generalizing s with
  | case1 => subst hpk; exact h
  -- the carried keys `l`, `r` do not hash to `pk`
  | case2 => exact absurd h Bool.false_ne_true
  | case3 d sg l r p pk m hh hp ih =>
    rw [leafSeed, leafSig, if_pos hp]
    exact ih _ (hi _ _ _ _ ((Decidable.not_not.mp hh).trans hpk)).1 h
  | case4 d sg l r p pk m hh hp ih =>
    rw [leafSeed, leafSig, if_neg hp]
    exact ih _ (hi _ _ _ _ ((Decidable.not_not.mp hh).trans hpk)).2 h
  -- the shape of the signature does not match the depth
  | case5 => exact absurd h Bool.false_ne_true

theorem verify_other_period_fails (hi : HashInj P) (hs : SigIdeal P) (d : Nat) (s : P.Seed)
    (hd : LeavesDistinct P d s) (t p : Nat) (ht : t < 2 ^ d) (hp : p < 2 ^ d) (hne : p ≠ t) (pk : P.Pk) (m : Bytes) :
    verify P d (sign P (keyAt P d s t) m) p pk m = false := by
  cases hv : verify P d (sign P (keyAt P d s t) m) p pk m with
  | false => rfl
  | true =>
    cases (verify_true_pk P hs d _ p pk m hv).trans (toPk_keyAt P d s t)
    -- the leaf signature is the one of period `t`, accepted under the leaf key of period `p`
    exact absurd (hs _ _ m (leafSig_sign P d s t m ▸ verify_sound P hi d _ s p _ m rfl hv)) (hd p t hp ht hne)

/-- the leaf key a compact signature carries -/
def leafKey : CSig P → P.Pk
  | .leaf _ pk => pk
  | .node sg _ => leafKey sg

theorem leafKey_csigAt (d : Nat) (s : P.Seed) (t : Nat) (m : Bytes) :
    leafKey P (csigAt P d s t m) = P.leafPk (leafSeed P d s t) := by
  induction d generalizing s t with
  | zero => rfl
  | succ d ih => by_cases h1 : t < 2 ^ d <;> simp [csigAt, h1, leafKey, leafSeed, ih]

/-- the compact analogue of `verify_sound`: a compact signature that recomputes, at period `p`, to the key of the tree
    grown from `s` carries that tree's leaf key of period `p` -/
theorem recompute_sound (hi : HashInj P) (d : Nat) (sg : CSig P) (s : P.Seed) (p : Nat) (m : Bytes)
    (h : recompute P d sg p m = some (pkTree P d s)) : leafKey P sg = P.leafPk (leafSeed P d s p) := by
  fun_induction recompute P d sg p m generalizing s with
  -- depth 0: the base signature verifies under the carried key (case1) or not (case2)
  | case1 => exact Option.some.inj h
  | case2 => exact absurd h nofun
  | case3 d sg pk p m hp ih =>
    obtain ⟨k, hk, he⟩ := Option.map_eq_some_iff.mp h
    rw [leafSeed, if_pos hp]; exact ih _ (hk.trans (congrArg some (hi _ _ _ _ he).1))
  | case4 d sg pk p m hp ih =>
    obtain ⟨k, hk, he⟩ := Option.map_eq_some_iff.mp h
    rw [leafSeed, if_neg hp]; exact ih _ (hk.trans (congrArg some (hi _ _ _ _ he).2))
  -- the shape of the signature does not match the depth
  | case5 => exact absurd h nofun

theorem cverify_other_period_fails (hi : HashInj P) (d : Nat) (s : P.Seed)
    (hd : LeavesDistinct P d s) (t p : Nat) (ht : t < 2 ^ d) (hp : p < 2 ^ d) (hne : p ≠ t) (m : Bytes) :
    (csign P d (keyAt P d s t) m t).map (fun sg => cverify P d sg p (pkTree P d s) m) = some false := by
  rw [csign_keyAt, Option.map_some, cverify]
  split
  · next k hr =>
    have : k ≠ pkTree P d s := fun e =>
      hd p t hp ht hne ((recompute_sound P hi d _ s p m (e ▸ hr)).symm.trans (leafKey_csigAt P d s t m))
    rw [decide_eq_false this]
  · rfl

theorem sym_hashInj : HashInj sym := by
  intro a b c e h; exact PkT.h2.inj h

theorem sym_sigIdeal : SigIdeal sym := by
  intro pk s m h
  exact (of_decide_eq_true h).1

theorem sym_baseCorrect : BaseCorrect sym := by
  intro s m; simp

theorem leafSeed_under (d : Nat) (s : Path) (q : Nat) : s <+: leafSeed sym d s q := by
  induction d generalizing s q with
  | zero => exact List.prefix_refl _
  | succ d ih =>
    simp only [leafSeed]; split
    · exact List.IsPrefix.trans (List.prefix_append s [Dir.L]) (ih _ _)
    · exact List.IsPrefix.trans (List.prefix_append s [Dir.R]) (ih _ _)

theorem not_under_both (s x y : Path) (h1 : s ++ [Dir.R] <+: x) (h2 : s ++ [Dir.L] <+: y) (h : x <+: y) : False := by
  obtain ⟨a, ha⟩ := List.IsPrefix.trans h1 h
  obtain ⟨b, hb⟩ := h2
  have : (s ++ [Dir.R]) ++ a = (s ++ [Dir.L]) ++ b := by rw [ha, hb]
  simp [List.append_assoc] at this

theorem sides_differ (s x y : Path) (h1 : s ++ [Dir.L] <+: x) (h2 : s ++ [Dir.R] <+: y) : x ≠ y :=
  fun e => not_under_both s y x h2 h1 (e ▸ List.prefix_refl _)

theorem sym_leafSeed_injective (d : Nat) (s : Path) (p t : Nat) (hp : p < 2 ^ d) (ht : t < 2 ^ d) (hne : p ≠ t) :
    leafSeed sym d s p ≠ leafSeed sym d s t := by
  induction d generalizing s p t with
  | zero => simp at hp ht; omega
  | succ d ih =>
    have h2 := Nat.two_pow_succ d
    by_cases h1 : p < 2 ^ d <;> by_cases h3 : t < 2 ^ d <;> simp only [leafSeed, h1, h3, ↓reduceIte]
    · exact ih _ _ _ h1 h3 hne
    · exact sides_differ s _ _ (leafSeed_under d _ _) (leafSeed_under d _ _)
    · exact (sides_differ s _ _ (leafSeed_under d _ _) (leafSeed_under d _ _)).symm
    · exact ih _ _ _ (by omega) (by omega) (by omega)

theorem sym_leavesDistinct (d : Nat) (s : Path) : LeavesDistinct sym d s := by
  intro p t hp ht hne h
  exact sym_leafSeed_injective d s p t hp ht hne (PkT.leaf.inj h)

theorem sym_verify_iff (d : Nat) (s : Path) (t p : Nat) (ht : t < 2 ^ d) (hp : p < 2 ^ d) (m : Bytes) :
    verify sym d (sign sym (keyAt sym d s t) m) p (pkTree sym d s) m = decide (p = t) := by
  by_cases h : p = t
  · subst h; simp [verify_own_period sym sym_baseCorrect]
  · simp [h, verify_other_period_fails sym sym_hashInj sym_sigIdeal d s (sym_leavesDistinct d s) t p ht hp h]

theorem sym_cverify_iff (d : Nat) (s : Path) (t p : Nat) (ht : t < 2 ^ d) (hp : p < 2 ^ d) (m : Bytes) :
    (csign sym d (keyAt sym d s t) m t).map (fun sg => cverify sym d sg p (pkTree sym d s) m) = some (decide (p = t)) := by
  by_cases h : p = t
  · subst h; simp [cverify_own_period sym sym_baseCorrect]
  · simp [h, cverify_other_period_fails sym sym_hashInj d s (sym_leavesDistinct d s) t p ht hp h]

/-- a sum signature as `from_bytes` can produce it: 64-byte Ed25519 signature, 32-byte keys -/
def SumShape : Nat → SumSig conc → Prop
  | 0, .leaf s => s.length = 64
  | d + 1, .node sg l r => SumShape d sg ∧ l.length = 32 ∧ r.length = 32
  | _, _ => False

theorem sumSigBytes_length (d : Nat) (sg : SumSig conc) (h : SumShape d sg) :
    (sumSigBytes sg).length = 64 + 64 * d := by
  fun_induction SumShape d sg with
  | case1 s => exact h
  | case2 d sg l r ih =>
    obtain ⟨h1, h2, h3⟩ := h
    simp only [sumSigBytes, List.length_append, ih h1, h2, h3]; omega
  | case3 => exact h.elim

/-- **`SumdKesSig::from_bytes (to_bytes sig) = sig`** -/
theorem sumSig_bytes_roundtrip (d : Nat) (sg : SumSig conc) (h : SumShape d sg) :
    sumSigOfBytes d (sumSigBytes sg) = some sg := by
  fun_induction SumShape d sg with
  | case1 s => exact if_pos h
  | case2 d sg l r ih =>
    have hlen := sumSigBytes_length (d + 1) (.node sg l r) h
    obtain ⟨h1, h2, h3⟩ := h
    have hl := sumSigBytes_length d sg h1
    have hl2 : (sumSigBytes sg ++ l).length = 64 + 64 * d + 32 := by rw [List.length_append, hl, h2]
    rw [sumSigOfBytes, if_pos hlen]
    simp only [sumSigBytes]
    rw [List.drop_left' hl2, List.append_assoc, List.take_left' hl, List.drop_left' hl, List.take_left' h2,
      ih h1]
    rfl
  | case3 => exact h.elim

/-- a compact signature as `from_bytes` can produce it (the leaf key must decompress) -/
def CShape : Nat → CSig conc → Prop
  | 0, .leaf s pk => s.length = 64 ∧ pk.length = 32 ∧ (PallasVerif.Ed25519.decodeLenient pk).isSome = true
  | d + 1, .node sg pk => CShape d sg ∧ pk.length = 32
  | _, _ => False

theorem cSigBytes_length (d : Nat) (sg : CSig conc) (h : CShape d sg) :
    (cSigBytes sg).length = 96 + 32 * d := by
  fun_induction CShape d sg with
  | case1 s pk => simp only [cSigBytes, List.length_append, h.1, h.2.1]
  | case2 d sg pk ih => simp only [cSigBytes, List.length_append, ih h.1, h.2]; omega
  | case3 => exact h.elim

/-- **`SumdCompactKesSig::from_bytes (to_bytes sig) = sig`** -/
theorem cSig_bytes_roundtrip (d : Nat) (sg : CSig conc) (h : CShape d sg) :
    cSigOfBytes d (cSigBytes sg) = some sg := by
  fun_induction CShape d sg with
  | case1 s pk =>
    have hlen := cSigBytes_length 0 (.leaf s pk) h
    obtain ⟨h1, h2, h3⟩ := h
    have e1 : (s ++ pk).take 64 = s := List.take_left' h1
    have e2 : (s ++ pk).drop 64 = pk := List.drop_left' h1
    rw [cSigOfBytes, if_pos hlen]
    simp only [cSigBytes, e1, e2, h3, ↓reduceIte]
  | case2 d sg pk ih =>
    have hlen := cSigBytes_length (d + 1) (.node sg pk) h
    have hl := cSigBytes_length d sg h.1
    rw [cSigOfBytes, if_pos hlen]
    simp only [cSigBytes]
    rw [List.take_left' hl, List.drop_left' hl, ih h.1]
    rfl
  | case3 => exact h.elim

theorem gen_unknowns : PallasVerif.Gen.KesConsts.unknowns = [] := by decide

theorem gen_constants : PallasVerif.Gen.KesConsts.individualSecretSize = 32 ∧ PallasVerif.Gen.KesConsts.sigmaSize = 64 ∧
    PallasVerif.Gen.KesConsts.publicKeySize = 32 ∧ PallasVerif.Gen.KesConsts.seedSize = 32 := by decide

/-- the `const SIZE` formulas written in the two macros are the model's sizes, for every depth -/
theorem gen_sizes (d : Nat) :
    PallasVerif.Gen.KesConsts.keySizeSum d = keySize d ∧ PallasVerif.Gen.KesConsts.keySizeCompact d = keySize d ∧
    PallasVerif.Gen.KesConsts.sigSizeSum d = sumSigSize d ∧ PallasVerif.Gen.KesConsts.sigSizeCompact d = cSigSize d := by
  open PallasVerif.Gen.KesConsts in
  simp only [keySizeSum, keySizeCompact, sigSizeSum, sigSizeCompact, individualSecretSize, publicKeySize,
    sigmaSize, keySize, sumSigSize, cSigSize]
  omega

/-- (key type, signature type, child key type, child signature type, depth, compact), as in `instantiations` -/
def chainEntry (compact : Bool) (k : Nat) : String × String × String × String × Nat × Bool :=
  let c := if compact then "Compact" else ""
  (s!"Sum{k}{c}Kes", s!"Sum{k}{c}KesSig", s!"Sum{k - 1}{c}Kes", s!"Sum{k - 1}{c}KesSig", k, compact)

/-- the macro invocations are exactly depth k on top of depth k−1 of the same construction, k = 1..7 -/
theorem gen_instantiations :
    PallasVerif.Gen.KesConsts.instantiations =
      (List.range 7).map (fun i => chainEntry false (i + 1)) ++ (List.range 7).map (fun i => chainEntry true (i + 1)) := by
  decide +kernel

theorem b256_len (x : Bytes) : (blake2b256 x).length = 32 := Blake2b.blake2b_length 32 _ (by decide)

theorem conc_pk_length (d : Nat) (s : Bytes) : (pkTree conc d s).length = 32 := by
  cases d with
  -- a leaf key is `Ed25519.publicKey s`, which unfolds to `leBytes 32 _`
  | zero => exact Ed25519.leBytes_length _ _
  | succ d => exact b256_len _

/-- a key tree of depth `d` whose seeds and public keys have 32 bytes, so that `keyBytes` lays it out at the offsets
    the slice-level code uses -/
def KeyShape : Nat → Key conc → Prop
  | 0, .leaf s => s.length = 32
  | d + 1, .node a sr pk0 pk1 => KeyShape d a ∧ (∀ s, sr = some s → s.length = 32) ∧ pk0.length = 32 ∧ pk1.length = 32
  | _, _ => False

theorem keyShape_keyAt (d : Nat) (s : Bytes) (t : Nat) (hs : s.length = 32) : KeyShape d (keyAt conc d s t) := by
  induction d generalizing s t with
  | zero => exact hs
  | succ d ih =>
    by_cases h : t < 2 ^ d
    · rw [keyAt_left conc d s t h]
      refine ⟨ih _ _ (b256_len _), ?_, conc_pk_length d _, conc_pk_length d _⟩
      intro x hx; cases hx; exact b256_len _
    · rw [keyAt_right conc d s t h]
      exact ⟨ih _ _ (b256_len _), nofun, conc_pk_length d _, conc_pk_length d _⟩

theorem keyShape_keygen (d : Nat) (s : Bytes) (hs : s.length = 32) : KeyShape d (keygen conc d s).1 :=
  keyAt_zero conc d s ▸ keyShape_keyAt d s 0 hs

/-- the seed slot of a node as `keyBytes` writes it -/
abbrev seedSlot (sr : Option Bytes) : Bytes := sr.getD (List.replicate 32 0)

theorem seedSlot_length (sr : Option Bytes) (h : ∀ s, sr = some s → s.length = 32) :
    (seedSlot sr).length = 32 := by
  cases sr with
  | none => exact List.length_replicate
  | some x => exact h x rfl

theorem keyShape_length (d : Nat) (k : Key conc) (h : KeyShape d k) : (keyBytes k).length = keySize d := by
  fun_induction KeyShape d k with
  | case1 s => exact h
  | case2 d a sr pk0 pk1 ih =>
    obtain ⟨h1, h2, h3, h4⟩ := h
    simp only [keyBytes, List.length_append, ih h1, seedSlot_length sr h2, h3, h4, keySize]
    omega
  | case3 => exact h.elim

theorem keyBytes_length (d : Nat) (s : Bytes) (t : Nat) (hs : s.length = 32) :
    (keyBytes (keyAt conc d s t)).length = keySize d :=
  keyShape_length d _ (keyShape_keyAt d s t hs)

theorem skBytes_length (d : Nat) (s : Bytes) (t : Nat) (hs : s.length = 32) :
    (skBytes { depth := d, key := keyAt conc d s t, period := t }).length = keySize d + 4 := by
  simp [skBytes, keyBytes_length d s t hs, be32]

theorem zeros32_length : zeros32.length = 32 := List.length_replicate

theorem keySize_succ (d : Nat) : keySize (d + 1) = keySize d + 96 := by simp [keySize]; omega

/-- one level of `keygen_slice` once the seed is split into `r0`, `r1`: given that depth `d` writes the layout of
    `keygen` and leaves what lies behind it alone, the four in-place writes produce `child ‖ r1 ‖ pk0 ‖ pk1`, whatever was
    in the slice -/
theorem keygenBody_refines (d : Nat) (sl r0 r1 : Bytes) (hsl : keySize d ≤ sl.length) (h0 : r0.length = 32)
    (h1 : r1.length = 32)
    (ih : ∀ sl seed : Bytes, keySize d ≤ sl.length → seed.length = 32 →
      keygenSliceSome d sl seed = (keyBytes (keygen conc d seed).1 ++ sl.drop (keySize d), (keygen conc d seed).2)) :
    keygenBody (keygenSliceSome d) (keySize d) sl r0 r1 =
      (keyBytes (keygen conc d r0).1 ++ r1 ++ (keygen conc d r0).2 ++ (keygen conc d r1).2 ++ sl.drop (keySize d + 96),
       blake2b256 ((keygen conc d r0).2 ++ (keygen conc d r1).2)) := by
  have htk : (sl.take (keySize d)).length = keySize d := List.length_take_of_le hsl
  -- the seed write leaves `sl[..SIZE]` alone
  have s1 : blit sl (keySize d) r1 = sl.take (keySize d) ++ (r1 ++ sl.drop (keySize d + 32)) := by
    rw [blit, h1, List.append_assoc]
  unfold keygenBody
  simp only [s1, List.take_left' htk, ih _ _ (Nat.le_of_eq htk.symm) h0, List.drop_of_length_le (Nat.le_of_eq htk),
    List.append_nil, ih _ _ (Nat.le_of_eq List.length_replicate.symm) h1]
  refine Prod.ext ?_ rfl
  -- each later write lands right behind what has been written so far
  have l1 := keyShape_length d _ (keyShape_keygen d r0 h0)
  have p0 : (keygen conc d r0).2.length = 32 := conc_pk_length d r0
  have p1 : (keygen conc d r1).2.length = 32 := conc_pk_length d r1
  show blit (blit (blit _ 0 _) (keySize d + 32) _) (keySize d + 64) _ = _
  rw [Blake2b.blit_zero, l1, List.drop_left' htk, ← List.append_assoc,
    Blake2b.blit_after _ _ _ _ (by rw [List.length_append, l1, h1]), p0, List.drop_drop,
    Blake2b.blit_after _ _ _ _ (by rw [List.length_append, List.length_append, l1, h1, p0]), p1, List.drop_drop]

/-- `keygen_slice(.., Some(seed))` writes the layout of `keygen` over `in_slice[..SIZE]` and touches nothing behind it
    (the `None` arm calls it on a slice that is 32 bytes longer) -/
theorem keygenSliceSome_refines (d : Nat) (sl seed : Bytes) (hsl : keySize d ≤ sl.length) (hs : seed.length = 32) :
    keygenSliceSome d sl seed = (keyBytes (keygen conc d seed).1 ++ sl.drop (keySize d), (keygen conc d seed).2) := by
  induction d generalizing sl seed with
  | zero =>
    rw [keygenSliceSome, Blake2b.blit_zero, hs]
    rfl
  | succ d ih =>
    have hk := keySize_succ d
    rw [keygenSliceSome, keygenBody_refines d sl _ _ (by omega) (b256_len _) (b256_len _) ih, ← hk]
    rfl

/-- the `None` arm takes the seed from the last 32 bytes, zeroes them and goes on as the `Some` arm -/
theorem keygenSliceNone_eq (d : Nat) (sl : Bytes) :
    keygenSliceNone d sl = keygenSliceSome d (blit sl (keySize d) zeros32) (sl.drop (keySize d)) := by
  cases d <;> rfl

theorem keygenSliceNone_refines (d : Nat) (sl : Bytes) (hsl : sl.length = keySize d + 32) :
    keygenSliceNone d sl =
      (keyBytes (keygen conc d (sl.drop (keySize d))).1 ++ zeros32, (keygen conc d (sl.drop (keySize d))).2) := by
  have htk : (sl.take (keySize d)).length = keySize d := List.length_take_of_le (by omega)
  rw [keygenSliceNone_eq, Blake2b.blit_tail _ _ _ hsl,
    keygenSliceSome_refines d _ _ (by rw [List.length_append, htk]; omega) (by rw [List.length_drop]; omega),
    List.drop_left' htk]

/-- the layout `child ‖ seed slot ‖ pk0 ‖ pk1` of a node cut at its offsets -/
structure NodeCuts (d : Nat) (a : Key conc) (sr : Option Bytes) (pk0 pk1 : Bytes) : Prop where
  take_child : (keyBytes (.node a sr pk0 pk1)).take (keySize d) = keyBytes a
  drop_child : (keyBytes (.node a sr pk0 pk1)).drop (keySize d) = seedSlot sr ++ pk0 ++ pk1
  take_seed : (keyBytes (.node a sr pk0 pk1)).take (keySize d + 32) = keyBytes a ++ seedSlot sr
  drop_seed : (keyBytes (.node a sr pk0 pk1)).drop (keySize d + 32) = pk0 ++ pk1
  drop_pk0 : (keyBytes (.node a sr pk0 pk1)).drop (keySize d + 64) = pk1

theorem node_cuts (d : Nat) (a : Key conc) (sr : Option Bytes) (pk0 pk1 : Bytes)
    (h : KeyShape (d + 1) (.node a sr pk0 pk1)) : NodeCuts d a sr pk0 pk1 := by
  obtain ⟨h1, h2, h3, -⟩ := h
  have l1 := keyShape_length d a h1
  have l2 : (keyBytes a ++ seedSlot sr).length = keySize d + 32 := by
    rw [List.length_append, l1, seedSlot_length sr h2]
  have l3 : (keyBytes a ++ seedSlot sr ++ pk0).length = keySize d + 64 := by
    rw [List.length_append, l2, h3]
  constructor <;> simp only [keyBytes]
  · rw [List.append_assoc, List.append_assoc, List.take_left' l1]
  · rw [List.append_assoc, List.append_assoc, List.drop_left' l1, List.append_assoc]
  · rw [List.append_assoc (keyBytes a ++ _), List.take_left' l2]
  · rw [List.append_assoc (keyBytes a ++ _), List.drop_left' l2]
  · exact List.drop_left' l3

theorem keyShape_update (d : Nat) (k k' : Key conc) (t : Nat) (h : KeyShape d k) (hu : update conc d k t = some k') :
    KeyShape d k' := by
  fun_induction update conc d k t generalizing k' with
  -- depth 0 and the last period: `update` fails
  | case1 => exact absurd hu nofun
  | case2 => exact absurd hu nofun
  -- the next period is in the same half: the active child is updated
  | case3 d a sr pk0 pk1 t _ _ ih | case5 d a sr pk0 pk1 t _ _ _ ih =>
    obtain ⟨a', ha, rfl⟩ := Option.map_eq_some_iff.mp hu
    exact ⟨ih a' h.1 ha, h.2⟩
  -- the next period is the first of the right half: fresh `keygen` from the seed slot
  | case4 d a sr =>
    cases hu
    exact ⟨keyShape_keygen d _ (seedSlot_length sr h.2.1), nofun, h.2.2⟩
  | case6 => exact h.elim

theorem blit_child (d : Nat) (a a' : Key conc) (sr : Option Bytes) (pk0 pk1 : Bytes) (t : Nat)
    (h : KeyShape (d + 1) (.node a sr pk0 pk1)) (hu : update conc d a t = some a') :
    blit (keyBytes (.node a sr pk0 pk1)) 0 (keyBytes a') = keyBytes (.node a' sr pk0 pk1) := by
  rw [Blake2b.blit_zero, keyShape_length d a' (keyShape_update d a a' t h.1 hu),
    (node_cuts d a sr pk0 pk1 h).drop_child, ← List.append_assoc, ← List.append_assoc]
  rfl

/-- **`update_slice` on the bytes of a key is `update` on the tree** (the three `Ordering` branches with their
    slice offsets), for every depth -/
theorem updateSlice_refines (d : Nat) (k : Key conc) (t : Nat) (h : KeyShape d k) :
    updateSlice d (keyBytes k) t = (update conc d k t).map keyBytes := by
  fun_induction update conc d k t with
  | case1 => rfl
  -- the last period
  | case2 d a sr pk0 pk1 t h1 => exact if_pos h1
  -- `Less`: the next period is still in the left half
  | case3 d a sr pk0 pk1 t h1 h2 ih =>
    rw [updateSlice, if_neg h1, if_pos h2, (node_cuts d a sr pk0 pk1 h).take_child, ih h.1, Option.map_map, Option.map_map]
    exact Option.map_congr fun a' hu => blit_child d a a' sr pk0 pk1 t h hu
  | case4 d a sr pk0 pk1 t h1 h2 h3 =>
    -- `Equal`: the child region is regenerated from the seed slot, which is zeroed
    have c := node_cuts d a sr pk0 pk1 h
    have hA := keyShape_length d a h.1
    have hS := seedSlot_length sr h.2.1
    rw [updateSlice, if_neg h1, if_neg h2, if_pos h3, c.take_seed,
      keygenSliceNone_refines d _ (by rw [List.length_append, hA, hS]), List.drop_left' hA,
      Option.map_some, Blake2b.blit_zero, List.length_append, keyShape_length d _ (keyShape_keygen d _ hS),
      zeros32_length, c.drop_seed]
    simp only [keyBytes, Option.getD_none, zeros32, List.append_assoc]
  -- `Greater`: both periods are in the right half
  | case5 d a sr pk0 pk1 t h1 h2 h3 ih =>
    rw [updateSlice, if_neg h1, if_neg h2, if_neg h3, (node_cuts d a sr pk0 pk1 h).take_child, ih h.1, Option.map_map,
      Option.map_map]
    exact Option.map_congr fun a' hu => blit_child d a a' sr pk0 pk1 _ h hu
  | case6 => exact h.elim

theorem be32_eq_beBytes (n : Nat) : be32 n = PallasVerif.Hash.beBytes 4 n := by
  have h : ∀ x, UInt8.ofNat (x % 256) = UInt8.ofNat x := fun x => UInt8.ofNat_mod_size
  simp [PallasVerif.Hash.beBytes, be32, List.range_succ, h]

theorem beNat32_be32 (n : Nat) (h : n < 2 ^ 32) : beNat32 (be32 n) = n := by
  -- `beNat32` is `Hash.beNat` of the first four bytes (by unfolding: the same fold)
  rw [be32_eq_beBytes, beNat32, List.take_of_length_le (Nat.le_of_eq (Hash.beBytes_length 4 n))]
  exact (Hash.beNat_beBytes 4 n).trans (Nat.mod_eq_of_lt h)

theorem skKeygenBytes_refines (d : Nat) (buf seed : Bytes) (hb : buf.length = keySize d + 4) (hs : seed.length = 32) :
    skKeygenBytes d buf seed = (skBytes (skKeygen conc d seed).1, (skKeygen conc d seed).2) := by
  have htk : (buf.take (keySize d)).length = keySize d := List.length_take_of_le (by omega)
  rw [skKeygenBytes, keygenSliceSome_refines d _ seed (Nat.le_of_eq htk.symm) hs,
    List.drop_of_length_le (Nat.le_of_eq htk), List.append_nil]
  rfl

theorem skUpdateBytes_refines (k : SK conc) (h : KeyShape k.depth k.key) (hp : k.period < 2 ^ 32) :
    skUpdateBytes k.depth (skBytes k) = (skUpdate conc k).map skBytes := by
  have hl := keyShape_length _ _ h
  rw [skUpdateBytes, skBytes, List.take_left' hl, List.drop_left' hl, beNat32_be32 _ hp,
    updateSlice_refines _ _ _ h, skUpdate, Option.map_map, Option.map_map]
  rfl

theorem evolveBytes_keygen (d : Nat) (buf seed : Bytes) (t : Nat) (hb : buf.length = keySize d + 4)
    (hs : seed.length = 32) (ht : t < 2 ^ d) (h32 : t < 2 ^ 32) :
    evolveBytes d (skKeygenBytes d buf seed).1 t =
      some (skBytes { depth := d, key := keyAt conc d seed t, period := t }) := by
  induction t with
  | zero =>
    simp only [evolveBytes, skKeygenBytes_refines d buf seed hb hs, skKeygen, keyAt_zero]
  | succ t ih =>
    rw [evolveBytes, ih (by omega) (by omega), Option.bind_some,
      skUpdateBytes_refines ⟨d, keyAt conc d seed t, t⟩ (keyShape_keyAt d seed t hs) (Nat.lt_of_succ_lt h32),
      skUpdate, update_keyAt conc d seed t ht]
    rfl

theorem signFromSlice_refines (d : Nat) (k : Key conc) (m : Bytes) (h : KeyShape d k) :
    signFromSlice d (keyBytes k) m = sumSigBytes (sign conc k m) := by
  fun_induction KeyShape d k with
  | case1 s => rfl
  | case2 d a sr pk0 pk1 ih =>
    have c := node_cuts d a sr pk0 pk1 h
    rw [signFromSlice, c.take_child, c.drop_seed, c.drop_pk0, List.take_left' h.2.2.1, List.take_of_length_le (Nat.le_of_eq h.2.2.2),
      ih h.1]
    rfl
  | case3 => exact h.elim

/-- stated under `Option.map`: the model's `csign` is partial, `none` on a key whose shape does not match the depth -/
theorem csignFromSlice_refines (d : Nat) (k : Key conc) (m : Bytes) (t : Nat) (h : KeyShape d k) :
    (csign conc d k m t).map cSigBytes = some (csignFromSlice d (keyBytes k) m t) := by
  fun_induction KeyShape d k generalizing t with
  | case1 s => rfl
  | case2 d a sr pk0 pk1 ih =>
    have c := node_cuts d a sr pk0 pk1 h
    simp only [csignFromSlice, c.take_child, c.drop_seed, c.drop_pk0, List.take_left' h.2.2.1, List.take_of_length_le (Nat.le_of_eq h.2.2.2),
      csign]
    split <;>
    · obtain ⟨sg, hsg, e⟩ := Option.map_eq_some_iff.mp (ih _ h.1)
      rw [hsg, ← e]; rfl
  | case3 => exact h.elim

example : (evolve sym (skKeygen sym 2 []).1 3).map (·.period) = some 3 := by decide
example : evolve sym (skKeygen sym 2 []).1 4 = none :=
  (update_fails_iff sym 2 [] 3 (by decide)).mpr (by decide)
example : verify sym 2 (sign sym (keyAt sym 2 [] 1) [7]) 1 (pkTree sym 2 []) [7] = true := by decide
example : verify sym 2 (sign sym (keyAt sym 2 [] 1) [7]) 2 (pkTree sym 2 []) [7] = false := by decide

end PallasVerif.Props.C12
