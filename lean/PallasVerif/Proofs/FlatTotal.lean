import PallasVerif.Proofs.FlatCalls
/-!
  The decoder of `Model/Flat.lean` on arbitrary input (support for `Props/C02`): from a state
  satisfying `Dec.Inv` no call of any entry point reaches a `panic` outcome (index out of range,
  shift overflow, subtraction below zero, fuel exhausted), the buffer is unchanged, the invariant
  holds again (also after an error) and the cursor never moves backwards (`Res.Safe`).
-/
namespace PallasVerif.Flat

/-- so `pos ≤ len`, and `pos = len → used_bits = 0` -/
def Dec.Inv (d : Dec) : Prop := d.used < 8 ∧ d.cursor ≤ 8 * d.buf.length

theorem Dec.inv_new (bs : List Byte) : (Dec.new bs).Inv := by
  simp [Dec.Inv, Dec.new, Dec.cursor]

/-- `d` is a state a call made in `d0` may leave -/
def Dec.After (d0 d : Dec) : Prop := d.buf = d0.buf ∧ d.Inv ∧ d0.cursor ≤ d.cursor

theorem Dec.After.refl {d : Dec} (h : d.Inv) : Dec.After d d := ⟨rfl, h, Nat.le_refl _⟩

theorem Dec.After.trans {d0 d1 d2 : Dec} (h01 : Dec.After d0 d1) (h12 : Dec.After d1 d2) : Dec.After d0 d2 :=
  ⟨h12.1.trans h01.1, h12.2.1, Nat.le_trans h01.2.2 h12.2.2⟩

/-- no panic, and the state left is `Dec.After d0` -/
def Res.Safe {α : Type} (d0 : Dec) : Res α → Prop
  | .ok _ d => d.buf = d0.buf ∧ d.Inv ∧ d0.cursor ≤ d.cursor
  | .err _ d => d.buf = d0.buf ∧ d.Inv ∧ d0.cursor ≤ d.cursor
  | .panic => False

/-- `Safe` looks only at the state the call leaves (`Res.next` of the model), not at the value nor at
    `Ok`/`Err`; so a `Safe` fact about one result serves another that leaves the same state
    (`Res.Safe.of_next`) -/
theorem Res.safe_iff_next {α : Type} (d0 : Dec) (r : Res α) :
    Res.Safe d0 r ↔ ∃ d, r.next = some d ∧ Dec.After d0 d := by
  cases r <;> simp [Res.next, Res.Safe, Dec.After]

theorem Res.Safe.of_next {α β : Type} {d0 : Dec} {r : Res α} {r' : Res β} (h : Res.Safe d0 r)
    (hn : r'.next = r.next) : Res.Safe d0 r' := by
  rw [Res.safe_iff_next] at h ⊢
  rwa [hn]

theorem Res.Safe.trans {β : Type} {d0 d1 : Dec} {r : Res β}
    (h01 : Dec.After d0 d1) (h : Res.Safe d1 r) :
    Res.Safe d0 r := by
  cases r with
  | ok _ _ | err _ _ => exact h01.trans h
  | panic => exact h

theorem Res.Safe.not_panic {α : Type} {d : Dec} {r : Res α} (h : Res.Safe d r) : r.isPanic = false := by
  cases r with
  | panic => exact h.elim
  | ok _ _ | err _ _ => rfl

theorem Dec.After.dropBits {d : Dec} {k : Nat} (hk : d.cursor + k ≤ 8 * d.buf.length) :
    Dec.After d (d.dropBits k) :=
  ⟨rfl, ⟨d.dropBits_used k, by rw [Dec.dropBits_cursor]; exact hk⟩, by rw [Dec.dropBits_cursor]; omega⟩

theorem Dec.bit_safe (d : Dec) (h : d.Inv) : Res.Safe d d.bit := by
  rw [Dec.bit_eq d h.1]
  split
  · exact Dec.After.refl h
  · next hr =>
    have hl := Dec.length_le_of_rem (l := [_]) hr
    exact Dec.After.dropBits (by rw [List.length_singleton] at hl; omega)

theorem Dec.bool_safe (d : Dec) (h : d.Inv) : Res.Safe d d.bool := Dec.bit_safe d h

/-- `hf`, here and in the loops below: the fuel exceeds the bits (bytes) left. A round that goes on has read
    a bit (a byte), which the equation of its call shows, so `hf` holds again, and fuel `0` contradicts `Inv`. -/
theorem Dec.fillerLoop_safe (fuel : Nat) (d : Dec) (h : d.Inv)
    (hf : fuel + d.cursor > 8 * d.buf.length) : Res.Safe d (Dec.fillerLoop fuel d) := by
  induction fuel generalizing d with
  | zero => exact absurd h.2 (by omega)
  | succ n ih =>
    have hb := Dec.bit_safe d h
    unfold Dec.fillerLoop Dec.zero
    rw [Dec.bit_eq d h.1] at hb ⊢
    generalize d.rem = l at hb ⊢
    match l, hb with
    | [], hb | true :: _, hb => exact hb
    | false :: _, hb =>
      -- `zero()` is true on a 0 bit: the one case in which the loop goes on
      exact Res.Safe.trans hb (ih _ hb.2.1 (by rw [Dec.dropBits_cursor, Dec.dropBits_buf]; omega))

theorem Dec.filler_safe (d : Dec) (h : d.Inv) : Res.Safe d d.filler :=
  Dec.fillerLoop_safe _ _ h (by simp only [Dec.cursor]; omega)

theorem Dec.bits8_safe (d : Dec) (n : Nat) (h : d.Inv) : Res.Safe d (d.bits8 n) := by
  by_cases h8 : n > 8
  · rw [Dec.bits8, if_pos h8]
    exact Dec.After.refl h
  · by_cases h0 : n = 0
    · rw [Dec.bits8, if_neg h8, if_pos h0]
      exact Dec.After.refl h
    · by_cases he : d.cursor + n ≤ 8 * d.buf.length
      · obtain ⟨x, hx, _⟩ := Dec.bits8_of_enough d h.1 n (by omega) (by omega) he
        rw [hx]
        exact Dec.After.dropBits he
      · rw [Dec.bits8_of_short d n (by omega) (by omega) (by omega)]
        exact Dec.After.refl h

theorem Dec.u8_safe (d : Dec) (h : d.Inv) : Res.Safe d d.u8 := Dec.bits8_safe d 8 h

theorem Dec.wordLoop_safe (fuel : Nat) (d : Dec) (fw shl : Nat) (h : d.Inv)
    (hs : shl < 2 ^ 32) (hf : 8 * fuel + d.cursor > 8 * d.buf.length) :
    Res.Safe d (Dec.wordLoop fuel d fw shl) := by
  induction fuel generalizing d fw shl with
  | zero => exact absurd h.2 (by omega)
  | succ n ih =>
    unfold Dec.wordLoop
    by_cases he : d.cursor + 8 ≤ 8 * d.buf.length
    · obtain ⟨w8, hx, _⟩ := Dec.bits8_of_enough d h.1 8 (by omega) (by omega) he
      have hb : Dec.After d (d.dropBits 8) := Dec.After.dropBits he
      rw [hx]
      -- `shl < 2^32`, so `shl as u32` is `shl`: once `shl ≥ 64` the `checked_shl` arm returns `Err`, before
      -- `x >> shl` or `shl += 7` could trap; below 64 neither traps
      simp only [Nat.mod_eq_of_lt hs]
      by_cases h64 : shl ≥ 64
      · simp only [h64, if_true]
        exact hb
      · simp only [h64, if_false, show ¬ shl + 7 ≥ 2 ^ 64 by omega]
        split
        · exact hb
        · split
          · exact Res.Safe.trans hb (ih _ _ _ hb.2.1 (by omega) (by rw [Dec.dropBits_cursor, Dec.dropBits_buf]; omega))
          · exact hb
    · rw [Dec.bits8_of_short d 8 (by omega) (by omega) (by omega)]
      exact Dec.After.refl h

theorem Dec.word_safe (d : Dec) (h : d.Inv) : Res.Safe d d.word :=
  Dec.wordLoop_safe _ _ _ _ h (by omega) (by simp only [Dec.cursor]; omega)

theorem Dec.integer_safe (d : Dec) (h : d.Inv) : Res.Safe d d.integer :=
  (Dec.word_safe d h).of_next (by unfold Dec.integer; cases d.word <;> rfl)

theorem Dec.char_safe (d : Dec) (h : d.Inv) : Res.Safe d d.char := by
  refine (Dec.word_safe d h).of_next ?_
  unfold Dec.char
  cases d.word with
  | ok w d' => dsimp only; split <;> rfl
  | err _ _ | panic => rfl

theorem Dec.After.skip {d : Dec} (h0 : d.used = 0) (k : Nat) (hk : d.pos + k ≤ d.buf.length) :
    Dec.After d { d with pos := d.pos + k } := by
  simp only [Dec.After, Dec.Inv, Dec.cursor, h0, true_and]
  omega

/-- Unlike the other loops, a round of this one has guards (`ensure_bytes`, the slice, the index) that
    only arithmetic discharges; the round equations of `Proofs/FlatCalls` do that once, for this proof
    and for `Dec.blkLoop_reads`. -/
theorem Dec.blkLoop_safe (fuel : Nat) (d : Dec) (blkLen : Nat) (acc : List Byte) (h : d.Inv)
    (h0 : d.used = 0) (hf : fuel + d.pos > d.buf.length) :
    Res.Safe d (Dec.blkLoop fuel d blkLen acc) := by
  induction fuel generalizing d blkLen acc with
  | zero => exact absurd h.2 (by simp only [Dec.cursor]; omega)
  | succ n ih =>
    by_cases hz : blkLen = 0
    · rw [hz, Dec.blkLoop_zero]
      exact Dec.After.refl h
    · by_cases hlt : d.pos + blkLen < d.buf.length
      · rw [Dec.blkLoop_step n d blkLen acc _ hz (List.getElem?_eq_getElem hlt)]
        have hs := Dec.After.skip h0 (blkLen + 1) (by omega)
        exact Res.Safe.trans hs (ih _ _ _ hs.2.1 h0 (by simp only; omega))
      · rw [Dec.blkLoop_short n d blkLen acc hz (by omega)]
        exact Dec.After.refl h

theorem Dec.byteArray_safe (d : Dec) (h : d.Inv) : Res.Safe d d.byteArray := by
  by_cases h0 : d.used = 0
  · by_cases hlt : d.pos < d.buf.length
    · rw [Dec.byteArray_enter d _ h0 (List.getElem?_eq_getElem hlt)]
      have hs := Dec.After.skip h0 1 (by omega)
      exact Res.Safe.trans hs (Dec.blkLoop_safe _ _ _ _ hs.2.1 h0 (by simp only; omega))
    · simp only [Dec.byteArray, h0, ne_eq, not_true_eq_false, if_false, Dec.ensureBytes_iff,
        show ¬ d.pos + 1 ≤ d.buf.length by omega, not_false_eq_true, if_true]
      exact Dec.After.refl h
  · simp only [Dec.byteArray, ne_eq, h0, not_false_eq_true, if_true]
    exact Dec.After.refl h

theorem Dec.bytes_safe (d : Dec) (h : d.Inv) : Res.Safe d d.bytes := by
  have hf := Dec.filler_safe d h
  unfold Dec.bytes
  generalize d.filler = r at hf ⊢
  match r, hf with
  | .panic, hf => exact hf.elim
  | .err e d', hf => exact hf
  | .ok () d', hf => exact Res.Safe.trans hf (Dec.byteArray_safe d' hf.2.1)

theorem Dec.utf8_safe (d : Dec) (h : d.Inv) : Res.Safe d d.utf8 := by
  refine (Dec.bytes_safe d h).of_next ?_
  unfold Dec.utf8
  cases d.bytes with
  | ok bs d' => dsimp only; split <;> rfl
  | err _ _ | panic => rfl

theorem Dec.listLoop_safe {α : Type} (elem : Dec → Res α)
    (helem : ∀ d : Dec, d.Inv → Res.Safe d (elem d))
    (fuel : Nat) (d : Dec) (acc : List α) (h : d.Inv)
    (hf : fuel + d.cursor > 8 * d.buf.length) : Res.Safe d (Dec.listLoop elem fuel d acc) := by
  induction fuel generalizing d acc with
  | zero => exact absurd h.2 (by omega)
  | succ n ih =>
    have hb := Dec.bit_safe d h
    unfold Dec.listLoop
    rw [Dec.bit_eq d h.1] at hb ⊢
    generalize d.rem = l at hb ⊢
    match l, hb with
    | [], hb | false :: _, hb => exact hb
    | true :: _, hb =>
      have he := helem _ hb.2.1
      simp only
      generalize elem (d.dropBits 1) = r' at he ⊢
      match r', he with
      | .panic, he => exact he.elim
      | .err e d'', he => exact Res.Safe.trans hb he
      | .ok a d'', he =>
        have hd' : d''.buf = d.buf := he.1
        have hc : d.cursor + 1 ≤ d''.cursor := d.dropBits_cursor 1 ▸ he.2.2
        exact Res.Safe.trans hb (Res.Safe.trans he (ih d'' _ he.2.1 (by rw [hd']; omega)))

theorem Dec.list_safe {α : Type} (elem : Dec → Res α)
    (helem : ∀ d : Dec, d.Inv → Res.Safe d (elem d)) (d : Dec) (h : d.Inv) :
    Res.Safe d (Dec.list elem d) :=
  Dec.listLoop_safe elem helem _ _ _ h (by simp only [Dec.cursor]; omega)

theorem Dec.string_safe (d : Dec) (h : d.Inv) : Res.Safe d d.string := Dec.list_safe Dec.char Dec.char_safe d h

theorem Dec.value_safe (d : Dec) (h : d.Inv) (k : Kind) : Res.Safe d (d.value k) := by
  unfold Dec.value
  cases k with
  | bool => exact (Dec.bool_safe d h).of_next (by cases d.bool <;> rfl)
  | u8 => exact (Dec.u8_safe d h).of_next (by cases d.u8 <;> rfl)
  | bits n => exact (Dec.bits8_safe d n h).of_next (by dsimp only; cases d.bits8 n <;> rfl)
  | word => exact (Dec.word_safe d h).of_next (by cases d.word <;> rfl)
  | int => exact (Dec.integer_safe d h).of_next (by cases d.integer <;> rfl)
  | char => exact (Dec.char_safe d h).of_next (by cases d.char <;> rfl)
  | bytes => exact (Dec.bytes_safe d h).of_next (by cases d.bytes <;> rfl)
  | utf8 => exact (Dec.utf8_safe d h).of_next (by cases d.utf8 <;> rfl)
  | bools =>
    exact (Dec.list_safe Dec.bool Dec.bool_safe d h).of_next (by cases Dec.list Dec.bool d <;> rfl)
  | string => exact (Dec.string_safe d h).of_next (by cases d.string <;> rfl)

end PallasVerif.Flat
