import PallasVerif.Model.Address
/-!
# C18 — Shelley and stake addresses round-trip with a faithful header

`Model/Address.lean` transcribes `varuint::{read,write}`, `Pointer::{parse,to_vec}`, the header
composition, `bytes_to_address` with the three `parse_shelley_fn!` arms and `parse_stake_fn!`, hex,
and the bech32 / `Display` / `FromStr` wrappers (the `bech32` crate and the Byron base58 parser are
parameters).

Quantifier of the property: network ids `0..15` (`Network::from(id)`: `0 ↦ Testnet`, `1 ↦ Mainnet`,
else `Other(id)` — predicate `CanonNet`), pointer components in `u64` (`WFPointer`), any 28-byte
hashes; all eight Shelley shapes and both stake shapes (`Addr` has exactly these ten).
-/
namespace PallasVerif.Props.C18
open PallasVerif.Address

/-- the image of `Network::from(id)` for `id < 16` -/
def CanonNet : Network → Prop
  | .testnet => True
  | .mainnet => True
  | .other x => 2 ≤ x.toNat ∧ x.toNat < 16

def WFPointer (p : Pointer) : Prop := p.slot ≤ U64MAX ∧ p.txIdx ≤ U64MAX ∧ p.certIdx ≤ U64MAX

def WFDeleg : Delegation → Prop
  | .pointer p => WFPointer p
  | _ => True

def WF : Addr → Prop
  | .shelley n _ d => CanonNet n ∧ WFDeleg d
  | .stake n _ => CanonNet n

instance : (n : Network) → Decidable (CanonNet n)
  | .testnet => isTrue trivial
  | .mainnet => isTrue trivial
  | .other x => inferInstanceAs (Decidable (2 ≤ x.toNat ∧ x.toNat < 16))

/-- with `ofU8_value` and `canon_value_lt` below: `CanonNet` is exactly the image of `Network::from` on ids below 16 -/
theorem canon_ofU8 (id : UInt8) (h : id.toNat < 16) : CanonNet (Network.ofU8 id) := by
  unfold Network.ofU8
  by_cases h0 : id = 0
  · simp [h0, CanonNet]
  · by_cases h1 : id = 1
    · simp [h1, CanonNet]
    · simp only [h0, h1, if_false, CanonNet]
      have a : id.toNat ≠ 0 := fun e => h0 (UInt8.toNat_inj.1 (by simpa using e))
      have b : id.toNat ≠ 1 := fun e => h1 (UInt8.toNat_inj.1 (by simpa using e))
      omega

theorem canon_value_lt {n : Network} (h : CanonNet n) : n.value.toNat < 16 := by
  cases n with
  | testnet | mainnet => decide
  | other x => exact h.2

theorem ofU8_value {n : Network} (h : CanonNet n) : Network.ofU8 n.value = n := by
  cases n with
  | testnet | mainnet => decide
  | other x =>
    obtain ⟨h2, _⟩ := h
    have a : x ≠ 0 := by intro e; subst e; simp at h2
    have b : x ≠ 1 := by intro e; subst e; simp at h2
    simp [Network.ofU8, Network.value, a, b]

theorem cont_byte : ∀ k, k < 128 →
    (UInt8.ofNat (k ||| 0x80) &&& 0x7F).toNat = k ∧ ¬ (UInt8.ofNat (k ||| 0x80) &&& 0x80 = 0) := by
  decide +kernel

theorem last_byte : ∀ k, k < 128 →
    (UInt8.ofNat k &&& 0x7F).toNat = k ∧ UInt8.ofNat k &&& 0x80 = 0 := by
  decide +kernel

theorem shl7_or (a d : Nat) (hd : d < 128) : (a <<< 7) ||| d = a * 128 + d := by
  rw [← Nat.shiftLeft_add_eq_or_of_lt (i := 7) (by simpa using hd), Nat.shiftLeft_eq]

theorem writeLoop_zero : writeLoop 0 = [] := by rw [writeLoop]; simp

theorem writeLoop_pos (m : Nat) (h : m ≠ 0) :
    writeLoop m = UInt8.ofNat ((m &&& 0x7F) ||| 0x80) :: writeLoop (m / 128) := by
  rw [writeLoop]; simp [h]

/-- one byte of the reader; the payload `d` is a parameter of its own so that the byte tables `cont_byte`,
    `last_byte` can be put in -/
theorem readLoop_cons (a d : Nat) (byte : UInt8) (tail : Bytes) (hd : (byte &&& 0x7F).toNat = d)
    (hlt : d < 128) (hm : a * 128 + d ≤ U64MAX) :
    readLoop a (byte :: tail) =
      if byte &&& 0x80 = 0 then some (a * 128 + d, tail) else readLoop (a * 128 + d) tail := by
  simp only [readLoop, hd, shl7_or a d hlt, if_neg (Nat.not_lt.2 hm)]

theorem readLoop_cont (a m : Nat) (tail : Bytes) (hm : a * 128 + m % 128 ≤ U64MAX) :
    readLoop a (UInt8.ofNat ((m &&& 0x7F) ||| 0x80) :: tail) =
      readLoop (a * 128 + m % 128) tail := by
  have hlt : m % 128 < 128 := Nat.mod_lt _ (by decide)
  obtain ⟨h1, h2⟩ := cont_byte (m % 128) hlt
  rw [Nat.and_two_pow_sub_one_eq_mod _ 7, readLoop_cons a _ _ tail h1 hlt hm, if_neg h2]

theorem readLoop_last (a n : Nat) (tail : Bytes) (hm : a * 128 + n % 128 ≤ U64MAX) :
    readLoop a (UInt8.ofNat (n % 256 &&& 0x7F) :: tail) = some (a * 128 + n % 128, tail) := by
  have hlt : n % 128 < 128 := Nat.mod_lt _ (by decide)
  obtain ⟨h1, h2⟩ := last_byte (n % 128) hlt
  rw [Nat.and_two_pow_sub_one_eq_mod _ 7, Nat.mod_mod_of_dvd n (by decide : 128 ∣ 256), readLoop_cons a _ _ tail h1 hlt hm,
    if_pos h2]

/-- the invariant of the round trip: reading the loop's output (most significant group first) from
    accumulator 0 is continuing from accumulator `m` -/
theorem read_writeLoop (m : Nat) (hm : m ≤ U64MAX) (tail : Bytes) :
    readLoop 0 ((writeLoop m).reverse ++ tail) = readLoop m tail := by
  fun_induction writeLoop m generalizing tail with
  | case1 => rfl
  -- `m ≠ 0`: the loop pushed the group `m % 128` and went on with `m / 128`
  | case2 m h ih =>
    have hdm : m / 128 * 128 + m % 128 = m := Nat.div_add_mod' m 128
    rw [List.reverse_cons, List.append_assoc, ih (Nat.le_trans (Nat.div_le_self m 128) hm),
      List.singleton_append, readLoop_cont (m / 128) m tail (by rwa [hdm]), hdm]

theorem varuint_roundtrip (n : Nat) (hn : n ≤ U64MAX) (r : Bytes) :
    varuintRead (varuintWrite n ++ r) = some (n, r) := by
  have hdm : n / 128 * 128 + n % 128 = n := Nat.div_add_mod' n 128
  unfold varuintRead varuintWrite
  rw [List.reverse_cons, List.append_assoc,
    read_writeLoop (n / 128) (Nat.le_trans (Nat.div_le_self n 128) hn), List.singleton_append,
    readLoop_last (n / 128) n r (by rwa [hdm]), hdm]

theorem writeLoop_length (k m : Nat) (hm : m < 128 ^ k) : (writeLoop m).length ≤ k := by
  fun_induction writeLoop m generalizing k with
  | case1 => exact Nat.zero_le _
  | case2 m h ih =>
    cases k with
    | zero => exact absurd (Nat.lt_one_iff.1 hm) h
    | succ k => exact Nat.succ_le_succ (ih k ((Nat.div_lt_iff_lt_mul (by decide)).2 (by rwa [Nat.pow_succ] at hm)))

theorem varuint_length_le (n : Nat) (hn : n ≤ U64MAX) :
    1 ≤ (varuintWrite n).length ∧ (varuintWrite n).length ≤ 10 := by
  unfold varuintWrite
  have h9 : n / 128 < 128 ^ 9 := Nat.div_lt_of_lt_mul (Nat.lt_of_le_of_lt hn (by decide))
  have := writeLoop_length 9 _ h9
  simp only [List.length_reverse, List.length_cons]
  omega

theorem pointer_roundtrip (p : Pointer) (h : WFPointer p) (r : Bytes) :
    Pointer.parse (p.toVec ++ r) = some p := by
  obtain ⟨h1, h2, h3⟩ := h
  simp only [Pointer.parse, Pointer.toVec, List.append_assoc, varuint_roundtrip _ h1,
    varuint_roundtrip _ h2, varuint_roundtrip _ h3]

theorem pointer_length (p : Pointer) : 3 ≤ p.toVec.length := by
  simp only [Pointer.toVec, varuintWrite, List.length_append, List.length_reverse, List.length_cons]
  omega

theorem nibbles : ∀ t, t < 16 → ∀ n, n < 16 →
    ((UInt8.ofNat t <<< 4) ||| UInt8.ofNat n) >>> 4 = UInt8.ofNat t ∧
    ((UInt8.ofNat t <<< 4) ||| UInt8.ofNat n) &&& 0x0F = UInt8.ofNat n ∧
    ((UInt8.ofNat t <<< 4) ||| UInt8.ofNat n) &&& 0xF0 = UInt8.ofNat (t * 16) := by
  decide +kernel

theorem typeId_lt (a : Addr) : a.typeId.toNat < 16 := by
  cases a with
  | shelley n p d => cases p <;> cases d <;> simp only [Addr.typeId, shelleyTypeId] <;> decide
  | stake n p => cases p <;> simp only [Addr.typeId, stakeTypeId] <;> decide

/-- the header byte carries the type id in its high nibble and the network id in its low nibble -/
theorem header_spec (a : Addr) (h : CanonNet a.network) :
    a.toHeader >>> 4 = a.typeId ∧ a.toHeader &&& 0x0F = a.network.value ∧
    a.toHeader &&& 0xF0 = UInt8.ofNat (a.typeId.toNat * 16) := by
  have := nibbles a.typeId.toNat (typeId_lt a) a.network.value.toNat (canon_value_lt h)
  simpa [Addr.toHeader] using this

theorem parseNetwork_header (a : Addr) (h : CanonNet a.network) :
    parseNetwork a.toHeader = a.network := by
  have hv := (header_spec a h).2.1
  unfold parseNetwork
  simp only [hv]
  exact ofU8_value h

theorem sliceToHash_val (h : Hash28) : sliceToHash h.val = .ok h := by
  obtain ⟨v, hv⟩ := h
  simp [sliceToHash, hv]

theorem take28 (h : Hash28) (r : Bytes) : (h.val ++ r).take 28 = h.val :=
  List.take_left' h.property

theorem drop28 (h : Hash28) (r : Bytes) : (h.val ++ r).drop 28 = r :=
  List.drop_left' h.property

theorem twoHashes_rt (mkP : Hash28 → Payment) (mkD : Hash28 → Delegation) (header : UInt8)
    (h1 h2 : Hash28) (r : Bytes) :
    parseTwoHashes mkP mkD header (h1.val ++ (h2.val ++ r)) =
      .ok (.shelley (parseNetwork header) (mkP h1) (mkD h2)) := by
  unfold parseTwoHashes
  have hl : ¬ (h1.val ++ (h2.val ++ r)).length < 56 := by
    simp only [List.length_append, h1.property, h2.property]; omega
  simp only [hl, if_false, take28, drop28, sliceToHash_val]

theorem pointerAddr_rt (mkP : Hash28 → Payment) (header : UInt8) (h1 : Hash28) (p : Pointer)
    (hp : WFPointer p) (r : Bytes) :
    parsePointerAddr mkP header (h1.val ++ (p.toVec ++ r)) =
      .ok (.shelley (parseNetwork header) (mkP h1) (.pointer p)) := by
  unfold parsePointerAddr
  have hl : ¬ (h1.val ++ (p.toVec ++ r)).length < 29 := by
    have := pointer_length p
    simp only [List.length_append, h1.property]; omega
  simp only [hl, if_false, take28, drop28, sliceToHash_val, pointer_roundtrip p hp r]

theorem enterprise_rt (mkP : Hash28 → Payment) (header : UInt8) (h1 : Hash28) (r : Bytes) :
    parseEnterprise mkP header (h1.val ++ r) = .ok (.shelley (parseNetwork header) (mkP h1) .null) := by
  simp only [parseEnterprise, List.length_append, h1.property, Nat.not_lt_of_le (Nat.le_add_right _ _),
    if_false, take28, sliceToHash_val]

theorem stake_rt (mk : Hash28 → StakePayload) (header : UInt8) (h1 : Hash28) (r : Bytes) :
    parseStake mk header (h1.val ++ r) = .ok (.stake (parseNetwork header) (mk h1)) := by
  simp only [parseStake, List.length_append, h1.property, Nat.not_lt_of_le (Nat.le_add_right _ _),
    if_false, take28, sliceToHash_val]

/-- `from_bytes` ignores whatever follows an encoded address: every arm of `bytes_to_address`
    takes what it needs (`[..28]`, `Pointer::parse`) and drops the rest -/
theorem address_roundtrip_trailing (a : Addr) (h : WF a) (r : Bytes) :
    fromBytes (a.toVec ++ r) = .ok a := by
  -- the high nibble of the header selects the arm of `bytes_to_address` that inverts `to_vec`
  cases a with
  | shelley n p d =>
    obtain ⟨hn, hd⟩ := h
    have hh := (header_spec (.shelley n p d) hn).2.2
    have hp : parseNetwork (Addr.shelley n p d).toHeader = n := parseNetwork_header _ hn
    simp only [Addr.toVec, List.cons_append, List.append_assoc, fromBytes, hh, Addr.typeId]
    cases d with
    | key h2 | script h2 =>
      cases p <;> simp [shelleyTypeId, Payment.toVec, Delegation.toVec, twoHashes_rt, hp]
    | pointer q =>
      cases p <;> simp [shelleyTypeId, Payment.toVec, Delegation.toVec, pointerAddr_rt _ _ _ _ hd, hp]
    | null => cases p <;> simp [shelleyTypeId, Payment.toVec, Delegation.toVec, enterprise_rt, hp]
  | stake n p =>
    have hh := (header_spec (.stake n p) h).2.2
    have hp : parseNetwork (Addr.stake n p).toHeader = n := parseNetwork_header _ h
    simp only [Addr.toVec, List.cons_append, fromBytes, hh, Addr.typeId]
    cases p <;> simp [stakeTypeId, StakePayload.toVec, stake_rt, hp]

theorem address_roundtrip (a : Addr) (h : WF a) : fromBytes a.toVec = .ok a := by
  simpa using address_roundtrip_trailing a h []

theorem hexVal_hexDigit : ∀ n, n < 16 → hexVal (hexDigit n) = some n := by decide

theorem hexDecode_encode (b : Bytes) : hexDecode (hexEncode b) = some b := by
  induction b with
  | nil => rfl
  | cons x xs ih =>
    have h1 := hexVal_hexDigit (x.toNat / 16) (Nat.div_lt_of_lt_mul x.toNat_lt)
    have h2 := hexVal_hexDigit (x.toNat % 16) (Nat.mod_lt _ (by decide))
    have e : x.toNat / 16 * 16 + x.toNat % 16 = x.toNat := Nat.div_add_mod' _ _
    simp only [hexEncode, hexDecode, h1, h2, ih, e, UInt8.ofNat_toNat]

theorem hex_roundtrip (a : Addr) (h : WF a) : fromHex a.toHex = .ok a := by
  simp [fromHex, Addr.toHex, hexDecode_encode, address_roundtrip a h]

/-- the stated assumption on the `bech32` crate -/
def Lawful (c : Bech32) : Prop := ∀ hrp b, c.dec (c.enc hrp b) = some (hrp, b)

def isMainOrTest : Network → Prop
  | .testnet => True
  | .mainnet => True
  | .other _ => False

/-- prefix table of CIP-19, written independently of `Addr.hrp` -/
def specHrp (isStake : Bool) (netId : Nat) : Option String :=
  match isStake, netId with
  | false, 1 => some "addr"
  | false, 0 => some "addr_test"
  | true, 1 => some "stake"
  | true, 0 => some "stake_test"
  | _, _ => none

def isStake : Addr → Bool
  | .shelley .. => false
  | .stake .. => true

theorem specHrp_other (stake : Bool) {netId : Nat} (h : 2 ≤ netId) : specHrp stake netId = none := by
  obtain ⟨k, rfl⟩ := Nat.exists_eq_add_of_le h
  rw [Nat.add_comm]
  cases stake <;> rfl

/-- the bech32 prefix matches the network (and is refused for any other network id) -/
theorem hrp_matches_network (a : Addr) (h : CanonNet a.network) :
    a.hrp.toOption = specHrp (isStake a) a.network.value.toNat := by
  cases a with
  | shelley n p d | stake n p =>
    cases n with
    | testnet | mainnet => rfl
    | other x => exact (specHrp_other _ h.1).symm

/-- `to_bech32` by the network: the hrp and the encoded text on mainnet / testnet, refused for any other id -/
theorem toBech32_cases (c : Bech32) (a : Addr) :
    (isMainOrTest a.network ∧ ∃ hrp, a.hrp = .ok hrp ∧ a.toBech32 c = .ok (c.enc hrp a.toVec)) ∨
    (¬ isMainOrTest a.network ∧ a.toBech32 c = .error .unknownHrp) := by
  cases a with
  | shelley n p d | stake n p =>
    cases n with
    | testnet | mainnet => exact .inl ⟨trivial, _, rfl, rfl⟩
    | other x => exact .inr ⟨id, rfl⟩

theorem toBech32_ok (c : Bech32) (a : Addr) (hm : isMainOrTest a.network) :
    ∃ hrp, a.hrp = .ok hrp ∧ a.toBech32 c = .ok (c.enc hrp a.toVec) :=
  ((toBech32_cases c a).resolve_right fun h => h.1 hm).2

theorem bech32_roundtrip (c : Bech32) (hc : Lawful c) (a : Addr) (h : WF a)
    (hm : isMainOrTest a.network) :
    ∃ s, a.toBech32 c = .ok s ∧ fromBech32 c s = .ok a := by
  obtain ⟨hrp, _, he⟩ := toBech32_ok c a hm
  refine ⟨_, he, ?_⟩
  simp [fromBech32, hc hrp a.toVec, address_roundtrip a h]

/-- `Display` then `FromStr`: mainnet / testnet go through bech32 (first branch of `from_str`);
    other network ids are printed as hex and parse back provided the two earlier parsers of
    `from_str` refuse that hex text (stated hypotheses: they are properties of the bech32 crate and
    of the Byron base58 parser, not of this model). -/
theorem display_fromStr_roundtrip (c : Bech32) (hc : Lawful c) (b58 : List Char → Bool) (a : Addr)
    (h : WF a)
    (hother : ¬ isMainOrTest a.network → c.dec a.toHex = none ∧ b58 a.toHex = false) :
    fromStr c b58 (a.display c) = .ok a := by
  by_cases hm : isMainOrTest a.network
  · obtain ⟨s, he, hr⟩ := bech32_roundtrip c hc a h hm
    simp [fromStr, Addr.display, he, hr]
  · obtain ⟨h1, h2⟩ := hother hm
    have hb := ((toBech32_cases c a).resolve_left fun h => hm h.1).2
    simp [fromStr, Addr.display, hb, fromBech32, h1, h2, hex_roundtrip a h]

/-! ## bech32 text (the executable bech32 of the model, tied to the `bech32` crate by the stream) -/

theorem b32_text_prefix (hrp : String) (bytes : Bytes) :
    hrp.toList ++ ['1'] <+: b32Encode hrp bytes := by
  unfold b32Encode
  exact List.prefix_append _ _

/-- the bech32 *text* of a mainnet / testnet address starts with the CIP-19 prefix of its kind and
    network followed by the separator `1` -/
theorem bech32_prefix_matches_network (a : Addr) (h : CanonNet a.network)
    (hm : isMainOrTest a.network) :
    ∃ hrp s, specHrp (isStake a) a.network.value.toNat = some hrp ∧
      a.toBech32 realBech32 = .ok s ∧ hrp.toList ++ ['1'] <+: s := by
  obtain ⟨hrp, h1, h2⟩ := toBech32_ok realBech32 a hm
  refine ⟨hrp, _, ?_, h2, b32_text_prefix hrp a.toVec⟩
  rw [← hrp_matches_network a h, h1]; rfl

def h28 (b : UInt8) : Hash28 := ⟨List.replicate 28 b, by simp⟩

example : varuintWrite 0 = [0] := by
  simp [varuintWrite, writeLoop_zero]
example : varuintWrite 128 = [0x81, 0x00] := by
  simp [varuintWrite, writeLoop_pos, writeLoop_zero]
example : varuintWrite 16384 = [0x81, 0x80, 0x00] := by
  simp [varuintWrite, writeLoop_pos, writeLoop_zero]
example : varuintRead [0x81, 0x00, 0x05] = some (128, [0x05]) := by decide
/-- saturation at `u64::MAX` returns early, leaving continuation bytes unread -/
example : varuintRead [0x83, 0xFF, 0xFF, 0xFF, 0xFF, 0xFF, 0xFF, 0xFF, 0xFF, 0xFF, 0x7F] =
    some (U64MAX, [0x7F]) := by decide
example : WF (.shelley (.other 7) (.key (h28 1)) (.pointer ⟨U64MAX, 0, 128⟩)) := by
  refine ⟨by decide, ?_⟩; exact ⟨by decide, by decide, by decide⟩
example : (Addr.shelley .mainnet (.script (h28 1)) (.pointer ⟨1, 2, 3⟩)).toHeader = 0x51 := by decide
example : (Addr.stake (.other 15) (.script (h28 1))).toHeader = 0xFF := by decide
example : fromBytes [0x90] = .err .invalidHeader := by decide
example : fromBytes (0x61 :: List.replicate 27 0) = .err .invalidLength := by decide
/-- outside the quantifier (`Other(16)`): the network nibble spills into the type id -/
example : (Addr.shelley (.other 16) (.key (h28 1)) .null).toHeader = 0x70 := by decide
example : ¬ CanonNet (.other 0) ∧ ¬ CanonNet (.other 16) := by decide

/-- BIP-173 test vector, and one round trip of the executable codec -/
example : b32Encode "a" [] = "a12uel5l".toList := by decide +kernel
example : b32Decode (b32Encode "a" [0x61, 0]) = some ("a", [0x61, 0]) := by decide +kernel

end PallasVerif.Props.C18
