import PallasVerif.Proofs.HashBytes
/-!
# C10 — Blake2b hashing, hash values and nonce derivations match the reference

The cryptoxide streaming hasher (`Model/Blake2b.lean`: `init`/`update`/`finalize`, transcribed from
`ContextDyn`) fed with *any* list of `input` chunks returns the RFC 7693 one-shot digest `blake2b nn` of
the concatenation (`stream_eq_oneshot`): the hasher state is `fed nn m`, i.e. `(h, t, buf) = loop h₀ 0 m`
for the bytes `m` fed so far (`update_fed`), and finishing a `loop` result is the RFC block schedule
(`rfcBlocks_eq_loop` of `Proofs/HashBytes`). The one-shot `blake2b` itself, a recursion over the input, is the
RFC's indexed block loop as printed (`blake2b_eq_rfc_indexed`). The *array-level* transcription (`Model/Blake2bArray.lean`:
fixed 128-byte `buf`, cursor `buflen`, `copy_from_slice` as `blit`, zeroing and digest read-out of
`internal_final`) refines the streaming hasher (`updateMut_refines`, `finalizeMut_refines`): stale bytes beyond
`buflen` never matter. On top of that the four pallas entry points, the `Hash<N>` codecs and the Praos nonce compositions.

What is *not* proved here: that `compress` (RFC 7693 F, transcribed) equals cryptoxide's
`compress_b` (reference/AVX/AVX2 code paths) — that agreement is by the correspondence stream
`hash` and the RFC vectors only.
-/
namespace PallasVerif.Props.C10
open PallasVerif.Blake2b PallasVerif.Hash

theorem loop_small (h : H) (t : Nat) (x : Bytes) (hx : x.length ≤ 128) : loop h t x = (h, t, x) := by
  rw [loop, if_neg (by omega)]

theorem loop_buf_le (h : H) (t : Nat) (x : Bytes) : (loop h t x).2.2.length ≤ 128 := by
  fun_induction loop h t x with
  | case1 h t x hx ih => exact ih
  | case2 h t x hx => exact Nat.le_of_not_lt hx

/-- resuming the loop from its own result on more input is running it once on the concatenation -/
theorem loop_append (h : H) (t : Nat) (x y : Bytes) :
    loop (loop h t x).1 (loop h t x).2.1 ((loop h t x).2.2 ++ y) = loop h t (x ++ y) := by
  fun_induction loop h t x with
  | case1 h t x hx ih =>
    rw [ih, loop.eq_1 h t (x ++ y), if_pos (by rw [List.length_append]; omega),
      List.take_append_of_le_length (by omega), List.drop_append_of_le_length (by omega)]
  | case2 h t x hx => rfl

/-- one `input` call resumes the loop on buffer ++ input -/
theorem update_eq_loop (c : Ctx) (inp : Bytes) (hb : c.buf.length ≤ 128) :
    update c inp =
      { c with h := (loop c.h c.t (c.buf ++ inp)).1, t := (loop c.h c.t (c.buf ++ inp)).2.1,
               buf := (loop c.h c.t (c.buf ++ inp)).2.2 } := by
  fun_cases update c inp with
  | case1 he => rw [List.isEmpty_iff.mp he, List.append_nil, loop_small _ _ _ hb]
  | case2 =>
    -- the input overflows the buffer: the compress of the filled buffer is the loop's first step
    rw [loop.eq_1 c.h c.t (c.buf ++ inp), if_pos (by rw [List.length_append]; omega),
      List.take_append, List.drop_append, List.take_of_length_le hb, List.drop_of_length_le hb,
      List.nil_append]
  | case3 =>
    -- the input fits into the buffer: nothing is compressed
    rw [loop_small _ _ _ (by rw [List.length_append]; omega)]

def ctxOfLoop (r : H × Nat × Bytes) (nn : Nat) : Ctx := { h := r.1, t := r.2.1, buf := r.2.2, outlen := nn }

/-- the hasher state after the bytes `m` have been fed, in whatever chunks, to `init nn` -/
def fed (nn : Nat) (m : Bytes) : Ctx := ctxOfLoop (loop (initH nn) 0 m) nn

theorem init_eq_fed (nn : Nat) : init nn = fed nn [] := by
  rw [fed, loop_small _ _ _ (by simp)]; rfl

theorem update_fed (nn : Nat) (m inp : Bytes) : update (fed nn m) inp = fed nn (m ++ inp) := by
  rw [update_eq_loop _ _ (loop_buf_le _ _ _)]
  simp only [fed, ctxOfLoop, loop_append]

theorem foldl_update_fed (nn : Nat) (chunks : List Bytes) (m : Bytes) :
    chunks.foldl update (fed nn m) = fed nn (m ++ chunks.flatten) := by
  induction chunks generalizing m with
  | nil => simp
  | cons x xs ih => rw [List.foldl_cons, update_fed, ih, List.flatten_cons, List.append_assoc]

theorem finalize_fed (nn : Nat) (m : Bytes) : finalize (fed nn m) = blake2b nn m := by
  rw [finalize, blake2b, rfcBlocks_eq_loop]; rfl

/-- **Incremental hashing equals the RFC 7693 digest of the concatenated input, however it is
    split** (any digest length `nn`, any list of chunks, of any sizes, empty ones included). -/
theorem stream_eq_oneshot (nn : Nat) (chunks : List Bytes) :
    finalize (chunks.foldl update (init nn)) = blake2b nn chunks.flatten := by
  rw [init_eq_fed, foldl_update_fed, finalize_fed, List.nil_append]

theorem stream_eq_oneshot_from (nn : Nat) (pre : List Bytes) (chunks : List Bytes) :
    finalize (chunks.foldl update (pre.foldl update (init nn))) = blake2b nn (pre.flatten ++ chunks.flatten) := by
  rw [← List.foldl_append, stream_eq_oneshot, List.flatten_append]

theorem split_independent (nn : Nat) (c1 c2 : List Bytes) (h : c1.flatten = c2.flatten) :
    hashChunks nn c1 = hashChunks nn c2 := by
  rw [hashChunks, hashChunks, stream_eq_oneshot, stream_eq_oneshot, h]

/-- abstraction: the live prefix of the array -/
def absA (c : CtxA) : Ctx := { h := c.h, t := c.t, buf := c.buf.take c.buflen, outlen := c.outlen }

/-- `outlen ≤ 64` is what the digest read-out of `finalizeMut` needs; no `updateMut` touches it -/
def InvA (c : CtxA) : Prop := c.buf.length = 128 ∧ c.buflen ≤ 128 ∧ c.outlen ≤ 64

theorem absA_buf_length (c : CtxA) (hc : InvA c) : (c.buf.take c.buflen).length = c.buflen :=
  List.length_take_of_le (hc.1 ▸ hc.2.1)

theorem updateMut_refines (c : CtxA) (inp : Bytes) (hc : InvA c) :
    absA (updateMut c inp) = update (absA c) inp ∧ InvA (updateMut c inp) := by
  have hlen := absA_buf_length c hc
  obtain ⟨hl, hb, ho⟩ := hc
  -- with the live length `hlen` rewritten, `update (absA c)` branches on the same `128 - c.buflen` as `updateMut c`
  simp only [updateMut, update, absA, hlen]
  split
  · exact ⟨rfl, hl, hb, ho⟩
  · split
    · next hf =>
      have hfl : (inp.take (128 - c.buflen)).length = 128 - c.buflen := by rw [List.length_take]; omega
      have hl1 := blit_length c.buf c.buflen (inp.take (128 - c.buflen)) (by omega)
      rw [blit_take c.buf _ _ 128 (by omega) (by omega)]
      refine ⟨?_, ?_, loop_buf_le _ _ _, ho⟩
      · rw [blit_zero, List.take_left' rfl]
      · exact (blit_length _ 0 _ (by rw [Nat.zero_add, hl1, hl]; exact loop_buf_le _ _ _)).trans (hl1.trans hl)
    · next hf =>
      refine ⟨?_, ?_, ?_, ho⟩
      · rw [blit_take _ _ _ _ (by omega) rfl]
      · exact (blit_length _ _ _ (by omega)).trans hl
      · show c.buflen + inp.length ≤ 128
        omega

theorem initA_refines (nn : Nat) (hn : nn ≤ 64) : absA (initA nn) = init nn ∧ InvA (initA nn) :=
  ⟨rfl, List.length_replicate, Nat.zero_le _, hn⟩

theorem foldl_updateMut_refines (chunks : List Bytes) (c : CtxA) (hc : InvA c) :
    absA (chunks.foldl updateMut c) = chunks.foldl update (absA c) ∧ InvA (chunks.foldl updateMut c) := by
  induction chunks generalizing c with
  | nil => exact ⟨rfl, hc⟩
  | cons x xs ih =>
    obtain ⟨h1, h2⟩ := updateMut_refines c x hc
    rw [List.foldl_cons, List.foldl_cons, ← h1]
    exact ih _ h2

theorem finalizeMut_refines (c : CtxA) (hc : InvA c) : finalizeMut c = finalize (absA c) := by
  have hlen := absA_buf_length c hc
  obtain ⟨hl, hb, ho⟩ := hc
  have hpad : (blit c.buf c.buflen (List.replicate (128 - c.buflen) 0)).take 128 = pad (c.buf.take c.buflen) := by
    rw [blit_take _ _ _ _ (by omega) (by rw [List.length_replicate]; omega), pad, hlen]
  simp only [finalizeMut, finalize, absA, digestOf, hpad, hlen]
  rw [blit_zero, List.take_append_of_le_length]
  rw [words_length, Array.length_toList, compress_size]; omega

theorem stream_eq_oneshot_array (nn : Nat) (hn : nn ≤ 64) (chunks : List Bytes) :
    finalizeMut (chunks.foldl updateMut (initA nn)) = blake2b nn chunks.flatten := by
  obtain ⟨h0, i0⟩ := initA_refines nn hn
  obtain ⟨h1, h2⟩ := foldl_updateMut_refines chunks (initA nn) i0
  rw [finalizeMut_refines _ h2, h1, h0, stream_eq_oneshot]

theorem rfcDd_pred (ll : Nat) : rfcDd ll - 1 = (ll - 1) / 128 := by
  unfold rfcDd
  split
  · next h => rw [h]
  · next h => rw [show ll + 127 = ll - 1 + 128 by omega, Nat.add_div_right _ (by decide), Nat.add_sub_cancel]

theorem rfcBlock_zero (data : Bytes) : rfcBlock data 0 = pad (data.take 128) := rfl

theorem rfcBlock_succ (data : Bytes) (i : Nat) : rfcBlock data (i + 1) = rfcBlock (data.drop 128) i := by
  rw [rfcBlock, rfcBlock, List.drop_drop, Nat.mul_succ, Nat.add_comm]

theorem pad_full (b : Bytes) (h : b.length = 128) : pad b = b := by
  rw [pad, h, Nat.sub_self, List.replicate_zero, List.append_nil]

/-- `blake2b_eq_rfc_indexed` with the state and byte counter the recursion of `rfcBlocks` starts from left general,
    which is what its induction needs -/
theorem rfcBlocks_eq_indexed (h : H) (t : Nat) (data : Bytes) :
    rfcBlocks h t data =
      compress ((List.range (rfcDd data.length - 1)).foldl
          (fun h i => compress h (rfcBlock data i) (t + (i + 1) * 128) false) h)
        (rfcBlock data (rfcDd data.length - 1)) (t + data.length) true := by
  rw [rfcDd_pred]
  fun_induction rfcBlocks h t data with
  | case1 h t data hd ih =>
    have hn : (data.length - 1) / 128 = ((data.drop 128).length - 1) / 128 + 1 := by
      rw [List.length_drop, show data.length - 1 = data.length - 128 - 1 + 128 by omega,
        Nat.add_div_right _ (by decide)]
    have hcnt : ∀ i, t + (i + 1 + 1) * 128 = t + 128 + (i + 1) * 128 := by intro i; omega
    rw [ih, hn, List.range_succ_eq_map, List.foldl_cons, List.foldl_map]
    simp only [rfcBlock_succ, rfcBlock_zero, hcnt]
    rw [pad_full _ (by rw [List.length_take]; omega), List.length_drop, Nat.zero_add, Nat.one_mul,
      show t + 128 + (data.length - 128) = t + data.length by omega]
  | case2 h t data hd =>
    rw [show (data.length - 1) / 128 = 0 by omega, List.range_zero, List.foldl_nil, rfcBlock_zero,
      List.take_of_length_le (by omega)]

/-- the model's one-shot digest is RFC 7693 §3.3 as printed (block array, `FOR i = 0 TO dd − 2`) -/
theorem blake2b_eq_rfc_indexed (nn : Nat) (data : Bytes) : blake2b nn data = blake2bRfc nn data := by
  unfold blake2b blake2bRfc
  rw [rfcBlocks_eq_indexed]
  simp

/-- `hash_cbor` is the digest of the CBOR encoding, whatever writes the encoder performs -/
theorem hash_cbor_eq (bits : Nat) (writes : List Bytes) :
    hashCbor bits writes = blake2b (bits / 8) writes.flatten :=
  stream_eq_oneshot (bits / 8) writes

theorem two_inputs (bits : Nat) (a b : Bytes) :
    finalize (update (update (hasherNew bits) a) b) = blake2b (bits / 8) (a ++ b) :=
  (stream_eq_oneshot (bits / 8) [a, b]).trans (by simp)

theorem hash_eq (bits : Nat) (bytes : Bytes) : hash bits bytes = blake2b (bits / 8) bytes :=
  (stream_eq_oneshot (bits / 8) [bytes]).trans (by simp)

theorem hash_tagged_eq (bits : Nat) (bytes : Bytes) (tag : UInt8) :
    hashTagged bits bytes tag = blake2b (bits / 8) (tag :: bytes) :=
  two_inputs bits [tag] bytes

theorem hash_tagged_cbor_eq (bits : Nat) (writes : List Bytes) (tag : UInt8) :
    hashTaggedCbor bits writes tag = blake2b (bits / 8) (tag :: writes.flatten) :=
  -- the tag is one more `input` in front of the encoder's writes
  stream_eq_oneshot (bits / 8) ([tag] :: writes)

theorem hash_cbor_tokens (bits : Nat) (toks : List Tok) :
    hashCbor bits (cborWrites toks) = blake2b (bits / 8) (cborBytes toks) :=
  hash_cbor_eq bits (cborWrites toks)

theorem hexVal_digit : ∀ n, n < 16 → hexVal (hexDigitByte n) = some n := by decide

theorem hexPairs_toHex (h : Bytes) : hexPairs (hashToHex h) = .ok h := by
  induction h with
  | nil => rfl
  | cons b bs ih =>
    have hb : b.toNat < 256 := UInt8.toNat_lt b
    show hexPairs (hexDigitByte (b.toNat / 16) :: hexDigitByte (b.toNat % 16) :: hashToHex bs) = _
    rw [hexPairs, hexVal_digit _ (by omega), hexVal_digit _ (by omega)]
    simp only [ih, Nat.div_add_mod' b.toNat 16, UInt8.ofNat_toNat]

theorem hashToHex_length (h : Bytes) : (hashToHex h).length = 2 * h.length := by
  induction h with
  | nil => rfl
  | cons b bs ih => simp [hashToHex] at ih ⊢; omega

theorem hash_hex_roundtrip (n : Nat) (h : Bytes) (hl : h.length = n) :
    hashFromStr n (hashToHex h) = .ok h := by
  rw [hashFromStr, hashToHex_length, hl, if_neg (by omega), if_neg (by omega)]
  exact hexPairs_toHex h

theorem hexPairs_length : ∀ (s r : Bytes), hexPairs s = .ok r → r.length = s.length / 2
  | [], r, h => by simp [hexPairs] at h; subst h; rfl
  | [_], r, h => by simp [hexPairs] at h; subst h; simp
  | a :: b :: rest, r, h => by
    rw [hexPairs] at h
    split at h
    · split at h
      · next r' hr =>
        simp at h; subst h
        have := hexPairs_length rest r' hr
        simp [this]; omega
      · simp at h
    · simp at h

/-- whatever `FromStr` accepts has exactly `n` bytes -/
theorem hash_from_str_length (n : Nat) (s r : Bytes) (h : hashFromStr n s = .ok r) :
    r.length = n ∧ s.length = 2 * n := by
  unfold hashFromStr at h
  split at h
  · simp at h
  · split at h
    · simp at h
    · have := hexPairs_length s r h
      omega

theorem hash_from_str_rejects (n : Nat) (s : Bytes) (hs : s.length ≠ 2 * n) :
    ∃ e, hashFromStr n s = .error e := by
  cases hr : hashFromStr n s with
  | error e => exact ⟨e, rfl⟩
  | ok r => exact absurd (hash_from_str_length n s r hr).2 hs

/-- serde, through a JSON string -/
theorem hash_json_roundtrip (n : Nat) (h : Bytes) (hl : h.length = n) : hashOfJson n (hashToJson h) = some h := by
  have hbody : ∀ c ∈ hashToHex h, c ≠ 0x22 ∧ c ≠ 0x5c ∧ c.toNat ≥ 0x20 := by
    intro c hc
    simp only [hashToHex, List.mem_flatMap] at hc
    obtain ⟨b, _, hb⟩ := hc
    have hd : ∀ k, k < 16 → hexDigitByte k ≠ 0x22 ∧ hexDigitByte k ≠ 0x5c ∧ (hexDigitByte k).toNat ≥ 0x20 := by decide
    have hbl : b.toNat < 256 := UInt8.toNat_lt b
    simp only [List.mem_cons, List.not_mem_nil, or_false] at hb
    rcases hb with rfl | rfl <;> exact hd _ (by omega)
  simp only [hashToJson, List.cons_append, List.nil_append, hashOfJson]
  simp [List.getLast?_append, hash_hex_roundtrip n h hl]
  exact hbody

/-- additional-information value and argument width of the four long head forms -/
def wideForms : List (Nat × Nat) := [(24, 1), (25, 2), (26, 4), (27, 8)]

theorem head_cases (mt n : Nat) (hn : n < 2 ^ 64) :
    (n < 24 ∧ head mt n = [UInt8.ofNat (mt * 32 + n)]) ∨
    ∃ i w, (i, w) ∈ wideForms ∧ n < 256 ^ w ∧ head mt n = UInt8.ofNat (mt * 32 + i) :: beBytes w n := by
  by_cases h0 : n < 24
  · exact .inl ⟨h0, by rw [head, if_pos h0]⟩
  by_cases h1 : n < 256
  · exact .inr ⟨24, 1, by decide, h1, by rw [head, if_neg h0, if_pos h1]⟩
  by_cases h2 : n < 65536
  · exact .inr ⟨25, 2, by decide, h2, by rw [head, if_neg h0, if_neg h1, if_pos h2]⟩
  by_cases h4 : n < 4294967296
  · exact .inr ⟨26, 4, by decide, h4, by rw [head, if_neg h0, if_neg h1, if_neg h2, if_pos h4]⟩
  · exact .inr ⟨27, 8, by decide, hn, by rw [head, if_neg h0, if_neg h1, if_neg h2, if_neg h4]⟩

theorem cborBytesDecode_short (n : Nat) (rest : Bytes) (hn : n < 24) :
    cborBytesDecode (UInt8.ofNat (2 * 32 + n) :: rest) =
      if rest.length < n then .error .eoi else .ok (rest.take n) := by
  have e : (UInt8.ofNat (2 * 32 + n)).toNat = 64 + n := UInt8.toNat_ofNat_of_lt' (by show _ < 256; omega)
  have h1 : (64 + n) / 32 = 2 := by omega
  have h2 : (64 + n) % 32 = n := by omega
  have h3 : ¬ (2 ≠ 2 ∨ n = 31) := by omega
  simp only [cborBytesDecode, e, h1, h2, if_neg h3, if_pos hn]

/-- on a long head the decoder reads the `w`-byte big-endian length, then that many payload bytes (the right
    side is the tail of `cborBytesDecode` with the width `w` for the four literal ones) -/
theorem cborBytesDecode_wide (i w : Nat) (rest : Bytes) (hiw : (i, w) ∈ wideForms) :
    cborBytesDecode (UInt8.ofNat (2 * 32 + i) :: rest) =
      match (if rest.length < w then .error .eoi else .ok (beNat (rest.take w), rest.drop w) :
        Except CborErr (Nat × Bytes)) with
      | .error e => .error e
      | .ok (n, rest) => if rest.length < n then .error .eoi else .ok (rest.take n) := by
  simp only [wideForms, List.mem_cons, Prod.mk.injEq, List.not_mem_nil, or_false] at hiw
  rcases hiw with ⟨rfl, rfl⟩ | ⟨rfl, rfl⟩ | ⟨rfl, rfl⟩ | ⟨rfl, rfl⟩ <;> rfl

/-- `d.bytes()` reads back what `e.bytes(b)` wrote (any trailing input is left alone) -/
theorem cbor_bytes_roundtrip (b rest : Bytes) (hb : b.length < 2 ^ 64) :
    cborBytesDecode (head 2 b.length ++ b ++ rest) = .ok b := by
  rcases head_cases 2 b.length hb with ⟨h, e⟩ | ⟨i, w, hiw, hw, e⟩
  · rw [e, List.append_assoc, List.singleton_append, cborBytesDecode_short _ _ h]
    simp
  · rw [e, List.append_assoc, List.cons_append, cborBytesDecode_wide _ _ _ hiw]
    have hlen : ¬ w + (b.length + rest.length) < w := by omega
    simp [beBytes_length, beNat_beBytes, Nat.mod_eq_of_lt hw, hlen]

theorem hash_cbor_roundtrip (n : Nat) (h rest : Bytes) (hl : h.length = n) (hn : n < 2 ^ 64) :
    hashDecode n (hashEncode h ++ rest) = .ok h := by
  unfold hashDecode hashEncode
  rw [cbor_bytes_roundtrip h rest (by omega)]
  simp [hl]

/-- a CBOR byte string of any other length is rejected (feature `relaxed` off) -/
theorem hash_decode_rejects (n : Nat) (bs rest : Bytes) (hl : bs.length ≠ n) (hb : bs.length < 2 ^ 64) :
    hashDecode n (head 2 bs.length ++ bs ++ rest) = .error .msg := by
  unfold hashDecode
  rw [cbor_bytes_roundtrip bs rest hb]
  simp [hl]

theorem hash_decode_length (n : Nat) (inp r : Bytes) (h : hashDecode n inp = .ok r) : r.length = n := by
  unfold hashDecode at h
  split at h
  · simp at h
  · split at h
    · next hh => simp at h; subst h; exact hh
    · simp at h

theorem hash_from_slice_iff (n : Nat) (bs : Bytes) :
    (hashFromSlice n bs = some bs ↔ bs.length = n) ∧ (hashFromSlice n bs = none ↔ bs.length ≠ n) := by
  unfold hashFromSlice; split <;> simp_all

/-- the Praos nonce combination `⭒` -/
def nonceOp (a b : Bytes) : Bytes := blake2b256 (a ++ b)

/-- epoch nonce = candidate ⭒ previous-epoch block hash, then (if present) ⭒ extra entropy -/
def praosEpochNonce (nc nh : Bytes) : Option Bytes → Bytes
  | none => nonceOp nc nh
  | some e => nonceOp (nonceOp nc nh) e

/-- evolving nonce: ηv ⭒ blake2b_256 (VRF output) -/
def praosRollingNonce (prev vrf : Bytes) : Bytes := nonceOp prev (blake2b256 vrf)

theorem epoch_nonce_def (nc nh : Bytes) (extra : Option Bytes) :
    epochNonce nc nh extra = praosEpochNonce nc nh extra := by
  cases extra <;> simp [epochNonce, praosEpochNonce, nonceOp, two_inputs, blake2b256]

theorem rolling_nonce_def (prev vrf : Bytes) (hv : vrf.length = 32 ∨ vrf.length = 64) :
    rollingNonce prev vrf = some (praosRollingNonce prev vrf) := by
  simp [rollingNonce, hv, praosRollingNonce, nonceOp, two_inputs, hash_eq, blake2b256]

theorem rolling_nonce_panics_iff (prev vrf : Bytes) :
    rollingNonce prev vrf = none ↔ ¬ (vrf.length = 32 ∨ vrf.length = 64) := by
  unfold rollingNonce; split <;> simp_all

/-- RFC 7693 appendix A: BLAKE2b-512("abc") -/
example : toHex (blake2b 64 abc) =
    "ba80a53f981c4d0d6a2797b69f12f6e94c212f14685ac4b74b12bb6fdbffa2d1" ++
    "7d87c5392aab792dc252d5de4533cc9518d38aa8dbf1925ab92386edd4009923" := by decide +kernel

example : hashFromStr 2 [0x61, 0x42, 0x30, 0x39] = .ok [0xab, 0x09] := by rfl
example : hashFromStr 2 [0x61, 0x42, 0x30] = .error .odd := by rfl
example : hashFromStr 2 [0x61, 0x42] = .error .length := by rfl
example : hashFromStr 1 [0x61, 0x67] = .error .char := by rfl
example : hashDecode 2 [0x42, 1, 2, 0xff] = .ok [1, 2] := by rfl
example : hashDecode 2 [0x43, 1, 2, 3] = .error .msg := by rfl
example : hashDecode 2 [0x43, 1, 2] = .error .eoi := by rfl
example : hashDecode 2 [0x5f, 0x42, 1, 2, 0xff] = .error .type := by rfl
example : hashDecode 2 [0x58, 2, 1, 2] = .ok [1, 2] := by rfl
example : cborBytes [.array 2, .uint 500, .bytes [1, 2, 3]] = [0x82, 0x19, 0x01, 0xf4, 0x43, 1, 2, 3] := by decide

end PallasVerif.Props.C10
