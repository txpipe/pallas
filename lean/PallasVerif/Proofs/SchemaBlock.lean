import PallasVerif.Proofs.SchemaIso
/-!
  Isomorphism on chain data, for the shape every post-Byron block has
  (`[header, [* body], [* witness set], {* index => aux data}, ? [* index]]` with `KeepRaw`
  around header, bodies, witness sets and auxiliary data): if the glue between the retained
  raw parts is canonical, whatever the decoder accepts is re-encoded item for item.
  The five fields are instances of the closure rules `IsoOn.X` of `Proofs/SchemaIso.lean` (no static check of
  the part schemas is needed: everything below the glue is `KeepRaw`); the struct layer is peeled
  field by field (`arr_here_iso`) and not taken from `IsoOn.struct`, whose check for an array layout,
  `canonArrFields`, is phrased through the values `decArr` returns and so cannot be established for an item
  before it is decoded.
-/
namespace PallasVerif.Schema
open PallasVerif.Cbor

theorem dec_uint32 (env : Env) (n : Nat) : dec env (n + 1) (.uint 32) = decUInt 32 := by funext x; simp [dec]
theorem enc_uint32 (env : Env) (n : Nat) : enc env (n + 1) (.uint 32) = encUInt 32 := by funext x; simp [enc]
theorem dec_struct (env : Env) (n : Nat) (l : Layout) (t : Option Nat) (fs : List (Nat × Schema)) :
    dec env (n + 1) (.struct l t fs) = decStruct (dec env n) l t fs := by funext x; simp only [dec]
theorem enc_struct (env : Env) (n : Nat) (l : Layout) (t : Option Nat) (fs : List (Nat × Schema)) :
    enc env (n + 1) (.struct l t fs) = encStruct (enc env n) l t fs := by funext x; simp only [enc]
theorem encKeepRaw_raw (e : Value → Option Item) (a : Item) (y : Value) : encKeepRaw e (.raw (some a) y) = some a := rfl

theorem decUInt_mkUInt (k : Nat) (hk : k < 2 ^ 32) : decUInt 32 (mkUInt k) = some (.nat k) := by
  simp [decUInt, mkUInt_uint k (by omega), hk]

theorem canonUInt_mkUInt (k : Nat) (hk : k < 2 ^ 64) : canonUInt (mkUInt k) = true := by
  simp [canonUInt, mkUInt, headMin, minHead_major, minHead_val 0 k hk, hk]

/-- `Block { header: KeepRaw<H>, transaction_bodies: MaybeIndefArray<KeepRaw<B>>,
    transaction_witness_sets: MaybeIndefArray<KeepRaw<W>>,
    auxiliary_data_set: BTreeMap<u32, KeepRaw<A>>, invalid_transactions: Option<Vec<u32>> }` -/
def blockSchema (H B W A : Schema) : Schema :=
  .struct .array none [(0, .keepRaw H), (1, .maybeIndef (.keepRaw B)), (2, .maybeIndef (.keepRaw W)),
    (3, .btmap (.uint 32) (.keepRaw A)), (4, .opt (.vec (.uint 32)))]

/-- `it` is the array of `xs` in one of the two forms a `MaybeIndefArray` keeps: minimal definite, or indefinite -/
def ArrOf (it : Item) (xs : List Item) : Prop :=
  (it = mkArray xs ∧ xs.length < 2 ^ 64) ∨ it = .seqIndef 4 xs

/-- entries `index => KeepRaw<T>` with minimally encoded keys -/
def auxPairs (kas : List (Nat × Item)) : List (Item × Item) := kas.map (fun p => (mkUInt p.1, p.2))

/-- the optional fifth element: a minimally encoded list of transaction indices -/
def invItems : Option (List Nat) → List Item
  | none => []
  | some idxs => [mkArray (idxs.map mkUInt)]

/-- a `MaybeIndefArray<KeepRaw<T>>` re-encodes a minimal definite array and *any* indefinite array -/
theorem ArrOf.canon {it : Item} {xs : List Item} (h : ArrOf it xs) : canonMaybeIndef (fun _ => true) it = true := by
  rcases h with ⟨rfl, hl⟩ | rfl
  · simp [canonMaybeIndef, mkArray, hl]
  · simp [canonMaybeIndef]

theorem auxPairs_canon : ∀ (kas : List (Nat × Item)), (∀ p, p ∈ kas → p.1 < 2 ^ 32) →
    pairsAll canonUInt (fun _ => true) (flattenPairs (auxPairs kas)) = true ∧
    mapOpt (fun e : Item × Item => decUInt 32 e.1) (auxPairs kas) = some (kas.map (fun p => Value.nat p.1)) := by
  intro kas
  induction kas with
  | nil => intro _; exact ⟨rfl, rfl⟩
  | cons q kas ih =>
    intro hb
    have hk : q.1 < 2 ^ 32 := hb q (by simp)
    obtain ⟨h1, h2⟩ := ih (fun p hp => hb p (by simp [hp]))
    have hc : auxPairs (q :: kas) = (mkUInt q.1, q.2) :: auxPairs kas := rfl
    rw [hc]
    exact ⟨by simp [flattenPairs, pairsAll, canonUInt_mkUInt q.1 (by omega), h1],
      by simp [mapOpt, decUInt_mkUInt q.1 hk, h2]⟩

theorem auxmap_canon (kas : List (Nat × Item)) (hb : ∀ p, p ∈ kas → p.1 < 2 ^ 32)
    (hs : strictSorted (kas.map (fun p => Value.nat p.1)) = true) (hl : kas.length < 2 ^ 64) :
    canonMap canonUInt (fun _ => true) (mkMapFlat (flattenPairs (auxPairs kas))) = true ∧
    keysSorted (decUInt 32) (mkMapFlat (flattenPairs (auxPairs kas))) = true := by
  obtain ⟨h1, h2⟩ := auxPairs_canon kas hb
  have hlen : (flattenPairs (auxPairs kas)).length = 2 * kas.length := by simp [flattenPairs_length, auxPairs]
  constructor
  · simp only [canonMap, mkMapFlat, hlen, h1, BEq.rfl, Bool.true_and, Bool.and_true, Bool.and_eq_true, decide_eq_true_eq]
    omega
  · simp only [keysSorted, mkMapFlat_entries, h2, hs]

theorem invalid_canon (idxs : List Nat) (hb : ∀ i, i ∈ idxs → i < 2 ^ 32) (hl : idxs.length < 2 ^ 64) :
    canonArr canonUInt (mkArray (idxs.map mkUInt)) = true := by
  simp only [canonArr, mkArray, List.length_map, BEq.rfl, hl, decide_true, Bool.true_and, List.all_map, List.all_eq_true]
  intro i hi
  exact canonUInt_mkUInt i (by have := hb i hi; omega)

/-- one field of an array-layout struct met at its own index (no `null` gap before it). `hn`: what the field
    decodes to is not nil, so the truncating encoder (`trunc = true` writes nothing after the last non-nil
    field) does write it -/
theorem arr_here_iso {e : Schema → Value → Option Item} {d : Schema → Item → Option Value} {pos : Nat} {s : Schema}
    {fs : List (Nat × Schema)} {it : Item} {rest : List Item}
    (hn : ∀ v, d s it = some v → isNilField s v = false) (h1 : Iso (e s) (d s) it)
    (h2 : ∀ vs, decArr d (pos + 1) fs rest = some vs → encArr e true (pos + 1) fs vs = some rest) :
    ∀ vs, decArr d pos ((pos, s) :: fs) (it :: rest) = some vs → encArr e true pos ((pos, s) :: fs) vs = some (it :: rest) := by
  intro vs hd
  have hdec := decArr_gap d pos pos s fs it rest
  simp only [Nat.sub_self, List.replicate_zero, List.nil_append] at hdec
  simp only [hdec, Option.bind_eq_some_iff, Option.map_eq_some_iff] at hd
  obtain ⟨v, hv, ws, hr, rfl⟩ := hd
  have henc := encArr_gap e true pos pos s fs v ws (by simp [allNil, hn v hv]) (Nat.le_refl _)
  simp only [Nat.sub_self, List.replicate_zero, List.nil_append] at henc
  rw [henc, h1 v hv, h2 ws hr]
  rfl

theorem notNil_of_notOpt {s : Schema} (h : s.isOpt = false) (v : Value) : isNilField s v = false := by
  simp [isNilField, h]

/-- the glue: the outer array and the auxiliary-data map have minimal definite heads, the map keys are minimally
    encoded `u32`s in strictly increasing order, the body / witness arrays are minimal-definite or indefinite, the
    invalid-transaction list (if present) is minimal -/
theorem block_iso (env : Env) (n : Nat) (H B W A : Schema) (hdr bodies wits : Item) (bx wx : List Item)
    (kas : List (Nat × Item)) (inv : Option (List Nat)) (v : Value)
    (hb : ArrOf bodies bx) (hw : ArrOf wits wx)
    (hk : ∀ p, p ∈ kas → p.1 < 2 ^ 32) (hs : strictSorted (kas.map (fun p => Value.nat p.1)) = true)
    (hl : kas.length < 2 ^ 64)
    (hi : ∀ idxs, inv = some idxs → (∀ i, i ∈ idxs → i < 2 ^ 32) ∧ idxs.length < 2 ^ 64)
    (hd : dec env (n + 4) (blockSchema H B W A)
      (mkArray ([hdr, bodies, wits, mkMapFlat (flattenPairs (auxPairs kas))] ++ invItems inv)) = some v) :
    enc env (n + 4) (blockSchema H B W A) v
      = some (mkArray ([hdr, bodies, wits, mkMapFlat (flattenPairs (auxPairs kas))] ++ invItems inv)) := by
  -- everything is canonical under `KeepRaw`
  have raws : ∀ m (s : Schema), IsoOn (fun _ => true) (enc env (m + 1) (.keepRaw s)) (dec env (m + 1) (.keepRaw s)) :=
    fun _ _ => .keepRaw _ _
  have u32 : ∀ m, IsoOn canonUInt (enc env (m + 1) (.uint 32)) (dec env (m + 1) (.uint 32)) := fun _ => .uint 32
  obtain ⟨ca, cs⟩ := auxmap_canon kas hk hs hl
  -- the struct layer: an array read and written field by field; the fuel `n + 4` is one unit each for the
  -- struct, its fields (`btmap` / `opt` / `maybeIndef`), their components (`vec` / `keepRaw`) and the `u32` leaves
  rw [blockSchema, dec_struct] at hd
  simp only [decStruct, unwrapTag, mkArray_items, Option.map_eq_some_iff, List.cons_append, List.nil_append] at hd
  obtain ⟨vs, hvs, rfl⟩ := hd
  rw [blockSchema, enc_struct]
  refine congrArg (Option.map mkArray) (?_ : encArr _ true 0 _ vs = some _)
  -- `arr_here_iso` chains on goals of the form `∀ vs, decArr … = some vs → encArr … vs = some …`
  revert vs
  refine arr_here_iso (fun v _ => notNil_of_notOpt rfl v) ((raws (n + 2) H).iso rfl) ?_
  refine arr_here_iso (fun v _ => notNil_of_notOpt rfl v) ((raws (n + 1) B).maybeIndef.iso hb.canon) ?_
  refine arr_here_iso (fun v _ => notNil_of_notOpt rfl v) ((raws (n + 1) W).maybeIndef.iso hw.canon) ?_
  refine arr_here_iso (fun v _ => notNil_of_notOpt rfl v)
    (((u32 (n + 1)).btmap (raws (n + 1) A)).iso (by rw [dec_uint32, ca, cs]; rfl)) ?_
  cases inv with
  | none =>
    intro vs hd
    rw [show invItems none = [] from rfl, (decArr_allNil _ _ [.none] _ rfl).1] at hd
    cases hd
    rfl
  | some idxs =>
    have hne : typeOf (mkArray (idxs.map mkUInt)) ≠ .null := by simp [mkArray_typeOf]
    refine arr_here_iso ?_ ((u32 n).vec.opt.iso
      (by simp [hne, invalid_canon idxs (hi idxs rfl).1 (hi idxs rfl).2])) ?_
    · intro v hv
      simp only [dec, decOpt, hne, if_false, Option.map_eq_some_iff] at hv
      obtain ⟨w, _, rfl⟩ := hv
      simp [isNilField]
    · intro vs hd
      simp only [decArr, utf8OkList, if_true, Option.some.injEq] at hd
      subst hd
      rfl

end PallasVerif.Schema
