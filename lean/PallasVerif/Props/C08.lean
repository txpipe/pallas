import PallasVerif.Model.ScriptData
import PallasVerif.Proofs.ScriptData
/-!
# C08 — Script integrity hash follows the ledger formula

Model: `Model/ScriptData.lean` (transcription of `pallas-primitives/src/conway/script_data.rs`:
`impl Encode for LanguageViews`, `ScriptData::hash`, `ScriptData::build_for`, plus the encoders of
`Redeemers` it calls). The Lean side is an *independent implementation* of the whole formula (own CBOR
encoder, own BLAKE2b-256 from `Model/Blake2b.lean`); the correspondence stream compares its digests
with `ScriptData::hash` / `build_for` on generated inputs and on the five real transactions.
-/
namespace PallasVerif.Props.C08
open PallasVerif.Cbor PallasVerif.PlutusData PallasVerif.ScriptData

/-- every `LanguageViews` built by `FromIterator` / `insert` satisfies the BTreeMap invariant -/
theorem views_invariant_of_collect (xs : List (Nat × CostModel)) : keysAsc (keys (fromList xs)) = true :=
  foldl_insert_keysAsc xs [] (by simp [keys, keysAsc])

/-- **canonical key order for every subset of `u8` language ids** -/
theorem views_canonical (m : LanguageViews) (h : keysAsc (keys m) = true) (hb : ∀ k ∈ keys m, k < 256) :
    chain canonLt ((canonicalOrder m).map keyBytes) = true ∧
    chain bytewiseLt ((canonicalOrder m).map keyBytes) = true := by
  have hlt : ∀ l ∈ canonicalOrder m, l < 256 := fun l hl => hb l ((canonicalOrder_mem m h l).1 hl)
  have hp := (canonicalOrder_pairwise m h hb).imp_of_mem fun ha hb' hab => keyBytes_lt_of_ck _ _ (hlt _ ha) (hlt _ hb') hab
  exact ⟨chain_of_pairwise _ _ (List.pairwise_map.2 (hp.imp And.left)),
         chain_of_pairwise _ _ (List.pairwise_map.2 (hp.imp And.right))⟩

/-- every language of the map is written, once (the order is a re-arrangement of the keys) -/
theorem views_keys_complete (m : LanguageViews) (h : keysAsc (keys m) = true) :
    (∀ k, k ∈ canonicalOrder m ↔ k ∈ keys m) ∧ (canonicalOrder m).length = m.length :=
  ⟨canonicalOrder_mem m h, canonicalOrder_length m h⟩

/-- the order in closed form: the ascending keys with a leading 0 (PlutusV1) moved to the end -/
theorem views_order (m : LanguageViews) (h : keysAsc (keys m) = true) :
    canonicalOrder m = moveZeroLast (keys m) := canonicalOrder_eq m h

/-- V2, V3, then V1 — for every subset of {V1, V2, V3} and any cost models -/
theorem views_plutus_order (a b c : CostModel) :
    canonicalOrder [(0, a), (1, b), (2, c)] = [1, 2, 0] ∧
    canonicalOrder [(0, a), (1, b)] = [1, 0] ∧ canonicalOrder [(0, a), (2, c)] = [2, 0] ∧
    canonicalOrder [(1, b), (2, c)] = [1, 2] ∧ canonicalOrder [(0, a)] = [0] ∧
    canonicalOrder [(1, b)] = [1] ∧ canonicalOrder [(2, c)] = [2] ∧ canonicalOrder [] = [] := by
  refine ⟨?_, ?_, ?_, ?_, ?_, ?_, ?_, ?_⟩ <;> exact views_order _ rfl

/-- the PlutusV1 quirk: key is the *byte string* `00` (`41 00`), value is a byte string wrapping an
    indefinite-length list of the coefficients; all other languages: uint key, definite list -/
theorem v1_entry_quirk (cm : CostModel) :
    (keyItem 0).encode = [0x41, 0x00] ∧
    (valueItem 0 cm).encode =
      (minHead 2 (cm.map fun c => (mkInt c).encode).flatten.length.succ.succ).encode ++
        (0x9f :: (cm.map fun c => (mkInt c).encode).flatten ++ [0xff]) ∧
    (∀ l, l ≠ 0 → (keyItem l).encode = (minHead 0 l).encode ∧
      (valueItem l cm).encode = (minHead 4 cm.length).encode ++ (cm.map fun c => (mkInt c).encode).flatten) := by
  have hl : ∀ xs : List Int, encodeList (xs.map mkInt) = (xs.map fun c => (mkInt c).encode).flatten := fun xs => by
    rw [Traverse.Slices.encodeList_eq_flatten, List.map_map]; rfl
  refine ⟨by decide, ?_, ?_⟩
  · simp [valueItem, mkBytes, Item.encode, hl, initByte]
  · intro l h
    simp [keyItem, valueItem, h, mkUInt, mkArray, Item.encode, hl]

/-- the language views are exactly one well-formed CBOR data item: a definite map with one entry per
    language (for every map whose cost models fit the Rust types: `viewsFit`) -/
theorem views_single_item (m : LanguageViews) (h : keysAsc (keys m) = true) (hm : viewsFit m = true) :
    isSingleItem (viewsBytes m) = true ∧
    ∃ es, viewsItem m = .seq (minHead 5 m.length) es ∧ es.length = 2 * m.length := by
  refine ⟨isSingleItem_encode _ (viewsItem_wf m h hm), entryItems m (canonicalOrder m), rfl, ?_⟩
  rw [(entryItems_wf m hm _).2, canonicalOrder_length m h]

/-- **the formula**: BLAKE2b-256 of redeemer bytes (or the empty map), the datum bytes (or nothing),
    the language views (or the empty map) -/
theorem hash_formula (sd : ScriptData) :
    hashOf sd = Blake2b.blake2b256 (sd.redeemers.getD [0xa0] ++ sd.datums.getD [] ++
      (sd.languageViews.map viewsBytes).getD [0xa0]) := by
  unfold hashOf hashInput
  cases sd.redeemers <;> cases sd.datums <;> cases sd.languageViews <;> rfl

/-- no hash is produced exactly when there are neither redeemers nor datums -/
theorem no_hash_iff (r d : Option Bytes) (v : Option LanguageViews) :
    buildFor r d v = none ↔ r = none ∧ d = none := by
  unfold buildFor
  cases r <;> cases d <;> simp

/-- what is hashed is what was given: redeemer and datum bytes untouched; language views only
    together with redeemers -/
theorem build_keeps_inputs (r d : Option Bytes) (v : Option LanguageViews) (sd : ScriptData)
    (h : buildFor r d v = some sd) :
    sd.redeemers = r ∧ sd.datums = d ∧ sd.languageViews = (if r.isSome then v else none) := by
  revert h
  fun_cases buildFor r d v with
  | case1 => exact nofun
  | case2 => rintro ⟨⟩; cases r <;> cases v <;> simp

/-- `build_for` followed by `hash`, in closed form -/
theorem build_hash (r d : Option Bytes) (v : Option LanguageViews) :
    (buildFor r d v).map hashOf =
      if r = none ∧ d = none then none
      else some (Blake2b.blake2b256 (r.getD [0xa0] ++ d.getD [] ++
        ((if r.isSome then v else none).map viewsBytes).getD [0xa0])) := by
  cases r <;> cases d <;> cases v <;> rfl

/-- a datum-only witness set hashes `a0 ‖ datums ‖ a0` whatever cost models are supplied -/
theorem datum_only_has_empty_views (d : Bytes) (v : Option LanguageViews) :
    (buildFor none (some d) v).map hashOf = some (Blake2b.blake2b256 ([0xa0] ++ d ++ [0xa0])) := by
  simp [build_hash]

/-- the builder writes a hash iff it stages redeemers or datums (and was given language views); the
    hash is the formula over the very bytes it puts into the witness set; a datum-only transaction
    hashes `a0 ‖ datums ‖ a0` -/
theorem txbuilder_hash_formula (reds : List Redeemer) (dats : List PData) (lv : LanguageViews) :
    txBuilderHashOf reds dats (some lv) =
      if reds.isEmpty && dats.isEmpty then none
      else some (Blake2b.blake2b256
        ((if reds.isEmpty then [0xa0] else redeemersBytes (.list reds)) ++
         (if dats.isEmpty then [] else datumSetBytes dats) ++
         (if reds.isEmpty then [0xa0] else viewsBytes lv))) := by
  simp only [txBuilderHashOf, build_hash]
  cases reds.isEmpty <;> cases dats.isEmpty <;> rfl

theorem txbuilder_no_views_no_hash (reds : List Redeemer) (dats : List PData) :
    txBuilderHashOf reds dats none = none := rfl

def IsSlice (x ws : Bytes) : Prop := ∃ pre post, ws = pre ++ x ++ post

/-- **hash of a decoded witness set**: the hash is the formula at two parts `r`, `d` that are slices of the
    original bytes (the proof takes the values of keys 5 and 4; the statement does not say which slices); a hash
    exists iff one of them does -/
theorem ws_hash_formula (ws : Bytes) (views : Option LanguageViews) (res : Option Bytes)
    (H : wsBuildHash ws views = some res) :
    ∃ r d : Option Bytes, (∀ x ∈ r, IsSlice x ws) ∧ (∀ x ∈ d, IsSlice x ws) ∧
      (res = none ↔ r = none ∧ d = none) ∧
      (∀ h ∈ res, h = Blake2b.blake2b256 (r.getD [0xa0] ++ d.getD [] ++
        ((if r.isSome then views else none).map viewsBytes).getD [0xa0])) := by
  unfold wsBuildHash at H
  split at H
  · simp at H
  · rename_i i rest hp
    split at H
    · simp at H
    · rename_i es he
      simp only [Option.some.injEq] at H
      have hsl : ∀ k, ∀ x ∈ (fieldOf k es).map Item.encode, IsSlice x ws := by
        intro k x hx
        simp only [Option.mem_def, Option.map_eq_some_iff] at hx
        obtain ⟨v, hv, rfl⟩ := hx
        obtain ⟨e, _⟩ := parseItem_sound ws i rest hp
        obtain ⟨p, q, e'⟩ := Traverse.Slices.slice_mapGet (by rw [mapEntries_eq_wsEntries, he]; rfl) (fieldOf_eq_mapGet k es ▸ hv)
        exact ⟨p, q ++ rest, by rw [e, e']; simp⟩
      refine ⟨_, _, hsl 5, hsl 4, ?_⟩
      rw [← H, build_hash]
      simp

example : keysAsc (keys [(0, [1]), (1, [2]), (2, [3]), (24, []), (255, [])]) = true := by decide
example : canonicalOrder [(0, [1]), (1, [2]), (23, []), (24, []), (255, [])] = [1, 23, 24, 255, 0] := by decide
example : fromList [(2, [5]), (0, [1]), (2, [7]), (1, [])] = [(0, [1]), (1, []), (2, [7])] := by decide
example : viewsBytes [(0, [1, -2]), (1, [3])] =
    [0xa2, 0x01, 0x81, 0x03, 0x41, 0x00, 0x44, 0x9f, 0x01, 0x21, 0xff] := by decide
example : viewsBytes [] = [0xa0] := by decide
example : viewsFit [(0, [1, -2]), (1, [9223372036854775807, -9223372036854775808]), (255, [])] = true := by decide
example : (buildFor none none (some [(1, [])])).isNone = true := by decide
example : (buildFor (some [0x80]) none none).isSome = true := by decide
example : hashInput ⟨none, some [0xd9, 0x01, 0x02, 0x81, 0x00], some [(1, [])]⟩ =
    [0xa0, 0xd9, 0x01, 0x02, 0x81, 0x00, 0xa1, 0x01, 0x80] := by decide
example : redeemersBytes (.list [⟨0, 1, .int (.int 5), 7, 9⟩]) = [0x81, 0x84, 0x00, 0x01, 0x05, 0x82, 0x07, 0x09] := by decide
example : redeemersBytes (Redeemers.mapOf [⟨1, 0, .int (.int 5), 7, 9⟩, ⟨0, 3, .bytes [], 1, 2⟩]) =
    [0xa2, 0x82, 0x00, 0x03, 0x82, 0x40, 0x82, 0x01, 0x02, 0x82, 0x01, 0x00, 0x82, 0x05, 0x82, 0x07, 0x09] := by decide

end PallasVerif.Props.C08
