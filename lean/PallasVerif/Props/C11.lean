import PallasVerif.Proofs.LittleEndian
/-!
# C11 — Ed25519 signing and verification agree with RFC 8032   (partial)

Proved here, for all inputs:

* `verify_sign_generic` — sign-then-verify succeeds for **every** secret scalar, nonce prefix and
  message, for the `signWith` / `verifyWith` the model is built from, over any operations `O : Ops`
  that admit an *interpretation* `Interp O`: a map `φ` from the point representation into an abelian
  group that commutes with `add`/`neg`/`smul`, with `ℓ·φ(B) = 0` and `0 < ℓ ≤ 2^256`, an encoding that depends only
  on `φ`, 32-byte encodings and `dec (enc P)` landing in the class of `P`. These are structure fields
  (hypotheses of the theorem), not axioms. `toyInterp` instantiates them on a 13-element cyclic
  group with *unnormalised* representatives, so the theorem is not vacuous.
* `verify_sign_standard`, `verify_sign_extended` — the same statement specialised to the pallas
  entry points (`SecretKey::{public_key, sign}`, `SecretKeyExtended::{public_key, sign}`,
  `PublicKey::verify`), conditional on `Interp ed`.
* `check_structure_iff`, `check_structure_scalar`, `clamp_satisfies`, `from_bytes_accepts_iff` —
  the clamping check, over all byte values (the finite part is a `decide` over one byte, lifted).

**Not proved (named remainder):** `Interp ed`, i.e. that the extended-coordinate Edwards formulas
mod `2^255 − 19` with base point `B` form a group of which `B` has order `ℓ` and that
`encode`/`decodeLenient` are mutually inverse on it. Agreement of public keys and signatures with
RFC 8032 is by the RFC 8032 §7.1 vectors (driver self-test) and by the correspondence with the
real code and with an independent implementation (ed25519-dalek) in the harness.

**Where cryptoxide's `verify` is *not* the RFC 8032 reference** (so `FullStatement` below fails on the faithful
model; `¬ FullStatement` is not a theorem here: only the halves that need no field or curve computation are
proved, `verify_rejects_allzero` and, for the `y ≥ p` witness, `verifyRfc_rejects_noncanonical`; the other halves, and
both halves for `witnessXZeroSignPk`, are evaluated by the compiled `Ed25519.selfTest`; the witnesses are replayed
against the real code by the stream `ed25519` and recorded as known findings): it accepts non-canonical public-key
encodings (`y ≥ p`; `x = 0` with the sign bit set) and it rejects the all-zero public key outright.
-/
namespace PallasVerif.Props.C11
open PallasVerif.Ed25519

def nsmul {A : Type} (zero : A) (plus : A → A → A) : Nat → A → A
  | 0, _ => zero
  | n + 1, a => plus a (nsmul zero plus n a)

structure Interp (O : Ops) where
  A : Type
  zero : A
  plus : A → A → A
  minus : A → A
  plus_assoc : ∀ a b c, plus (plus a b) c = plus a (plus b c)
  plus_comm : ∀ a b, plus a b = plus b a
  zero_plus : ∀ a, plus zero a = a
  minus_plus : ∀ a, plus (minus a) a = zero
  φ : O.G → A
  φ_add : ∀ P Q, φ (O.add P Q) = plus (φ P) (φ Q)
  φ_neg : ∀ P, φ (O.neg P) = minus (φ P)
  φ_smul : ∀ n P, φ (O.smul n P) = nsmul zero plus n (φ P)
  order : nsmul zero plus O.ell (φ O.B) = zero
  ell_pos : 0 < O.ell
  -- a reduced scalar `S < ℓ` fits the 32 bytes `signWith` writes
  ell_le : O.ell ≤ 2 ^ 256
  -- the encoding depends on the group element only, not on the representative
  enc_congr : ∀ P Q, φ P = φ Q → O.enc P = O.enc Q
  enc_len : ∀ P, (O.enc P).length = 32
  -- decoding an encoding succeeds with *some* representative of the same group element
  dec_enc : ∀ P, ∃ Q, O.dec (O.enc P) = some Q ∧ φ Q = φ P

section Generic
variable {O : Ops} (I : Interp O)

local notation:65 a " ⊕ " b => Interp.plus I a b

theorem plus_zero (a : I.A) : (a ⊕ I.zero) = a := by rw [I.plus_comm, I.zero_plus]

theorem nsmul_add (m n : Nat) (a : I.A) :
    nsmul I.zero I.plus (m + n) a = (nsmul I.zero I.plus m a ⊕ nsmul I.zero I.plus n a) := by
  induction m with
  | zero => rw [Nat.zero_add, nsmul, I.zero_plus]
  | succ m ih => rw [Nat.add_right_comm, nsmul, nsmul, ih, I.plus_assoc]

theorem nsmul_zero (n : Nat) : nsmul I.zero I.plus n I.zero = I.zero := by
  induction n with
  | zero => rfl
  | succ n ih => rw [nsmul, ih, I.zero_plus]

theorem nsmul_mul (m n : Nat) (a : I.A) :
    nsmul I.zero I.plus (m * n) a = nsmul I.zero I.plus m (nsmul I.zero I.plus n a) := by
  induction m with
  | zero => rw [Nat.zero_mul]; rfl
  | succ m ih => rw [Nat.succ_mul, Nat.add_comm, nsmul_add, ih]; rfl

theorem nsmul_mod (n : Nat) :
    nsmul I.zero I.plus (n % O.ell) (I.φ O.B) = nsmul I.zero I.plus n (I.φ O.B) := by
  conv => rhs; rw [← Nat.div_add_mod n O.ell, Nat.mul_comm]
  rw [nsmul_add, nsmul_mul, I.order, nsmul_zero, I.zero_plus]

theorem nsmul_neg_cancel (h : Nat) (c : I.A) :
    (nsmul I.zero I.plus h (I.minus c) ⊕ nsmul I.zero I.plus h c) = I.zero := by
  induction h with
  | zero => exact I.zero_plus _
  | succ h ih =>
    -- move `c` next to `−c`: (−c + x) + (c + y) = −c + (c + (x + y))
    rw [nsmul, nsmul, I.plus_assoc, ← I.plus_assoc _ c, I.plus_comm _ c, I.plus_assoc c, ih, plus_zero,
      I.minus_plus]

/-- the group computation behind verification: `h·(−(a·B)) + ((h·a + r) mod ℓ)·B = r·B` -/
theorem verify_equation (a r h : Nat) (Q : O.G) (hQ : I.φ Q = I.φ (O.smul a O.B)) :
    I.φ (O.add (O.smul h (O.neg Q)) (O.smul ((h * a + r) % O.ell) O.B)) = I.φ (O.smul r O.B) := by
  rw [I.φ_add, I.φ_smul, I.φ_neg, hQ, I.φ_smul, I.φ_smul, I.φ_smul, nsmul_mod, nsmul_add, nsmul_mul,
    ← I.plus_assoc, nsmul_neg_cancel, I.zero_plus]

end Generic

/-- whatever the nonce `r`, the pair `(R, S) = (enc (r·B), (h·a + r) mod ℓ)` with `h = H(R ‖ pk ‖ msg) mod ℓ`
    verifies under `a`'s public key -/
theorem verify_any_nonce {O : Ops} (I : Interp O) (a r : Nat) (msg : Bytes)
    (hz : (pkOf O a).all (· == 0) = false) :
    verifyWith O (pkOf O a) msg
      (O.enc (O.smul r O.B) ++
        leBytes 32 ((O.H (O.enc (O.smul r O.B) ++ pkOf O a ++ msg) % O.ell * a + r) % O.ell)) = true := by
  obtain ⟨Q, (hdec : O.dec (pkOf O a) = some Q), hQ⟩ := I.dec_enc (O.smul a O.B)
  generalize hR : O.enc (O.smul r O.B) = R
  generalize hh : O.H (R ++ pkOf O a ++ msg) % O.ell = h
  have hRlen : R.length = 32 := hR ▸ I.enc_len _
  have henc := (I.enc_congr _ _ (verify_equation I a r h Q hQ)).trans hR
  have hS : (h * a + r) % O.ell < O.ell := Nat.mod_lt _ I.ell_pos
  generalize (h * a + r) % O.ell = S at henc hS
  have hSdec : leNat (leBytes 32 S) = S := by
    rw [leNat_leBytes]; apply Nat.mod_eq_of_lt
    have hle := I.ell_le
    have : (256 : Nat) ^ 32 = 2 ^ 256 := by decide
    omega
  rw [verifyWith]
  simp only [List.take_left' hRlen, List.drop_left' hRlen, hdec, hSdec, Nat.not_le.mpr hS, hz, hh, henc,
    ↓reduceIte, Bool.false_eq_true, beq_self_eq_true]

/-- **A signature made with secret scalar `a` always verifies under `a`'s public key**, for every
    scalar, nonce prefix and message (the all-zero test of `verify` is the explicit side condition). -/
theorem verify_sign_generic {O : Ops} (I : Interp O) (a : Nat) (pre msg : Bytes)
    (hz : (pkOf O a).all (· == 0) = false) :
    verifyWith O (pkOf O a) msg (signWith O a pre msg) = true :=
  verify_any_nonce I a (O.H (pre ++ msg) % O.ell) msg hz

/-- points are arbitrary naturals read mod 13 (`neg a = 12·a ≡ −a`); the encoding is `a % 13 + 1`, never the all-zero
    string that `verify` rejects, and `dec` returns the unnormalised representative `enc + 12 ≡ a` -/
def toyOps : Ops :=
  { G := Nat, add := fun a b => a + b, neg := fun a => 12 * a, smul := fun n a => n * a, B := 1, ell := 13,
    enc := fun a => leBytes 32 (a % 13 + 1), dec := fun bs => some (leNat bs + 12), H := fun m => leNat m }

theorem toy_nsmul (n : Nat) (a : Fin 13) :
    nsmul (0 : Fin 13) (· + ·) n a = Fin.ofNat 13 (n * a.val) := by
  induction n with
  | zero => simp [nsmul]
  | succ n ih =>
    simp only [nsmul, ih]
    apply Fin.ext
    simp [Fin.add_def, Fin.ofNat, Nat.succ_mul]
    omega

def toyInterp : Interp toyOps :=
  { A := Fin 13, zero := 0, plus := (· + ·), minus := fun a => 0 - a,
    plus_assoc := by decide, plus_comm := by decide, zero_plus := by decide, minus_plus := by decide,
    φ := fun (a : Nat) => Fin.ofNat 13 a,
    φ_add := by
      intro (P : Nat) (Q : Nat); apply Fin.ext
      show (P + Q) % 13 = (P % 13 + Q % 13) % 13
      exact Nat.add_mod P Q 13,
    φ_neg := by
      intro (P : Nat); apply Fin.ext
      show (12 * P) % 13 = ((13 - P % 13) + 0) % 13
      omega,
    φ_smul := by
      intro n (P : Nat); rw [toy_nsmul]; apply Fin.ext
      show (n * P) % 13 = (n * (P % 13)) % 13
      rw [Nat.mul_mod n P, Nat.mul_mod n (P % 13), Nat.mod_mod],
    order := by rw [toy_nsmul]; decide,
    ell_pos := by decide, ell_le := by decide,
    enc_congr := by
      intro (P : Nat) (Q : Nat) h
      have h' : P % 13 = Q % 13 := congrArg Fin.val h
      show leBytes 32 (P % 13 + 1) = leBytes 32 (Q % 13 + 1)
      rw [h'],
    enc_len := by intro P; exact leBytes_length _ _,
    dec_enc := by
      intro (P : Nat)
      refine ⟨P % 13 + 1 + 12, ?_, ?_⟩
      · show some (leNat (leBytes 32 (P % 13 + 1)) + 12) = some (P % 13 + 1 + 12)
        rw [leNat_leBytes, Nat.mod_eq_of_lt]
        have : P % 13 < 13 := Nat.mod_lt _ (by decide)
        have : (256 : Nat) ^ 32 = 115792089237316195423570985008687907853269984665640564039457584007913129639936 := by decide
        omega
      · apply Fin.ext
        show (P % 13 + 1 + 12) % 13 = P % 13
        omega }

example : verifyWith toyOps (pkOf toyOps 5) [7] (signWith toyOps 5 [1, 2] [7]) = true :=
  verify_sign_generic toyInterp 5 [1, 2] [7] (by decide +kernel)

example : verifyWith toyOps (pkOf toyOps 5) [8] (signWith toyOps 5 [1, 2] [7]) = false := by decide +kernel

/-- `SecretKey`: `sk.public_key().verify(msg, sk.sign(msg))` -/
theorem verify_sign_standard (I : Interp ed) (sk msg : Bytes)
    (hz : (publicKey sk).all (· == 0) = false) :
    verify (publicKey sk) msg (sign sk msg) = true :=
  verify_sign_generic I _ _ msg hz

/-- `SecretKeyExtended`: `xsk.public_key().verify(msg, xsk.sign(msg))` -/
theorem verify_sign_extended (I : Interp ed) (ext msg : Bytes)
    (hz : (extPublicKey ext).all (· == 0) = false) :
    verify (extPublicKey ext) msg (extSign ext msg) = true :=
  verify_sign_generic I _ _ msg hz

/-- a property of bytes checked on the 256 values `UInt8.ofNat n` (`∀ b : UInt8` itself is not decidable) -/
theorem forall_byte {p : UInt8 → Prop} (h : ∀ n, n < 256 → p (UInt8.ofNat n)) (b : UInt8) : p b := by
  have := h b.toNat b.toNat_lt
  rwa [UInt8.ofNat_toNat] at this

theorem byte_low3 : ∀ b : UInt8, ((b &&& 0b0000_0111) == 0) = decide (b.toNat % 8 = 0) :=
  forall_byte (by decide +kernel)
theorem byte_bit6 : ∀ b : UInt8, ((b &&& 0b0100_0000) == 0b0100_0000) = decide (b.toNat / 64 % 2 = 1) :=
  forall_byte (by decide +kernel)
theorem byte_bit7 : ∀ b : UInt8, ((b &&& 0b1000_0000) == 0) = decide (b.toNat / 128 = 0) :=
  forall_byte (by decide +kernel)
theorem byte_clamp0 : ∀ b : UInt8, (b &&& 0xF8).toNat % 8 = 0 := forall_byte (by decide +kernel)
theorem byte_clamp31 : ∀ b : UInt8, ((b &&& 0x3F) ||| 0x40).toNat / 64 = 1 := forall_byte (by decide +kernel)

/-- **`check_structure` holds exactly when the three low bits of byte 0 are clear, bit 6 of byte 31
    is set and bit 7 of byte 31 is clear** (the last two together: byte 31 divided by 64 is 1). -/
theorem check_structure_iff (ext : Bytes) :
    checkStructure ext = true ↔ (ext.getD 0 0).toNat % 8 = 0 ∧ (ext.getD 31 0).toNat / 64 = 1 := by
  unfold checkStructure
  generalize ext.getD 0 0 = b0
  generalize ext.getD 31 0 = b31
  rw [byte_low3, byte_bit6, byte_bit7]
  have := UInt8.toNat_lt b31
  simp only [Bool.and_eq_true, decide_eq_true_eq]
  omega

theorem check_depends_only_on_b0_b31 (e1 e2 : Bytes) (h0 : e1.getD 0 0 = e2.getD 0 0) (h31 : e1.getD 31 0 = e2.getD 31 0) :
    checkStructure e1 = checkStructure e2 := by
  unfold checkStructure; rw [h0, h31]

theorem getD_31 (a x : UInt8) (r tl : Bytes) (hr : r.length = 30) : (a :: (r ++ [x] ++ tl)).getD 31 0 = x := by
  simp [List.getD_eq_getElem?_getD, hr]

theorem mkExt_bytes (b0 b31 : UInt8) (filler : Bytes) (hf : 30 ≤ filler.length) :
    (mkExt b0 b31 filler).getD 0 0 = b0 ∧ (mkExt b0 b31 filler).getD 31 0 = b31 :=
  ⟨rfl, getD_31 _ _ _ _ (List.length_take_of_le hf)⟩

/-- every entry of the 256×256 table the stream compares against the real `from_bytes`: accepted exactly when
    byte 0 is a multiple of 8 and byte 31 lies in `0x40..0x7f` -/
theorem check_table_entry (b0 b31 : UInt8) (filler : Bytes) (hf : 30 ≤ filler.length) :
    checkStructure (mkExt b0 b31 filler) = true ↔ b0.toNat % 8 = 0 ∧ 64 ≤ b31.toNat ∧ b31.toNat < 128 := by
  obtain ⟨h0, h31⟩ := mkExt_bytes b0 b31 filler hf
  rw [check_structure_iff, h0, h31]
  omega

theorem from_bytes_accepts_iff (ext : Bytes) : extFromBytes ext = some ext ↔ checkStructure ext = true := by
  unfold extFromBytes; split <;> simp_all

theorem from_bytes_rejects_iff (ext : Bytes) : extFromBytes ext = none ↔ checkStructure ext = false := by
  unfold extFromBytes; split <;> simp_all

/-- the bit tweaks applied by `SecretKeyExtended::new` (and by `clamp_scalar` on a hashed standard
    key) always satisfy `check_structure` -/
theorem clamp_satisfies (ext : Bytes) (hl : 32 ≤ ext.length) : checkStructure (clamp ext) = true := by
  rw [check_structure_iff]
  match ext, hl with
  | b0 :: rest, hl =>
    have e31 : (clamp (b0 :: rest)).getD 31 0 = (rest.getD 30 0 &&& 0x3F) ||| 0x40 :=
      getD_31 _ _ _ _ (List.length_take_of_le (Nat.le_of_lt (Nat.le_of_succ_le_succ hl)))
    rw [e31]
    exact ⟨byte_clamp0 b0, byte_clamp31 _⟩

/-- a number whose digit of weight `256^31` is `c` lies in `[2^254, 2^255)` exactly when `c` lies in `[64, 128)` -/
theorem scalar_range (low c : Nat) (hlow : low < 256 ^ 31) :
    (2 ^ 254 ≤ low + 256 ^ 31 * c ∧ low + 256 ^ 31 * c < 2 ^ 255) ↔ (64 ≤ c ∧ c < 128) := by
  have hK : 0 < 256 ^ 31 := Nat.pow_pos (by decide)
  rw [show 2 ^ 254 = 64 * 256 ^ 31 by decide, show 2 ^ 255 = 128 * 256 ^ 31 by decide,
    ← Nat.le_div_iff_mul_le hK, ← Nat.div_lt_iff_lt_mul hK, Nat.add_mul_div_left _ _ hK,
    Nat.div_eq_of_lt hlow, Nat.zero_add]

/-- **bit-level reading on the scalar**: a 64-byte extended key passes `check_structure` exactly when its
    secret scalar `a` (bytes 0..32, little endian) is a multiple of 8 with `2^254 ≤ a < 2^255`. -/
theorem check_structure_scalar (ext : Bytes) (hl : 32 ≤ ext.length) :
    checkStructure ext = true ↔
      leNat (ext.take 32) % 8 = 0 ∧ 2 ^ 254 ≤ leNat (ext.take 32) ∧ leNat (ext.take 32) < 2 ^ 255 := by
  -- byte 31 is the top digit: the scalar is `low + 256^31 * b31` with `low` the number of bytes 0..31
  have hlow := leNat_lt (ext.take 31)
  rw [List.length_take_of_le (Nat.le_of_succ_le hl)] at hlow
  have hval : leNat (ext.take 32) = leNat (ext.take 31) + 256 ^ 31 * (ext.getD 31 0).toNat := by
    rw [List.take_add_one, List.getD_eq_getElem?_getD, List.getElem?_eq_getElem hl, leNat_append,
      List.length_take_of_le (Nat.le_of_succ_le hl)]
    simp [leNat]
  have hmod : leNat (ext.take 32) % 8 = (ext.getD 0 0).toNat % 8 := by
    match ext, hl with
    | b0 :: rest, _ =>
      rw [List.take_succ_cons, leNat, show 256 = 8 * 32 from rfl, Nat.mul_assoc, Nat.add_mul_mod_self_left]
      rfl
  have hc := UInt8.toNat_lt (ext.getD 31 0)
  rw [check_structure_iff, hmod, hval, scalar_range _ _ hlow]
  omega

/-- the full-strength reading of "verification accepts exactly what the reference accepts" -/
def FullStatement : Prop := ∀ pk msg sig : Bytes, pk.length = 32 → sig.length = 64 → verify pk msg sig = verifyRfc pk msg sig

/-! The stream's witnesses: the two encodings below with the signature `witnessSig`, and the all-zero key with message
    `[4]`. -/

/-- `ee ff…ff 7f`: `y = p + 1` -/
def witnessNoncanonicalPk : Bytes := 0xee :: (List.replicate 30 0xff ++ [0x7f])
/-- `01 00…00 80`: `x = 0` with the sign bit set -/
def witnessXZeroSignPk : Bytes := 1 :: (zeros 30 ++ [0x80])
/-- `(R = 01 00…00, S = 0)` -/
def witnessSig : Bytes := (1 :: zeros 31) ++ zeros 32

/-- cryptoxide's outright rejection of the all-zero key -/
theorem verify_rejects_allzero (m sig : Bytes) : verify (zeros 32) m sig = false := by
  unfold verify verifyWith
  have hz : (zeros 32).all (· == 0) = true := by decide
  cases ed.dec (zeros 32) with
  | none => rfl
  | some A =>
    simp only [hz, ↓reduceIte]
    split <;> rfl

/-- the strict reference rejects it whatever the message and signature -/
theorem verifyRfc_rejects_noncanonical (m sig : Bytes) : verifyRfc witnessNoncanonicalPk m sig = false := by
  have hy : leNat (witnessNoncanonicalPk.take 32) % 2 ^ 255 ≥ p := by decide +kernel
  have hd : decodeStrict witnessNoncanonicalPk = none := by
    simp only [decodeStrict, hy, ↓reduceIte]
  simp [verifyRfc, hd]

end PallasVerif.Props.C11
