import PallasVerif.Model.Rules
import PallasVerif.Props.C34
import PallasVerif.Props.C35
import PallasVerif.Props.C37
/-!
# C38 — Each implemented ledger rule rejects transactions that break only it  (level: `proof`, partial)

`Model/Rules.lean` is the rule structure of the five era validators: the ordered `check_*` list of each
`validate_<era>_tx` with first-failure semantics, and a stated predicate for every rule the property names:
non-empty inputs, inputs / collateral / reference inputs in the UTxO, validity interval, size, minimum lovelace, value
size, network ids, minimum fee + collateral rules, auxiliary-data hash, minting-policy witnesses, script and datum
witnesses, redeemer coverage, language availability, script-integrity hash, and (linked models of C34 / C37 / C35) value
preservation, execution units, key witnesses and required signers. For Shelley-MA the witness and minting rules are stated in the
model too (`stated_rules_cover`), but their `accepted_*` readings below are for Alonzo, Babbage and Conway only
(`eraHasCollateral`). For every era and every `View`:

* `accept_implies_all_rules` — accepted ⇒ every rule of the era's list holds (stated predicate, or the observed
  verdict for the few rules without one: certificates, Byron);
* `violates_rule_rejected` — a view on which some rule of the era's list fails is rejected (this is the property:
  "a modification that violates just that rule makes validation fail" — *any* failing rule suffices);
* `first_failure` — the error reported is that of the first failing rule in source order;
* `accepted_*` — what acceptance means, rule by rule, in terms of the observations (`collateralOk_spec`: the collateral
  predicate spelt out); the collateral clause holds only for Plutus scripts in the witness set
  (`accepted_collateral_partial`; `FullCollateralStatement` is false on the model of the code:
  `full_collateral_fails_at_witness` — known finding `C38-collateral-not-checked-for-reference-scripts`);
* thresholds — `collateral_amount_iff` (`fee * pct ≤ paid * 100 ↔ ⌈fee * pct / 100⌉ ≤ paid`, all `fee`, `pct`) and the `*_boundary`
  theorems.

What is **not** proved (hence *partial*): that the observations of a `View` are what the Rust code computes (tie: stream
`rules`, per rule through `verif_hooks::rule_verdicts` and through `validate_txs`), and the predicates of the rules listed
in the module header of `Model/Rules.lean` as external (certificates, Byron, value rule of transactions with certificates).
-/
namespace PallasVerif.Props.C38
open PallasVerif.Rules

theorem accept_iff (era : Era) (v : View) : validate era v = none ↔ ∀ r ∈ order era, verdict era v r = true := by
  simp [validate, List.find?_eq_none]

theorem accept_implies_all_rules (era : Era) (v : View) (h : validate era v = none) :
    ∀ r ∈ order era, verdict era v r = true :=
  (accept_iff era v).mp h

/-- **The property**: a failing rule of the era's list — whichever, alone or not — makes validation fail. -/
theorem violates_rule_rejected (era : Era) (v : View) (r : Rule) (hr : r ∈ order era)
    (hv : verdict era v r = false) : validate era v ≠ none := by
  intro h
  have := accept_implies_all_rules era v h r hr
  rw [hv] at this
  cases this

theorem first_failure_iff (era : Era) (v : View) (r : Rule) :
    validate era v = some r ↔
      verdict era v r = false ∧ ∃ pre post, order era = pre ++ r :: post ∧ ∀ q ∈ pre, verdict era v q = true := by
  simp only [validate, List.find?_eq_some_iff_append, Bool.not_eq_eq_eq_not, Bool.not_true, Bool.not_not,
    exists_and_right]

theorem first_failure (era : Era) (v : View) (r : Rule) (h : validate era v = some r) :
    verdict era v r = false ∧ ∃ pre post, order era = pre ++ r :: post ∧ ∀ q ∈ pre, verdict era v q = true :=
  (first_failure_iff era v r).mp h

/-- an accepted transaction passes the predicate `p` of a rule of its era that is stated for it; for a concrete rule
    `hp` is `rfl`: the `match r` inside `verdict` reduces at a constructor -/
theorem holds_of_accepted {era : Era} {v : View} {r : Rule} {p : Bool} (h : validate era v = none)
    (hr : r ∈ order era) (hs : stated era v r = true)
    (hp : verdict era v r = if stated era v r = true then p else v.external r) : p = true := by
  rw [← accept_implies_all_rules era v h r hr, hp, if_pos hs]

/-- the rules that every post-Byron era applies and states for every view -/
def commonRules : List Rule := [.insNotEmpty, .insInUtxo, .validity, .txSize, .minLovelace, .networkId, .fee, .auxData]

/-- `stated` looks at the view for `.preservation` only, so for a list without that rule "applied and stated" is a table
    over the eras, evaluated era by era with the view a variable -/
theorem common_rule (era : Era) (hb : era ≠ .byron) (v : View) (r : Rule) (hr : r ∈ commonRules) :
    r ∈ order era ∧ stated era v r = true := by
  have : (commonRules.all fun r => (order era).contains r && stated era v r) = true := by
    cases era <;> first | exact absurd rfl hb | rfl
  simpa only [Bool.and_eq_true, List.contains_iff_mem] using List.all_eq_true.mp this r hr

theorem holds_post_byron {era : Era} {v : View} {r : Rule} {p : Bool} (h : validate era v = none) (hb : era ≠ .byron)
    (hr : r ∈ commonRules) (hp : verdict era v r = if stated era v r = true then p else v.external r) : p = true := by
  obtain ⟨hm, hs⟩ := common_rule era hb v r hr
  exact holds_of_accepted h hm hs hp

/-- the further rules that the Alonzo, Babbage and Conway validators apply and state for every view -/
def scriptRules : List Rule := [.valSize, .exUnits, .minting, .witnesses, .languages, .scriptDataHash]

theorem script_rule (era : Era) (he : eraHasCollateral era = true) (v : View) (r : Rule) (hr : r ∈ scriptRules) :
    r ∈ order era ∧ stated era v r = true := by
  have : (scriptRules.all fun r => (order era).contains r && stated era v r) = true := by
    cases era <;> first | exact absurd he (by decide) | rfl
  simpa only [Bool.and_eq_true, List.contains_iff_mem] using List.all_eq_true.mp this r hr

theorem holds_script {era : Era} {v : View} {r : Rule} {p : Bool} (h : validate era v = none)
    (he : eraHasCollateral era = true) (hr : r ∈ scriptRules)
    (hp : verdict era v r = if stated era v r = true then p else v.external r) : p = true := by
  obtain ⟨hm, hs⟩ := script_rule era he v r hr
  exact holds_of_accepted h hm hs hp

theorem stated_script_rules (era : Era) (v : View) (he : eraHasCollateral era = true) :
    (Rule.minting ∈ order era ∧ stated era v .minting = true) ∧ (Rule.witnesses ∈ order era ∧ stated era v .witnesses = true) ∧
    (Rule.exUnits ∈ order era ∧ stated era v .exUnits = true) ∧ (Rule.languages ∈ order era ∧ stated era v .languages = true) ∧
    (Rule.scriptDataHash ∈ order era ∧ stated era v .scriptDataHash = true) ∧ Rule.preservation ∈ order era := by
  refine ⟨script_rule era he v _ (by decide), script_rule era he v _ (by decide), script_rule era he v _ (by decide),
    script_rule era he v _ (by decide), script_rule era he v _ (by decide), ?_⟩
  cases era <;> first | exact absurd he (by decide) | decide

/-- the form `!a || b` in which the rules write "if `a` then `b`" -/
theorem not_or_eq_true {a b : Bool} : (!a || b) = true ↔ (a = true → b = true) := by
  cases a <;> simp

theorem accepted_inputs_nonempty (era : Era) (v : View) (hb : era ≠ .byron) (h : validate era v = none) : v.nInputs ≠ 0 :=
  of_decide_eq_true (holds_post_byron (r := .insNotEmpty) h hb (by decide) rfl)

theorem accepted_inputs_present (era : Era) (v : View) (hb : era ≠ .byron) (h : validate era v = none) :
    (∀ b ∈ v.inputsIn, b = true) ∧
    (eraHasCollateral era = true → ∀ c ∈ v.collateral.getD [], c.inUtxo = true) ∧
    (eraHasRefInputs era = true → ∀ b ∈ v.refInputsIn, b = true) := by
  have : insInUtxo era v = true := holds_post_byron (r := .insInUtxo) h hb (by decide) rfl
  simpa only [insInUtxo, Bool.and_eq_true, not_or_eq_true, List.all_eq_true, id, and_assoc] using this

theorem upperOk_iff {v : View} : upperOk v = true ↔ ∀ t, v.ttl = some t → v.slot ≤ t := by
  unfold upperOk; cases v.ttl <;> simp

theorem lowerOk_iff {v : View} : lowerOk v = true ↔ ∀ s, v.validityStart = some s → s ≤ v.slot := by
  unfold lowerOk; cases v.validityStart <;> simp

theorem accepted_validity (era : Era) (v : View) (hb : era ≠ .byron) (h : validate era v = none) :
    (∀ t, v.ttl = some t → v.slot ≤ t) ∧
    (era ≠ .shelleyMA → ∀ s, v.validityStart = some s → s ≤ v.slot) ∧
    (era = .shelleyMA → v.ttl ≠ none) := by
  have : validity era v = true := holds_post_byron (r := .validity) h hb (by decide) rfl
  unfold validity at this
  split at this
  · rename_i he
    obtain ⟨h1, h2⟩ := Bool.and_eq_true_iff.mp this
    exact ⟨upperOk_iff.mp h2, fun hne => absurd he hne, fun _ hn => by rw [hn] at h1; cases h1⟩
  · rename_i he
    obtain ⟨h1, h2⟩ := Bool.and_eq_true_iff.mp this
    exact ⟨upperOk_iff.mp h2, fun _ => lowerOk_iff.mp h1, fun e => absurd e he⟩

theorem accepted_size (era : Era) (v : View) (hb : era ≠ .byron) (h : validate era v = none) : v.size ≤ v.maxSize :=
  of_decide_eq_true (holds_post_byron (r := .txSize) h hb (by decide) rfl)

theorem accepted_min_lovelace (era : Era) (v : View) (hb : era ≠ .byron) (h : validate era v = none) :
    ∀ o ∈ v.outputs, minRequired era v o ≤ o.lovelace := by
  have : minLovelace era v = true := holds_post_byron (r := .minLovelace) h hb (by decide) rfl
  simpa only [minLovelace, List.all_eq_true, decide_eq_true_eq] using this

theorem accepted_value_size (era : Era) (v : View) (he : eraHasCollateral era = true)
    (h : validate era v = none) : ∀ o ∈ v.outputs, o.words ≤ v.maxValueSize := by
  have : valSize v = true := holds_script (r := .valSize) h he (by decide) rfl
  simpa only [valSize, List.all_eq_true, decide_eq_true_eq] using this

theorem accepted_network (era : Era) (v : View) (hb : era ≠ .byron) (h : validate era v = none) :
    (∀ o ∈ v.outputs, o.network = some v.envNetwork) ∧
    (era ≠ .shelleyMA → ∀ n, v.txNetwork = some n → n = v.envNetwork) := by
  have : networkId era v = true := holds_post_byron (r := .networkId) h hb (by decide) rfl
  simp only [networkId, Bool.and_eq_true, List.all_eq_true, decide_eq_true_eq, Bool.or_eq_true] at this
  refine ⟨this.1, ?_⟩
  intro hne n hn
  rcases this.2 with e | e
  · exact absurd e hne
  · simpa [txNetworkOk, hn] using e

theorem accepted_min_fee (era : Era) (v : View) (hb : era ≠ .byron) (h : validate era v = none) :
    v.minfeeB + v.minfeeA * v.size ≤ v.fee := by
  have : fee era v = true := holds_post_byron (r := .fee) h hb (by decide) rfl
  unfold fee at this
  split at this
  · exact of_decide_eq_true this
  · exact of_decide_eq_true (Bool.and_eq_true_iff.mp this).1

theorem collateralOk_spec (era : Era) (v : View) (h : collateralOk era v = true) :
    ∃ cs, v.collateral = some cs ∧ cs ≠ [] ∧ cs.length ≤ v.maxCollateralInputs ∧
      (∀ c ∈ cs, c.inUtxo = true ∧ (c.lookedAt = true → c.script = some false)) ∧
      (era = .alonzo → ∀ c ∈ cs, c.lookedAt = true → v.fee * v.collateralPercentage ≤ c.coin * 100 ∧ c.hasAssets = false) ∧
      (era ≠ .alonzo → ∃ paid, v.paidCollateral = some paid ∧ v.fee * v.collateralPercentage ≤ paid * 100 ∧
        ∀ t, v.totalCollateral = some t → paid = t) := by
  unfold collateralOk at h
  cases hcol : v.collateral with
  | none => rw [hcol] at h; cases h
  | some cs =>
    simp only [hcol, Bool.and_eq_true, Bool.not_eq_true', decide_eq_true_eq, List.all_eq_true, not_or_eq_true,
      List.isEmpty_eq_false_iff] at h
    obtain ⟨⟨⟨h1, h2⟩, h3⟩, h4⟩ := h
    refine ⟨cs, rfl, h1, h2, h3, fun he => ?_, fun he => ?_⟩
    · simpa only [he, if_true, alonzoAmounts, List.all_eq_true, not_or_eq_true, Bool.not_eq_true', Bool.and_eq_true,
        decide_eq_true_eq] using h4
    · rw [if_neg he, balanceAmounts] at h4
      cases hp : v.paidCollateral with
      | none => rw [hp] at h4; cases h4
      | some paid =>
        simp only [hp, Bool.and_eq_true, decide_eq_true_eq] at h4
        refine ⟨paid, rfl, h4.1, fun t ht => ?_⟩
        simpa only [ht, decide_eq_true_eq] using h4.2

/-- **Full statement of the collateral clause**: an accepted transaction that runs Plutus scripts — in its witness set or
    through reference inputs, i.e. one that carries redeemers — satisfies the collateral rules. -/
def FullCollateralStatement : Prop :=
  ∀ (era : Era) (v : View), eraHasCollateral era = true → (v.plutusInWitnesses = true ∨ v.redeemersPresent = true) →
    validate era v = none → collateralOk era v = true

/-- collateral count, kind, amount and annotation — proved part: transactions with Plutus scripts *in the witness set*
    (`check_fee` looks at `presence_of_plutus_scripts` only; see `full_collateral_fails_at_witness`) -/
theorem accepted_collateral_partial (era : Era) (v : View) (he : eraHasCollateral era = true)
    (hp : v.plutusInWitnesses = true) (h : validate era v = none) : collateralOk era v = true := by
  have hb : era ≠ .byron ∧ era ≠ .shelleyMA := by cases era <;> first | exact absurd he (by decide) | exact ⟨nofun, nofun⟩
  have : fee era v = true := holds_post_byron (r := .fee) h hb.1 (by decide) rfl
  rw [fee, if_neg hb.2, hp] at this
  exact (Bool.and_eq_true_iff.mp this).2

/-- neutral observations for the example views -/
private def sv0 : ScriptView :=
  { mintPresent := false, mintPolicies := [], native := [], v1 := [], v2 := [], v3 := [], plutusFieldPresent := false, refScripts := [],
    inputScripts := [], sortedInputScripts := [none], sortedPolicies := [], sortedWithdrawalScripts := [], withdrawalsOk := true, redeemers := [] }
private def dv0 : DatumView := { witnessDatums := [], inputsResolved := true, inputDatumHashes := [none], allowedDatumHashes := [] }
private def lv0 : LangView := { used := [], withCostModel := [0, 1, 2], anyByronAddress := false, anyDatumOrScriptRef := false, anyReferenceInput := false, protMagic := 764824073 }
private def sd0 : SdhView := { provided := none, witnessSetBytes := [0xa0], costModels := [], redeemerEnc := none, datumEncs := none, redeemerCount := 0, costModelBytes := [] }
private def val0 : ValueView := { modelled := true, shelleyEra := false, spent := [.coin 2200000], produced := [.coin 2000000], mint := none }
private def ex0 : ExView := { wits := ⟨none, none, none, none⟩, maxMem := 14000000, maxSteps := 10000000000 }
private def wit0 : WitView :=
  { hash := fun _ => "", verify := fun _ _ _ => false, requiredSigners := none, witnesses := some [], inputViews := [.skipped], nativeOk := true, txId := [] }

private def okOut : OutView := ⟨2000000, 1, false, false, some 1⟩
/-- a view that every era accepts -/
private def v0 : View :=
  { nInputs := 1, nOutputs := 1, inputsIn := [true], collateral := none, refInputsIn := [], validityStart := some 10, ttl := some 100,
    slot := 50, size := 300, maxSize := 16384, fee := 200000, minfeeA := 44, minfeeB := 155381, outputs := [okOut], coinsParam := 4310,
    maxValueSize := 5000, envNetwork := 1, txNetwork := none, plutusInWitnesses := false, redeemersPresent := false, maxCollateralInputs := 3,
    collateralPercentage := 150, paidCollateral := none, totalCollateral := none, auxHashPresent := false, auxPresent := false,
    auxHashMatches := false, scripts := sv0, datums := dv0, langs := lv0, sdh := sd0, value := val0, ex := ex0, wit := wit0,
    external := fun _ => true }

/-- the witness of the known finding `C38-collateral-not-checked-for-reference-scripts`: a Conway transaction whose only
    Plutus script comes from a reference input (redeemers present, no script in the witness set) and that has no
    collateral at all passes every rule of the model of the code -/
private def refScriptNoCollateral : View :=
  { v0 with refInputsIn := [true], validityStart := none, ttl := none, redeemersPresent := true }

theorem full_collateral_fails_at_witness : ¬ FullCollateralStatement := by
  intro h
  have := h .conway refScriptNoCollateral (by decide) (Or.inr (by decide)) (by decide)
  revert this
  decide

theorem accepted_aux_data (era : Era) (v : View) (hb : era ≠ .byron) (h : validate era v = none) :
    (v.auxHashPresent = true ∧ v.auxPresent = true ∧ v.auxHashMatches = true) ∨
    (v.auxHashPresent = false ∧ v.auxPresent = false) := by
  have : auxData v = true := holds_post_byron (r := .auxData) h hb (by decide) rfl
  cases h1 : v.auxHashPresent <;> cases h2 : v.auxPresent <;> rw [auxData, h1, h2] at this
  · exact .inr ⟨rfl, rfl⟩
  · cases this
  · cases this
  · exact .inl ⟨rfl, rfl, this⟩

/-! ## Thresholds: every arithmetic rule accepts exactly from its boundary on -/

/-- the least collateral that covers `pct` percent of `fee`: `⌈fee * pct / 100⌉` -/
def requiredCollateral (fee pct : Nat) : Nat := (fee * pct + 99) / 100

theorem collateral_amount_iff (fee pct paid : Nat) : fee * pct ≤ paid * 100 ↔ requiredCollateral fee pct ≤ paid := by
  rw [requiredCollateral, Nat.div_le_iff_le_mul_add_pred (by decide), Nat.mul_comm 100, Nat.add_le_add_iff_right]

theorem collateral_accepts_at_required (fee pct : Nat) : fee * pct ≤ requiredCollateral fee pct * 100 :=
  (collateral_amount_iff fee pct _).mpr (Nat.le_refl _)

theorem collateral_rejects_one_below (fee pct : Nat) (h : 0 < fee * pct) : ¬ fee * pct ≤ (requiredCollateral fee pct - 1) * 100 := by
  have h0 : 0 < requiredCollateral fee pct :=
    Nat.pos_of_ne_zero fun e => by have := collateral_accepts_at_required fee pct; rw [e] at this; omega
  rw [collateral_amount_iff]; omega

/-- a rule stated with the truncated quotient `fee * pct / 100` is strictly weaker: it accepts one lovelace less whenever
    `fee * pct` is not a multiple of 100 -/
theorem truncated_quotient_is_weaker (fee pct : Nat) (h : fee * pct % 100 ≠ 0) :
    fee * pct / 100 ≤ requiredCollateral fee pct - 1 ∧ ¬ fee * pct ≤ (requiredCollateral fee pct - 1) * 100 := by
  refine ⟨?_, collateral_rejects_one_below fee pct (Nat.pos_of_ne_zero fun e => h (by rw [e]))⟩
  unfold requiredCollateral; omega

theorem balanceAmounts_iff (v : View) (paid : Nat) (hp : v.paidCollateral = some paid) :
    balanceAmounts v = true ↔ requiredCollateral v.fee v.collateralPercentage ≤ paid ∧ (∀ t, v.totalCollateral = some t → paid = t) := by
  unfold balanceAmounts
  rw [hp]
  simp only [Bool.and_eq_true, decide_eq_true_eq, collateral_amount_iff]
  constructor
  · rintro ⟨h1, h2⟩
    refine ⟨h1, fun t ht => ?_⟩
    simpa [ht] using h2
  · rintro ⟨h1, h2⟩
    refine ⟨h1, ?_⟩
    cases ht : v.totalCollateral with
    | none => rfl
    | some t => simpa using h2 t ht

theorem alonzoAmounts_iff (v : View) (cs : List CollView) :
    alonzoAmounts v cs = true ↔ ∀ c ∈ cs, c.lookedAt = true → requiredCollateral v.fee v.collateralPercentage ≤ c.coin ∧ c.hasAssets = false := by
  simp only [alonzoAmounts, List.all_eq_true, not_or_eq_true, Bool.not_eq_true', Bool.and_eq_true, decide_eq_true_eq,
    collateral_amount_iff]

/-! Minimum fee, transaction size, validity interval, value size: each comparison is non-strict, it holds at the boundary
    value itself and fails one past it. For the minimum lovelace only the accepting half is stated, and not for
    Shelley-MA (whose minimum depends on the output's own lovelace). -/

theorem min_fee_boundary (v : View) : minFee { v with fee := v.minfeeB + v.minfeeA * v.size } = true ∧
    (0 < v.minfeeB + v.minfeeA * v.size → minFee { v with fee := v.minfeeB + v.minfeeA * v.size - 1 } = false) := by
  refine ⟨by simp [minFee], fun h => ?_⟩
  simp only [minFee, decide_eq_false_iff_not]
  generalize v.minfeeA * v.size = k at *; omega

theorem tx_size_boundary (v : View) : txSize { v with maxSize := v.size } = true ∧ (0 < v.size → txSize { v with maxSize := v.size - 1 } = false) := by
  refine ⟨by simp [txSize], fun h => ?_⟩
  simp only [txSize, decide_eq_false_iff_not]; omega

theorem upper_bound_boundary (v : View) (t : Nat) : upperOk { v with ttl := some t, slot := t } = true ∧ upperOk { v with ttl := some t, slot := t + 1 } = false := by
  simp [upperOk]

theorem lower_bound_boundary (v : View) (s : Nat) : lowerOk { v with validityStart := some (s + 1), slot := s + 1 } = true ∧
    lowerOk { v with validityStart := some (s + 1), slot := s } = false := by
  simp [lowerOk]

theorem value_size_boundary (v : View) (o : OutView) : valSize { v with outputs := [o], maxValueSize := o.words } = true ∧
    (0 < o.words → valSize { v with outputs := [o], maxValueSize := o.words - 1 } = false) := by
  refine ⟨by simp [valSize], fun h => ?_⟩
  simp only [valSize, List.all_cons, List.all_nil, Bool.and_true, decide_eq_false_iff_not]; omega

theorem min_lovelace_boundary (era : Era) (v : View) (o : OutView) :
    minLovelace era { v with outputs := [{ o with lovelace := minRequired era v o }] } = true ∨ era = .shelleyMA := by
  cases era
  case shelleyMA => exact Or.inr rfl
  all_goals exact Or.inl (by simp [minLovelace, minRequired])

/-! ## The script rules -/

theorem accepted_minting (era : Era) (v : View) (he : eraHasCollateral era = true) (h : validate era v = none) :
    ∀ p ∈ v.scripts.mintPolicies, p ∈ providedScripts era v.scripts ∨ p ∈ refScriptsOf era v.scripts := by
  have : minting era v = true := holds_script (r := .minting) h he (by decide) rfl
  simpa only [minting, List.all_eq_true, Bool.or_eq_true, List.contains_iff_mem] using this

theorem witnesses_parts (era : Era) (v : View) (he : eraHasCollateral era = true) (h : validate era v = none) :
    neededScripts era v = true ∧ datumsOk v = true ∧ redeemersOk era v = true ∧ vkeyWitnessesOk era v = true := by
  have : witnesses era v = true := holds_script (r := .witnesses) h he (by decide) rfl
  cases era <;> first | exact absurd he (by decide) | simpa only [witnesses, Bool.and_eq_true, and_assoc] using this

theorem accepted_scripts (era : Era) (v : View) (he : eraHasCollateral era = true) (h : validate era v = none) :
    (∀ s ∈ v.scripts.inputScripts, s ∈ providedScripts era v.scripts ∨ s ∈ refScriptsOf era v.scripts) ∧
    (∀ s ∈ providedScripts era v.scripts, s ∈ refScriptsOf era v.scripts ∨ s ∈ v.scripts.inputScripts ∨ s ∈ v.scripts.mintPolicies) := by
  obtain ⟨this, _⟩ := witnesses_parts era v he h
  simp only [neededScripts, Bool.and_eq_true, List.all_eq_true, Bool.or_eq_true, List.contains_iff_mem, List.mem_filter] at this
  obtain ⟨⟨h1, _⟩, h3⟩ := this
  refine ⟨fun s hs => (h1 s hs).imp And.left id, fun s hs => ?_⟩
  by_cases hr : s ∈ refScriptsOf era v.scripts
  · exact Or.inl hr
  · exact Or.inr (h3 s ⟨hs, by simp [hr]⟩)

/-- from Alonzo on `check_minting` is implied by the needed-scripts part of `check_witness_set` (same predicate on the minted
    policies, same error): dropping the separate call from an Alonzo+ validator changes nothing observable; only the Shelley-MA
    validator, which has no needed-scripts check, depends on it -/
theorem minting_subsumed (era : Era) (v : View) (h : neededScripts era v = true) : minting era v = true := by
  simp only [neededScripts, Bool.and_eq_true, List.all_eq_true, Bool.or_eq_true, List.contains_iff_mem, List.mem_filter] at h
  simp only [minting, List.all_eq_true, Bool.or_eq_true, List.contains_iff_mem]
  exact fun p hp => (h.1.2 p hp).imp And.left id

theorem accepted_redeemers (era : Era) (v : View) (he : eraHasCollateral era = true) (h : validate era v = none) :
    (∀ r ∈ v.scripts.redeemers, r ∈ neededPointers era v.scripts) ∧ (∀ n ∈ neededPointers era v.scripts, n ∈ v.scripts.redeemers) := by
  obtain ⟨_, _, this, _⟩ := witnesses_parts era v he h
  simp only [redeemersOk, Bool.and_eq_true, List.all_eq_true, List.contains_iff_mem] at this
  exact ⟨this.1.2, this.2⟩

theorem markFirst_ok (h : String) : ∀ (l l' : List (Bool × String)), markFirst h l = some l' →
    h ∈ l.map (·.2) ∧ l'.map (·.2) = l.map (·.2) := by
  intro l l' hm
  fun_induction markFirst h l generalizing l' with
  | case1 => cases hm
  | case2 f rest =>  -- the head is `h`: marked
    cases hm
    exact ⟨List.mem_cons_self, rfl⟩
  | case3 f d rest hd ih =>  -- another datum at the head
    cases hr : markFirst h rest with
    | none => rw [hr] at hm; cases hm
    | some r =>
      rw [hr] at hm; cases hm
      obtain ⟨h1, h2⟩ := ih r hr
      exact ⟨List.mem_cons_of_mem _ h1, congrArg (d :: ·) h2⟩

theorem markInputs_covers : ∀ (hs : List (Option String)) (l l' : List (Bool × String)),
    markInputs hs l = some l' → ∀ d, some d ∈ hs → d ∈ l.map (·.2) := by
  intro hs l l' hm d hd
  fun_induction markInputs hs l with
  | case1 => cases hd
  | case2 rest l ih =>  -- an input without datum hash
    rcases List.mem_cons.mp hd with e | e
    · cases e
    · exact ih hm e
  | case3 x rest l l1 hf ih =>  -- the hash `x` is found among the witness-set datums and marked
    rcases List.mem_cons.mp hd with e | e
    · cases e; exact (markFirst_ok d l l1 hf).1
    · exact (markFirst_ok x l l1 hf).2 ▸ ih hm e
  | case4 => cases hm  -- not found: `DatumMissing`

theorem accepted_datums (era : Era) (v : View) (he : eraHasCollateral era = true) (h : validate era v = none) :
    v.datums.inputsResolved = true ∧
    ∃ l, markInputs v.datums.inputDatumHashes (v.datums.witnessDatums.map (fun d => (false, d))) = some l ∧
      ∀ e ∈ l, e.1 = true ∨ e.2 ∈ v.datums.allowedDatumHashes := by
  obtain ⟨_, this, _⟩ := witnesses_parts era v he h
  simp only [datumsOk, Bool.and_eq_true] at this
  refine ⟨this.1, ?_⟩
  cases hm : markInputs v.datums.inputDatumHashes (v.datums.witnessDatums.map (fun d => (false, d))) with
  | none => simp [hm] at this
  | some l =>
    refine ⟨l, rfl, ?_⟩
    have h2 := this.2
    simp only [hm, List.all_eq_true, Bool.or_eq_true, List.contains_iff_mem] at h2
    exact h2

theorem accepted_input_datums_covered (era : Era) (v : View) (he : eraHasCollateral era = true) (h : validate era v = none) :
    ∀ d, some d ∈ v.datums.inputDatumHashes → d ∈ v.datums.witnessDatums := by
  obtain ⟨_, l, hm, _⟩ := accepted_datums era v he h
  intro d hd
  have := markInputs_covers _ _ l hm d hd
  simpa [Function.comp_def] using this

theorem accepted_languages (era : Era) (v : View) (he : eraHasCollateral era = true) (h : validate era v = none) :
    (era = .babbage → ∀ x ∈ v.langs.used, x ∈ blockLangs v.langs.protMagic v.envNetwork v.slot ∧ x ∈ allowedLangs era v.langs) ∧
    (era = .conway → ∀ x ∈ v.langs.used, x ∈ v.langs.withCostModel ∨ x ∈ allowedLangs era v.langs) := by
  have : languages era v = true := holds_script (r := .languages) h he (by decide) rfl
  constructor <;>
  · intro e; subst e
    simpa [languages, List.all_eq_true, List.contains_iff_mem] using this

/-- script-integrity hash, Conway: the hash in the body is the BLAKE2b-256 that `Model/ScriptData.lean` (C08) computes from
    the original redeemer and datum bytes of the witness set and the cost models of the used languages -/
theorem accepted_script_data_hash_conway (v : View) (h : validate .conway v = none) :
    (v.sdh.provided = none → v.langs.used = []) ∧
    (∀ p, v.sdh.provided = some p → ∃ views, costModelForTx v.langs.used v.sdh.costModels = some views ∧
      ScriptData.wsBuildHash v.sdh.witnessSetBytes (some views) = some (some p)) := by
  have : scriptDataHash .conway v = true := holds_script (r := .scriptDataHash) h rfl (by decide) rfl
  simp only [scriptDataHash] at this
  refine ⟨?_, ?_⟩
  · intro hn; simp only [hn, List.isEmpty_iff] at this; exact this
  · intro p hp
    simp only [hp] at this
    cases hc : costModelForTx v.langs.used v.sdh.costModels with
    | none => simp [hc] at this
    | some views =>
      refine ⟨views, rfl, ?_⟩
      simp only [hc] at this
      cases hw : ScriptData.wsBuildHash v.sdh.witnessSetBytes (some views) with
      | none => simp [hw] at this
      | some o =>
        cases o with
        | none => simp [hw] at this
        | some hh => simp only [hw, beq_iff_eq] at this; rw [this]

theorem accepted_script_data_hash_alonzo (v : View) (h : validate .alonzo v = none) :
    ∀ p, v.sdh.provided = some p → ∃ r ds, v.sdh.redeemerEnc = some r ∧ v.sdh.datumEncs = some ds ∧
      Blake2b.blake2b256 (r ++ [0x9f] ++ ds.flatten ++ [0xff] ++ v.sdh.costModelBytes) = p := by
  have : scriptDataHash .alonzo v = true := holds_script (r := .scriptDataHash) h rfl (by decide) rfl
  simp only [scriptDataHash, ↓reduceIte] at this
  intro p hp
  simp only [hp] at this
  cases hr : v.sdh.redeemerEnc with
  | none => simp [hr] at this
  | some r =>
    cases hd : v.sdh.datumEncs with
    | none => simp [hr, hd] at this
    | some ds =>
      simp only [hr, hd, beq_iff_eq] at this
      exact ⟨r, ds, rfl, rfl, this⟩

theorem accepted_script_data_hash_babbage (v : View) (h : validate .babbage v = none) :
    ∀ p, v.sdh.provided = some p → ∃ r ds, v.sdh.redeemerEnc = some r ∧ v.sdh.datumEncs = some ds ∧
      (Blake2b.blake2b256 (r ++ (if ds.isEmpty then [] else [0x9f] ++ ds.flatten ++ [0xff]) ++ v.sdh.costModelBytes) = p ∨
       Blake2b.blake2b256 (r ++ (if ds.isEmpty then [] else arrayHead ds.length ++ ds.flatten) ++ v.sdh.costModelBytes) = p) := by
  have : scriptDataHash .babbage v = true := holds_script (r := .scriptDataHash) h rfl (by decide) rfl
  simp only [scriptDataHash] at this
  intro p hp
  simp only [hp] at this
  cases hr : v.sdh.redeemerEnc with
  | none => simp [hr] at this
  | some r =>
    cases hd : v.sdh.datumEncs with
    | none => simp [hr, hd] at this
    | some ds =>
      simp only [hr, hd] at this
      exact ⟨r, ds, rfl, rfl, by simpa using this⟩

theorem accepted_no_script_data_hash (era : Era) (v : View) (he : era = .alonzo ∨ era = .babbage) (h : validate era v = none)
    (hn : v.sdh.provided = none) : v.sdh.datumEncs.getD [] = [] ∧ v.sdh.redeemerCount = 0 := by
  have hc : eraHasCollateral era = true := by rcases he with rfl | rfl <;> rfl
  have : scriptDataHash era v = true := holds_script (r := .scriptDataHash) h hc (by decide) rfl
  rcases he with rfl | rfl <;> simpa [scriptDataHash, hn] using this

/-! ## The linked rule models: acceptance implies the conclusions of C34, C37 and C35 -/

theorem accepted_value_balanced (era : Era) (v : View) (he : era = .alonzo ∨ era = .babbage) (hmod : v.value.modelled = true)
    (h : validate era v = none) : Props.C34.Balanced v.value.spent v.value.produced v.fee v.value.mint := by
  rcases he with rfl | rfl <;>
    exact Props.C34.preservation_sound _ _ _ _ (beq_iff_eq.mp (holds_of_accepted (r := .preservation) h (by decide) hmod rfl))

theorem accepted_value_balanced_shelleyMA (v : View) (hmod : v.value.modelled = true) (h : validate .shelleyMA v = none) :
    Props.C34.Balanced v.value.spent v.value.produced v.fee v.value.mint :=
  Props.C34.preservation_sound_shelleyMA _ _ _ _ _ (beq_iff_eq.mp (holds_of_accepted (r := .preservation) h (by decide) hmod rfl))

theorem accepted_value_balanced_conway (v : View) (hmod : v.value.modelled = true)
    (hins : ∀ x ∈ v.value.spent, Value.Norm x) (houts : ∀ x ∈ v.value.produced, Value.Norm x)
    (hmint : ∀ m, v.value.mint = some m → Value.NodupMA m) (h : validate .conway v = none) :
    Props.C34.Balanced v.value.spent v.value.produced v.fee v.value.mint :=
  Props.C34.preservation_sound_conway _ _ _ _ hins houts hmint (beq_iff_eq.mp (holds_of_accepted (r := .preservation) h (by decide) hmod rfl))

theorem accepted_ex_units (era : Era) (v : View) (he : eraHasCollateral era = true) (rs : ExUnits.Redeemers)
    (hred : v.ex.wits.redeemers = some rs) (hpl : era = .alonzo → ExUnits.presence .alonzo v.ex.wits = true)
    (h : validate era v = none) :
    Props.C37.sumMem rs.budgets ≤ v.ex.maxMem ∧ Props.C37.sumSteps rs.budgets ≤ v.ex.maxSteps := by
  have : exUnitsOk era v = true := holds_script (r := .exUnits) h he (by decide) rfl
  refine Props.C37.exunits_sound (exUnitsEra era) v.ex.wits v.ex.maxMem v.ex.maxSteps rs (beq_iff_eq.mp this) hred ?_
  cases era <;> first | exact fun _ => hpl rfl | nofun

theorem isOkR_eq {r : Witness.R Unit} (h : isOkR r = true) : r = .ok () := by
  cases r <;> first | rfl | cases h

theorem accepted_signatures (era : Era) (v : View) (he : eraHasCollateral era = true) (h : validate era v = none) :
    (∀ w ∈ v.wit.witnesses.getD [], Props.C35.Valid v.wit.verify v.wit.txId w) ∧
    (∀ k, Witness.InputView.key k ∈ v.wit.inputViews → Props.C35.Signed v.wit.hash v.wit.verify v.wit.txId (v.wit.witnesses.getD []) k) ∧
    (∀ r ∈ v.wit.requiredSigners.getD [], Props.C35.Signed v.wit.hash v.wit.verify v.wit.txId (v.wit.witnesses.getD []) r) := by
  obtain ⟨_, _, _, hw⟩ := witnesses_parts era v he h
  have : isOkR (Witness.checkWitnessSet v.wit.hash v.wit.verify (era == .conway) v.wit.requiredSigners v.wit.witnesses
      v.wit.inputViews v.wit.txId) = true := by
    cases era <;> first | exact absurd he (by decide) | exact hw
  exact Props.C35.accept_implies_all_valid v.wit.hash v.wit.verify _ _ _ _ _ (isOkR_eq this)

/-- the rules with a stated predicate, per era, for a transaction without certificates (with certificates the value
    rule drops out of the list; everything else in `order era` is an observed verdict) -/
theorem stated_rules_cover (v : View) (hm : v.value.modelled = true) :
    (order .shelleyMA).filter (stated .shelleyMA v) = [.insNotEmpty, .insInUtxo, .validity, .txSize, .minLovelace, .preservation, .fee, .networkId, .auxData, .witnesses, .minting] ∧
    (order .alonzo).filter (stated .alonzo v) = order .alonzo ∧
    (order .babbage).filter (stated .babbage v) = order .babbage ∧
    (order .conway).filter (stated .conway v) = order .conway ∧
    (order .byron).filter (stated .byron v) = [.insNotEmpty, .txSize] := by
  refine ⟨?_, ?_, ?_, ?_, ?_⟩ <;> simp only [order, List.filter, stated, hm]

example : validate .babbage v0 = none := by decide
example : validate .babbage { v0 with slot := 101 } = some .validity := by decide
example : validate .babbage { v0 with envNetwork := 0 } = some .networkId := by decide
example : validate .babbage { v0 with inputsIn := [false], slot := 101 } = some .insInUtxo := by decide
example : validate .conway { v0 with plutusInWitnesses := true } = some .fee := by decide
private def keyColl : CollView := ⟨true, true, some false, 400000, false⟩
private def scriptColl : CollView := ⟨true, true, some true, 400000, false⟩
private def v1 : View := { v0 with plutusInWitnesses := true, collateral := some [keyColl], paidCollateral := some 400000, totalCollateral := some 400000 }
example : validate .conway v1 = none := by decide
example : validate .conway { v1 with collateral := some [scriptColl] } = some .fee := by decide
example : validate .conway { v1 with totalCollateral := some 400001 } = some .fee := by decide
example : validate .conway { v1 with maxCollateralInputs := 0 } = some .fee := by decide
example : validate .alonzo { v0 with outputs := [{ okOut with lovelace := 100000 }] } = some .minLovelace := by decide
example : validate .shelleyMA { v0 with ttl := none, coinsParam := 1000000 } = some .validity := by decide
example : validate .shelleyMA { v0 with external := fun r => r != .certificates } = some .certificates := by decide
-- the script rules reject on their own: a minted policy without script, a script-locked input without script, a superfluous
-- script, a redeemer nothing points to, a missing / an unannounced datum, an unavailable language, a wrong script-integrity
-- hash, an unbalanced value, exceeded execution units, a key-locked input without signature
example : validate .babbage { v0 with scripts := { sv0 with mintPresent := true, mintPolicies := ["p"], sortedPolicies := ["p"] } } = some .minting := by decide
example : validate .shelleyMA { v0 with scripts := { sv0 with mintPresent := true, mintPolicies := ["p"], sortedPolicies := ["p"] } } = some .minting := by decide
example : validate .babbage { v0 with scripts := { sv0 with mintPresent := true, mintPolicies := ["p"], sortedPolicies := ["p"], native := ["p"] } } = none := by decide
example : validate .alonzo { v0 with scripts := { sv0 with inputScripts := ["s"], sortedInputScripts := [some "s"] } } = some .witnesses := by decide
example : validate .conway { v0 with scripts := { sv0 with native := ["s"] } } = some .witnesses := by decide
example : validate .conway { v0 with scripts := { sv0 with redeemers := [⟨0, 0⟩] } } = some .witnesses := by decide
example : validate .conway { v0 with datums := { dv0 with inputDatumHashes := [some "d"] } } = some .witnesses := by decide
example : validate .conway { v0 with datums := { dv0 with witnessDatums := ["d"] } } = some .witnesses := by decide
example : validate .conway { v0 with datums := { dv0 with witnessDatums := ["d"], allowedDatumHashes := ["d"] } } = none := by decide
example : validate .babbage { v0 with langs := { lv0 with used := [2] } } = some .languages := by decide
example : validate .conway { v0 with langs := { lv0 with used := [0], withCostModel := [], anyReferenceInput := true } } = some .languages := by decide
example : validate .conway { v0 with langs := { lv0 with used := [2] } } = some .scriptDataHash := by decide
example : validate .babbage { v0 with sdh := { sd0 with redeemerCount := 1 } } = some .scriptDataHash := by decide
example : validate .babbage { v0 with value := { val0 with produced := [.coin 2000001] } } = some .preservation := by decide
example : validate .babbage { v0 with ex := { ex0 with wits := ⟨none, none, none, some (.list [(⟨0, 0⟩, ⟨14000001, 1⟩)])⟩ } } = some .exUnits := by decide
example : validate .babbage { v0 with wit := { wit0 with inputViews := [.key "k"] } } = some .witnesses := by decide

end PallasVerif.Props.C38
