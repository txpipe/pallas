import PallasVerif.Model.Cbor
/-
  C07 — model of `pallas-primitives/src/plutus_data.rs` (import-free apart from the L1 CBOR layer).

  * `BigInt`, `PData` : the Rust enums, with the definite/indefinite flag of `MaybeIndefArray` /
    `KeyValuePairs` kept as a `Bool` (`true` = `Def`).
  * `cmpBig`, `cmp?`  : arm-by-arm transcription of the three `Ord` impls. `constr_index` has two
    `panic!` sites; `cmp?` returns `none` exactly where the Rust panics (evaluation order kept: both
    indices are computed before they are compared, list comparison stops at the first non-equal pair).
  * `cmp`             : the same comparison with the panic outcome replaced by index 0. It is a proof
    device only: `Proofs/PlutusDataOrd.lean` shows `cmp? a b = some (cmp a b)` on values whose constructor
    tags are valid (`wfTag`), and all order laws are *stated* for `cmp?`.
  * `toItem` / `encode`: the `Encode` impls as construction of a CBOR concrete syntax tree with the
    minimal heads minicbor emits, byte strings longer than 64 bytes chunked (`chunks 64`).
  * `ofItem` / `decode`: the `Decode` impls read off the concrete syntax tree returned by the strict
    L1 parser (`Cbor.parseItem`) — a specification-level decoder. The byte-level transcription of the
    Rust decoder (over the minicbor primitives it calls) is `Model/PlutusDataDec.lean`;
    `Proofs/PlutusDataDec.lean` proves that it returns what `ofItem` returns on every well-formed
    tree `ofItem` accepts. Trailing bytes after the first item are ignored (`minicbor::decode`).
-/
namespace PallasVerif.PlutusData
open PallasVerif.Cbor

inductive BigInt where
  | int (i : Int)
  | bigU (bs : Bytes)
  | bigN (bs : Bytes)
  deriving Repr, DecidableEq, Inhabited

inductive PData where
  | constr (tag : Nat) (any : Option Nat) (isDef : Bool) (fields : List PData)
  | map (isDef : Bool) (kvs : List (PData × PData))
  | array (isDef : Bool) (xs : List PData)
  | int (b : BigInt)
  | bytes (bs : Bytes)
  deriving Repr, Inhabited

/-! ## `Constr::constr_index` — `none` = panic -/

def constrIndex (tag : Nat) (any : Option Nat) : Option Nat :=
  if 121 ≤ tag ∧ tag ≤ 127 then some (tag - 121)
  else if 1280 ≤ tag ∧ tag ≤ 1400 then some (tag - 1280 + 7)
  else if tag = 102 then any
  else none

/-! ## `impl Ord for BigInt` -/

/-- `skip_while(|b| b == 0)` -/
def stripZeros : Bytes → Bytes
  | [] => []
  | b :: bs => if b = 0 then stripZeros bs else b :: bs

/-- the local `fn to_bytes`: (is negative, magnitude without leading zeros);
    `i128::abs().to_be_bytes()` is 16 bytes big endian -/
def BigInt.toBytes : BigInt → Bool × Bytes
  | .int i => (decide (i < 0), stripZeros (be 16 i.natAbs))
  | .bigU bs => (false, stripZeros bs)
  | .bigN bs => (true, stripZeros bs)

/-- `Vec<u8>::cmp` (lexicographic, a proper prefix is smaller) -/
def cmpBytes : Bytes → Bytes → Ordering
  | [], [] => .eq
  | [], _ :: _ => .lt
  | _ :: _, [] => .gt
  | a :: as, b :: bs =>
    match compare a.toNat b.toNat with
    | .eq => cmpBytes as bs
    | o => o

/-- magnitude comparison of two stripped byte strings: length first, then bytes -/
def cmpMag (l r : Bytes) : Ordering :=
  match compare l.length r.length with
  | .eq => cmpBytes l r
  | o => o

def cmpBig (a b : BigInt) : Ordering :=
  let l := a.toBytes
  let r := b.toBytes
  if l.2.isEmpty && r.2.isEmpty then .eq
  else if l.1 && !r.1 then .lt
  else if !l.1 && r.1 then .gt
  else if l.1 && r.1 then (cmpMag l.2 r.2).swap
  else cmpMag l.2 r.2

/-! ## `impl Ord for PlutusData` / `Constr` -/

mutual
/-- faithful comparison; `none` = the Rust panics (in `constr_index`) -/
def cmp? : PData → PData → Option Ordering
  | .constr t a _ fs, .constr t' a' _ fs' =>
    match constrIndex t a, constrIndex t' a' with
    | some i, some j =>
      match compare i j with
      | .eq => cmpList? fs fs'
      | o => some o
    | _, _ => none
  | .constr .., .map .. => some .lt
  | .constr .., .array .. => some .lt
  | .constr .., .int .. => some .lt
  | .constr .., .bytes .. => some .lt
  | .map .., .constr .. => some .gt
  | .array .., .constr .. => some .gt
  | .int .., .constr .. => some .gt
  | .bytes .., .constr .. => some .gt
  | .map _ kvs, .map _ kvs' => cmpKvs? kvs kvs'
  | .map .., .array .. => some .lt
  | .map .., .int .. => some .lt
  | .map .., .bytes .. => some .lt
  | .array .., .map .. => some .gt
  | .int .., .map .. => some .gt
  | .bytes .., .map .. => some .gt
  | .array _ xs, .array _ ys => cmpList? xs ys
  | .array .., .int .. => some .lt
  | .array .., .bytes .. => some .lt
  | .int .., .array .. => some .gt
  | .bytes .., .array .. => some .gt
  | .int a, .int b => some (cmpBig a b)
  | .int .., .bytes .. => some .lt
  | .bytes .., .int .. => some .gt
  | .bytes a, .bytes b => some (cmpBytes a b)
/-- `Vec<PlutusData>::cmp` -/
def cmpList? : List PData → List PData → Option Ordering
  | [], [] => some .eq
  | [], _ :: _ => some .lt
  | _ :: _, [] => some .gt
  | x :: xs, y :: ys =>
    match cmp? x y with
    | none => none
    | some .eq => cmpList? xs ys
    | some o => some o
/-- `Vec<(PlutusData, PlutusData)>::cmp` (tuples compare lexicographically) -/
def cmpKvs? : List (PData × PData) → List (PData × PData) → Option Ordering
  | [], [] => some .eq
  | [], _ :: _ => some .lt
  | _ :: _, [] => some .gt
  | (k, v) :: xs, (k', v') :: ys =>
    match cmp? k k' with
    | none => none
    | some .eq =>
      match cmp? v v' with
      | none => none
      | some .eq => cmpKvs? xs ys
      | some o => some o
    | some o => some o
end

/-- `constr_index` with the panic outcome replaced by 0 (proof device, see module doc) -/
def cidx (tag : Nat) (any : Option Nat) : Nat := (constrIndex tag any).getD 0

mutual
def cmp : PData → PData → Ordering
  | .constr t a _ fs, .constr t' a' _ fs' =>
    match compare (cidx t a) (cidx t' a') with
    | .eq => cmpList fs fs'
    | o => o
  | .constr .., .map .. => .lt
  | .constr .., .array .. => .lt
  | .constr .., .int .. => .lt
  | .constr .., .bytes .. => .lt
  | .map .., .constr .. => .gt
  | .array .., .constr .. => .gt
  | .int .., .constr .. => .gt
  | .bytes .., .constr .. => .gt
  | .map _ kvs, .map _ kvs' => cmpKvs kvs kvs'
  | .map .., .array .. => .lt
  | .map .., .int .. => .lt
  | .map .., .bytes .. => .lt
  | .array .., .map .. => .gt
  | .int .., .map .. => .gt
  | .bytes .., .map .. => .gt
  | .array _ xs, .array _ ys => cmpList xs ys
  | .array .., .int .. => .lt
  | .array .., .bytes .. => .lt
  | .int .., .array .. => .gt
  | .bytes .., .array .. => .gt
  | .int a, .int b => cmpBig a b
  | .int .., .bytes .. => .lt
  | .bytes .., .int .. => .gt
  | .bytes a, .bytes b => cmpBytes a b
def cmpList : List PData → List PData → Ordering
  | [], [] => .eq
  | [], _ :: _ => .lt
  | _ :: _, [] => .gt
  | x :: xs, y :: ys =>
    match cmp x y with
    | .eq => cmpList xs ys
    | o => o
def cmpKvs : List (PData × PData) → List (PData × PData) → Ordering
  | [], [] => .eq
  | [], _ :: _ => .lt
  | _ :: _, [] => .gt
  | (k, v) :: xs, (k', v') :: ys =>
    match cmp k k' with
    | .eq =>
      match cmp v v' with
      | .eq => cmpKvs xs ys
      | o => o
    | o => o
end

/-! ## well-formedness -/

mutual
/-- every constructor node carries a tag on which `constr_index` does not panic:
    121..127, 1280..1400, or 102 with `any_constructor` present -/
def wfTag : PData → Bool
  | .constr t a _ fs => (constrIndex t a).isSome && wfTagList fs
  | .map _ kvs => wfTagKvs kvs
  | .array _ xs => wfTagList xs
  | .int _ => true
  | .bytes _ => true
def wfTagList : List PData → Bool
  | [] => true
  | x :: xs => wfTag x && wfTagList xs
def wfTagKvs : List (PData × PData) → Bool
  | [] => true
  | (k, v) :: xs => wfTag k && wfTag v && wfTagKvs xs
end

def u64Bound : Nat := 18446744073709551616

def BigInt.fits : BigInt → Bool
  | .int i => decide (-(u64Bound : Int) ≤ i) && decide (i < (u64Bound : Int))
  | .bigU bs => decide (bs.length < u64Bound)
  | .bigN bs => decide (bs.length < u64Bound)

mutual
/-- the value inhabits the Rust types: `tag`, `any_constructor` are `u64`, `Int` is minicbor's
    65-bit integer (−2^64 ≤ i < 2^64), lengths fit the `u64` argument of a CBOR head -/
def fits : PData → Bool
  | .constr t a _ fs => decide (t < u64Bound) && decide (a.getD 0 < u64Bound) && decide (fs.length < u64Bound) && fitsList fs
  | .map _ kvs => decide (kvs.length < u64Bound) && fitsKvs kvs
  | .array _ xs => decide (xs.length < u64Bound) && fitsList xs
  | .int b => b.fits
  | .bytes bs => decide (bs.length < u64Bound)
def fitsList : List PData → Bool
  | [] => true
  | x :: xs => fits x && fitsList xs
def fitsKvs : List (PData × PData) → Bool
  | [] => true
  | (k, v) :: xs => fits k && fits v && fitsKvs xs
end

/-! ## encoder -/

/-- `slice.chunks(n)` for `n > 0` (fuel = length of the slice) -/
def chunksAux : Nat → Nat → Bytes → List Bytes
  | 0, _, _ => []
  | fuel + 1, n, bs => if bs.isEmpty then [] else bs.take n :: chunksAux fuel n (bs.drop n)

def chunks (n : Nat) (bs : Bytes) : List Bytes := chunksAux bs.length n bs

/-- `impl Encode for BoundedBytes` -/
def bbItem (bs : Bytes) : Item :=
  if bs.length ≤ 64 then mkBytes bs
  else .strIndef 2 ((chunks 64 bs).map fun c => (minHead 2 c.length, c))

/-- `impl Encode for BigInt` -/
def bigItem : BigInt → Item
  | .int i => mkInt i
  | .bigU bs => mkTag 2 (bbItem bs)
  | .bigN bs => mkTag 3 (bbItem bs)

/-- `impl Encode for MaybeIndefArray` -/
def arrItem (isDef : Bool) (xs : List Item) : Item :=
  if isDef then mkArray xs else .seqIndef 4 xs

mutual
def toItem : PData → Item
  | .constr t a df fs =>
    if t = 102 then mkTag t (mkArray [mkUInt (a.getD 0), arrItem df (toItems fs)])
    else mkTag t (arrItem df (toItems fs))
  | .map df kvs => if df then .seq (minHead 5 kvs.length) (toFlat kvs) else .seqIndef 5 (toFlat kvs)
  | .array df xs => arrItem df (toItems xs)
  | .int b => bigItem b
  | .bytes bs => bbItem bs
def toItems : List PData → List Item
  | [] => []
  | x :: xs => toItem x :: toItems xs
def toFlat : List (PData × PData) → List Item
  | [] => []
  | (k, v) :: xs => toItem k :: toItem v :: toFlat xs
end

def encode (d : PData) : Bytes := (toItem d).encode

/-! ## decoder -/

def isConstrTag (t : Nat) : Bool := (decide (121 ≤ t) && decide (t ≤ 127)) || (decide (1280 ≤ t) && decide (t ≤ 1400))

mutual
def ofItem : Item → Option PData
  | .atom h =>
    if h.major = 0 then some (.int (.int (Int.ofNat h.val)))
    else if h.major = 1 then some (.int (.int (-1 - Int.ofNat h.val)))
    else none
  | .str h bs => if h.major = 2 then some (.bytes bs) else none
  | .strIndef m cs => if m = 2 then some (.bytes (chunksPayload cs)) else none
  | .seq h xs =>
    if h.major = 4 then (ofItems xs).map (.array true) else (ofPairs xs).map (.map true)
  | .seqIndef m xs =>
    if m = 4 then (ofItems xs).map (.array false) else (ofPairs xs).map (.map false)
  | .tag h i =>
    if h.val = 2 then (i.strPayload? 2).map fun bs => .int (.bigU bs)
    else if h.val = 3 then (i.strPayload? 2).map fun bs => .int (.bigN bs)
    else if isConstrTag h.val then
      match i with
      | .seq h' xs => if h'.major = 4 then (ofItems xs).map (.constr h.val none true) else none
      | .seqIndef m xs => if m = 4 then (ofItems xs).map (.constr h.val none false) else none
      | _ => none
    else if h.val = 102 then
      match i with
      | .seq h' [a, f] =>
        if h'.major = 4 then
          match a.uint?, f with
          | some n, .seq h'' xs => if h''.major = 4 then (ofItems xs).map (.constr 102 (some n) true) else none
          | some n, .seqIndef m xs => if m = 4 then (ofItems xs).map (.constr 102 (some n) false) else none
          | _, _ => none
        else none
      | .seqIndef m' [a, f] =>
        if m' = 4 then
          match a.uint?, f with
          | some n, .seq h'' xs => if h''.major = 4 then (ofItems xs).map (.constr 102 (some n) true) else none
          | some n, .seqIndef m xs => if m = 4 then (ofItems xs).map (.constr 102 (some n) false) else none
          | _, _ => none
        else none
      | _ => none
    else none
def ofItems : List Item → Option (List PData)
  | [] => some []
  | x :: xs =>
    match ofItem x, ofItems xs with
    | some d, some ds => some (d :: ds)
    | _, _ => none
def ofPairs : List Item → Option (List (PData × PData))
  | [] => some []
  | [_] => none
  | k :: v :: xs =>
    match ofItem k, ofItem v, ofPairs xs with
    | some a, some b, some r => some ((a, b) :: r)
    | _, _, _ => none
end

/-- `minicbor::decode::<PlutusData>` : first item of the input, trailing bytes ignored -/
def decode (bs : Bytes) : Option PData :=
  match parseItem bs with
  | some (i, _) => ofItem i
  | none => none

/-! ## what decode normalises: `any_constructor` is `None` unless the tag is 102 -/

mutual
def normAny : PData → PData
  | .constr t a df fs => .constr t (if t = 102 then a else none) df (normAnyList fs)
  | .map df kvs => .map df (normAnyKvs kvs)
  | .array df xs => .array df (normAnyList xs)
  | .int b => .int b
  | .bytes bs => .bytes bs
def normAnyList : List PData → List PData
  | [] => []
  | x :: xs => normAny x :: normAnyList xs
def normAnyKvs : List (PData × PData) → List (PData × PData)
  | [] => []
  | (k, v) :: xs => (normAny k, normAny v) :: normAnyKvs xs
end

mutual
/-- forget the definite/indefinite encoding choice everywhere -/
def eraseDef : PData → PData
  | .constr t a _ fs => .constr t a true (eraseDefList fs)
  | .map _ kvs => .map true (eraseDefKvs kvs)
  | .array _ xs => .array true (eraseDefList xs)
  | .int b => .int b
  | .bytes bs => .bytes bs
def eraseDefList : List PData → List PData
  | [] => []
  | x :: xs => eraseDef x :: eraseDefList xs
def eraseDefKvs : List (PData × PData) → List (PData × PData)
  | [] => []
  | (k, v) :: xs => (eraseDef k, eraseDef v) :: eraseDefKvs xs
end

end PallasVerif.PlutusData
