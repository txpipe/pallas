import PallasVerif.Proofs.Negotiate
/-!
# C25 — Handshake negotiation accepts only the highest common version

`Model/Negotiate.lean` transcribes the two responders (`negotiate1`: pallas-network `Server::handshake`;
`negotiate2`: pallas-network2 `try_accept_handshake`); version tables are `HashMap`s: association lists in an
arbitrary order.

The theorems hold for **every** pair of tables (any size, any version data type) and come in pairs
`…_stack1/2`, both read off one case characterisation (`Negotiate.Decides`, Proofs/Negotiate): each of
the three answers is sound, disjoint version sets get the version mismatch, and with unique keys (hash
maps) the highest common version alone decides, whatever the iteration order of either table.
`stack2_never_panics`: the indexing `values[num]` cannot fail. The statements spell `NoCommon` and `HighestCommon`
out in the model's terms; the proofs meet them by unfolding.
-/
namespace PallasVerif.Props.C25
open PallasVerif.Negotiate

variable {D : Type}

/-- stack 1: accepted ⇒ offered by both with equal data (so equal magic, for any notion of magic), and
    highest among the common versions -/
theorem accept_sound_stack1 [DecidableEq D] (magic : D → Nat) (ours theirs : Table D) (v : Nat) (d : D)
    (h : negotiate1 ours theirs = .accept v d) :
    (v, d) ∈ ours ∧ (∃ d', (v, d') ∈ theirs ∧ magic d' = magic d) ∧
      ∀ w, w ∈ keys ours → w ∈ keys theirs → w ≤ v := by
  obtain ⟨d', hc, heq⟩ := (negotiate1_decides ours theirs).sound.1 v d h
  exact ⟨hc.1, ⟨d', hc.2.1, congrArg magic (Decidable.not_not.mp heq).symm⟩, hc.2.2⟩

/-- stack 1: disjoint ⇒ `Refuse(VersionMismatch(l))` where `l` is exactly the responder's versions
    (highest first) -/
theorem disjoint_refuses_stack1 [DecidableEq D] (ours theirs : Table D) (h : ∀ w ∈ keys ours, w ∉ keys theirs) :
    ∃ l, negotiate1 ours theirs = .versionMismatch l ∧ l.Perm (keys ours) ∧ l.Pairwise (· ≥ ·) :=
  ⟨_, (negotiate1_decides ours theirs).of_noCommon h, (sortDesc_perm ours).map _,
    List.pairwise_map.mpr (sortDesc_sorted ours)⟩

/-- the other two answers are sound as well (so the three theorems characterise each responder): a
    `Refused(v)` is about the highest common version, whose data (stack 1) / magics (stack 2) differ, and a
    version mismatch is sent only for disjoint tables -/
theorem refusals_sound_stack1 [DecidableEq D] (ours theirs : Table D) :
    (∀ v, negotiate1 ours theirs = .refused v →
      (∃ d d', (v, d) ∈ ours ∧ (v, d') ∈ theirs ∧ d ≠ d') ∧ ∀ w, w ∈ keys ours → w ∈ keys theirs → w ≤ v) ∧
    (∀ vs, negotiate1 ours theirs = .versionMismatch vs → ∀ w ∈ keys ours, w ∉ keys theirs) :=
  have hs := (negotiate1_decides ours theirs).sound
  ⟨fun v h => let ⟨d, d', hc, hd⟩ := hs.2.1 v h; ⟨⟨d, d', hc.1, hc.2.1, hd⟩, hc.2.2⟩, hs.2.2.1⟩

/-- completeness: with unique keys the highest common version alone decides. Stack 1 compares the whole
    version data (every field, in full); stack 2 the two network magics as full 64-bit numbers. -/
theorem highest_common_decides_stack1 [DecidableEq D] (ours theirs : Table D) (hno : (keys ours).Nodup)
    (hnt : (keys theirs).Nodup) (v : Nat) (d d' : D) (ho : (v, d) ∈ ours) (ht : (v, d') ∈ theirs)
    (hmax : ∀ w, w ∈ keys ours → w ∈ keys theirs → w ≤ v) :
    negotiate1 ours theirs = if d = d' then .accept v d else .refused v :=
  ((negotiate1_decides ours theirs).of_highestCommon hno hnt ⟨ho, ht, hmax⟩).trans (ite_not ..)

/-- stack 1: the iteration orders of the two hash maps do not matter -/
theorem order_independent_stack1 [DecidableEq D] (ours ours' theirs theirs' : Table D)
    (ho : ours.Perm ours') (ht : theirs.Perm theirs') (hno : (keys ours).Nodup) (hnt : (keys theirs).Nodup) :
    negotiate1 ours theirs = negotiate1 ours' theirs' :=
  ((negotiate1_decides ours theirs).order_independent (negotiate1_decides ours' theirs') ho ht hno hnt).1
    (congrArg keys (sortDesc_eq_of_perm ho hno))

/-- stack 2: accepted ⇒ our data for a version the peer proposed with the same magic, highest common -/
theorem accept_sound_stack2 (magic : D → Nat) (ours proposed : Table D) (v : Nat) (d : D)
    (h : negotiate2 magic ours proposed = .accept v d) :
    (v, d) ∈ ours ∧ (∃ pd, (v, pd) ∈ proposed ∧ magic pd = magic d) ∧
      ∀ w, w ∈ keys ours → w ∈ keys proposed → w ≤ v := by
  obtain ⟨pd, hc, heq⟩ := (negotiate2_decides magic ours proposed).sound.1 v d h
  exact ⟨hc.1, ⟨pd, hc.2.1, Decidable.not_not.mp heq⟩, hc.2.2⟩

/-- stack 2: disjoint ⇒ `Refuse(VersionMismatch(our keys))` -/
theorem disjoint_refuses_stack2 (magic : D → Nat) (ours proposed : Table D) (h : ∀ w ∈ keys ours, w ∉ keys proposed) :
    negotiate2 magic ours proposed = .versionMismatch (keys ours) :=
  (negotiate2_decides magic ours proposed).of_noCommon h

theorem refusals_sound_stack2 (magic : D → Nat) (ours proposed : Table D) :
    (∀ v, negotiate2 magic ours proposed = .refused v →
      (∃ d pd, (v, d) ∈ ours ∧ (v, pd) ∈ proposed ∧ magic pd ≠ magic d) ∧
        ∀ w, w ∈ keys ours → w ∈ keys proposed → w ≤ v) ∧
    (∀ vs, negotiate2 magic ours proposed = .versionMismatch vs → ∀ w ∈ keys ours, w ∉ keys proposed) :=
  have hs := (negotiate2_decides magic ours proposed).sound
  ⟨fun v h => let ⟨d, pd, hc, hd⟩ := hs.2.1 v h; ⟨⟨d, pd, hc.1, hc.2.1, hd⟩, hc.2.2⟩, hs.2.2.1⟩

theorem highest_common_decides_stack2 (magic : D → Nat) (ours proposed : Table D) (hno : (keys ours).Nodup)
    (hnp : (keys proposed).Nodup) (v : Nat) (d pd : D) (ho : (v, d) ∈ ours) (hp : (v, pd) ∈ proposed)
    (hmax : ∀ w, w ∈ keys ours → w ∈ keys proposed → w ≤ v) :
    negotiate2 magic ours proposed = if magic pd ≠ magic d then .refused v else .accept v d :=
  (negotiate2_decides magic ours proposed).of_highestCommon hno hnp ⟨ho, hp, hmax⟩

/-- stack 2: order independence (a version-mismatch lists the same versions, in the map's order) -/
theorem order_independent_stack2 (magic : D → Nat) (ours ours' proposed proposed' : Table D)
    (ho : ours.Perm ours') (hp : proposed.Perm proposed') (hno : (keys ours).Nodup) (hnp : (keys proposed).Nodup) :
    (negotiate2 magic ours proposed).sim (negotiate2 magic ours' proposed') :=
  ((negotiate2_decides magic ours proposed).order_independent (negotiate2_decides magic ours' proposed') ho hp hno hnp).2
    (ho.map _)

/-- Two magics that differ only above bit 8 / 16 / 32 (or anywhere) are different networks: whenever the
    peer's magic for the highest common version is ours plus a non-zero multiple of `2^k`, the
    responder refuses — there is no narrowing of the 64-bit value. -/
theorem magic_high_bits_refused_stack2 (magic : D → Nat) (ours proposed : Table D) (hno : (keys ours).Nodup)
    (hnp : (keys proposed).Nodup) (v : Nat) (d pd : D) (ho : (v, d) ∈ ours) (hp : (v, pd) ∈ proposed)
    (hmax : ∀ w, w ∈ keys ours → w ∈ keys proposed → w ≤ v)
    (k j : Nat) (hj : 0 < j) (hhigh : magic pd = magic d + j * 2 ^ k) :
    negotiate2 magic ours proposed = .refused v := by
  have : 0 < j * 2 ^ k := Nat.mul_pos hj (Nat.two_pow_pos k)
  rw [highest_common_decides_stack2 magic ours proposed hno hnp v d pd ho hp hmax, if_pos (by omega)]

theorem stack2_never_panics (magic : D → Nat) (ours proposed : Table D) : negotiate2 magic ours proposed ≠ .panic :=
  (negotiate2_decides magic ours proposed).sound.2.2.2

/-! ## non-vacuity: the hypotheses are inhabited and all three outcomes occur -/

/-- data = (magic, flag) -/
abbrev VD := Nat × Nat

example : negotiate1 (D := VD) [(14, (1, 0)), (13, (1, 0)), (11, (1, 0))] [(12, (1, 0)), (14, (1, 0)), (13, (1, 0))]
    = .accept 14 (1, 0) := by rw [negotiate1_of_sorted (by decide)]; decide
example : negotiate1 (D := VD) [(14, (1, 1)), (13, (1, 0))] [(14, (1, 0)), (13, (1, 0))] = .refused 14 := by
  rw [negotiate1_of_sorted (by decide)]; decide
example : negotiate1 (D := VD) [(14, (1, 1)), (13, (1, 0)), (9, (1, 0))] [(7, (1, 0)), (8, (1, 0))]
    = .versionMismatch [14, 13, 9] := by rw [negotiate1_of_sorted (by decide)]; decide
/-- … and, through order independence, for the same tables in any other order -/
example : negotiate1 (D := VD) [(13, (1, 0)), (11, (1, 0)), (14, (1, 0))] [(13, (1, 0)), (12, (1, 0)), (14, (1, 0))]
    = .accept 14 (1, 0) := by
  rw [order_independent_stack1 _ [(14, (1, 0)), (13, (1, 0)), (11, (1, 0))] _ [(12, (1, 0)), (14, (1, 0)), (13, (1, 0))]
        (by decide) (by decide) (by decide) (by decide), negotiate1_of_sorted (by decide)]
  decide
example : negotiate2 (D := VD) (·.1) [(13, (1, 0)), (14, (1, 1))] [(12, (1, 5)), (14, (1, 7)), (13, (1, 0))]
    = .accept 14 (1, 1) := by decide
example : negotiate2 (D := VD) (·.1) [(13, (1, 0)), (14, (1, 1))] [(14, (2, 1)), (13, (1, 0))] = .refused 14 := by decide
example : negotiate2 (D := VD) (·.1) [(13, (1, 0)), (14, (1, 1))] [(7, (1, 0))] = .versionMismatch [13, 14] := by decide
example : (keys (D := VD) [(13, (1, 0)), (14, (1, 1))]).Nodup ∧
    [(13, ((1, 0) : VD)), (14, (1, 1))].Perm [(14, (1, 1)), (13, (1, 0))] := by
  constructor
  · decide
  · exact List.Perm.swap ..

/-! ## 64-bit witnesses: equality is on the full `u64`, for magics and for version numbers -/

/-- MAINNET_MAGIC and MAINNET_MAGIC + 2^32 are both `u64`s, agree modulo 2^32 — and are refused -/
example : U64 764824073 ∧ U64 5059791369 ∧ 5059791369 % 2 ^ 32 = 764824073 % 2 ^ 32 ∧
    negotiate2 (D := VD) (·.1) [(13, (764824073, 0))] [(13, (5059791369, 0))] = .refused 13 := by decide
/-- the same for magics agreeing modulo 2^16, modulo 2^8, differing only in bit 63, and for the two ends
    of the range -/
example : negotiate2 (D := VD) (·.1) [(14, (764824073, 0)), (13, (764824073, 0))]
    [(14, (764824073 + 2 ^ 16, 0)), (13, (764824073, 0))] = .refused 14 := by decide
example : negotiate2 (D := VD) (·.1) [(13, (1, 0))] [(13, (257, 0))] = .refused 13 := by decide
example : negotiate2 (D := VD) (·.1) [(13, (2, 0))] [(13, (2 + 2 ^ 63, 0))] = .refused 13 := by decide
example : negotiate2 (D := VD) (·.1) [(13, (0, 0))] [(13, (2 ^ 64 - 1, 0))] = .refused 13 := by decide
/-- … while equal 64-bit magics are accepted -/
example : negotiate2 (D := VD) (·.1) [(13, (5059791369, 1))] [(13, (5059791369, 0))] = .accept 13 (5059791369, 1) := by decide
/-- stack 1 compares the whole data: a magic differing only above bit 32 refuses -/
example : negotiate1 (D := VD) [(13, (764824073, 0))] [(13, (5059791369, 0))] = .refused 13 := by
  rw [negotiate1_of_sorted (by decide)]; decide
/-- version numbers are full `u64`s too: 13 and 13 + 2^16 / 13 + 2^32 are different versions, in one
    table and across tables -/
example : negotiate2 (D := VD) (·.1) [(13, (1, 0)), (13 + 2 ^ 16, (1, 1))] [(13 + 2 ^ 32, (1, 0)), (13, (1, 0))]
    = .accept 13 (1, 0) := by decide
example : negotiate2 (D := VD) (·.1) [(13, (1, 0))] [(13 + 2 ^ 32, (1, 0)), (13 + 2 ^ 16, (1, 0))]
    = .versionMismatch [13] := by decide
example : negotiate1 (D := VD) [(13 + 2 ^ 32, (1, 1)), (13 + 2 ^ 16, (1, 0)), (13, (1, 0))] [(13 + 2 ^ 16, (1, 0)), (13, (1, 0))]
    = .accept (13 + 2 ^ 16) (1, 0) := by rw [negotiate1_of_sorted (by decide)]; decide
example : negotiate1 (D := VD) [(13, (1, 0))] [(13 + 2 ^ 32, (1, 0))] = .versionMismatch [13] := by
  rw [negotiate1_of_sorted (by decide)]; decide

end PallasVerif.Props.C25
