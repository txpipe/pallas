import Mathlib.Analysis.Complex.Exponential
import PallasVerif.Proofs.RefMath
import PallasVerif.Proofs.TaylorReal
/-! Real-number reading of `ref_exp` (C15): Taylor terms, `scale` and `ipow_` all round down on
    non-negative values, so the result never exceeds `Real.exp x`; on the unit interval the scaling
    exponent is 1 and the Taylor stage alone gives a two-sided bound. -/
namespace PallasVerif.Proofs.RefMath
open PallasVerif.Decimal PallasVerif.RefMath PallasVerif.Proofs.Decimal PallasVerif.Proofs.ExpCmp

theorem ipowNat_le {r : Int} {R : ℝ} (hr : 0 ≤ r) (hR : toReal r ≤ R) (n : Nat) : toReal (ipowNat r n) ≤ R ^ n := by
  fun_induction ipowNat r n with
  | case1 => rw [pow_zero, toReal_ONE]  -- `n = 0`: `ONE`
  | case2 n _ _ _ ih =>  -- even `n`: the half power squared
    have hnn := ipowNat_nonneg r hr (n / 2)
    exact (toReal_scale_mul_le_of_le hnn hnn ih ih).trans_eq (by rw [← pow_add]; congr 1; omega)
  | case3 n _ _ _ ih =>  -- odd `n`: the power before, times `r`
    exact (toReal_scale_mul_le_of_le (ipowNat_nonneg r hr (n - 1)) hr ih hR).trans_eq
      (by rw [← pow_succ]; congr 1; omega)

theorem refExpPos_le_exp (x : Int) (hx : 0 < x) (m : Nat) (r : Int)
    (h : refExpPos x = some (m, r)) : toReal r ≤ Real.exp (toReal x) := by
  have hn := divRoundCeil_pos x P hx P_pos
  obtain ⟨-, rfl⟩ := refExpPos_eq_some hx h
  generalize divRoundCeil x P = n at hn ⊢
  have hx' : 0 ≤ x.tdiv n := Int.tdiv_nonneg hx.le hn.le
  have hps0 := (psum_pos _ hx' m).le
  -- truncating the scaled argument only lowers it
  have hnx : (n.toNat : ℝ) * toReal (x.tdiv n) ≤ toReal x := by
    have e1 := Int.mul_tdiv_add_tmod x n
    have e2 := Int.tmod_nonneg n hx.le
    have hc : ((n.toNat : Int) : ℝ) = (n : ℝ) := by rw [Int.toNat_of_nonneg hn.le]
    rw [← Int.cast_natCast, hc, mul_comm, ← toReal_mul_int]
    exact toReal_le (by rw [Int.mul_comm]; omega)
  calc toReal (ipowNat (psum (x.tdiv n) m) n.toNat)
      ≤ Real.exp (toReal (x.tdiv n)) ^ n.toNat := ipowNat_le hps0 (psum_le_exp _ hx' m) _
    _ = Real.exp ((n.toNat : ℝ) * toReal (x.tdiv n)) := (Real.exp_nat_mul _ _).symm
    _ ≤ Real.exp (toReal x) := Real.exp_le_exp.mpr hnx

/-- `1/26! < 10^-24 = EPS`: an upper bound (not the least) for the index at which `mp_exp_taylor` stops -/
theorem tterm25_small (x : Int) (h0 : 0 ≤ x) (h1 : x ≤ P) : absLt (tterm x 25) EPS = true := by
  have hr1 : toReal x ≤ 1 := toReal_ONE ▸ toReal_le h1
  have hf : (0 : ℝ) < ((25 + 1).factorial : ℝ) := by positivity
  have h2 : toReal (tterm x 25) ≤ 1 / ((25 + 1).factorial : ℝ) :=
    (tterm_le x h0 25).trans (div_le_div_of_nonneg_right (pow_le_one₀ (toReal_nonneg h0) hr1) hf.le)
  have h3 : (1 : ℝ) / ((25 + 1).factorial : ℝ) < toReal EPS := by
    simp only [toReal, P, EPS, Nat.factorial]
    norm_num
  refine (absLt_EPS_iff (tterm_nonneg x h0 25)).mpr ?_
  by_contra hge
  exact absurd (toReal_le (Int.not_lt.mp hge)) (not_le.mpr (h2.trans_lt h3))

theorem psum_unit_two_sided (x : Int) (h0 : 0 ≤ x) (h1 : x ≤ P) :
    toReal (psum x (stopIdx x EPS 1000)) ≤ Real.exp (toReal x) ∧
      Real.exp (toReal x) ≤ toReal (psum x (stopIdx x EPS 1000)) + 21 / 10 ^ 25 := by
  refine ⟨psum_le_exp x h0 _, ?_⟩
  -- the loop stops at the first small term, which is at index ≤ 25
  have hm25 : stopIdx x EPS 1000 ≤ 25 := by
    by_contra hgt
    exact absurd (tterm25_small x h0 h1) (by rw [stopIdx_min (Nat.lt_of_not_le hgt)]; decide)
  have hsmall := stopIdx_exit (x := x) (eps := EPS) (cap := 1000) (by omega)
  generalize stopIdx x EPS 1000 = m at hm25 hsmall ⊢
  have hT0 := toReal_nonneg (tterm_nonneg x h0 m)
  have hTs : toReal (tterm x m) < toReal EPS :=
    toReal_lt ((absLt_EPS_iff (tterm_nonneg x h0 m)).mp hsmall)
  -- exp ≤ psum + 2·term + (3m + 6) ulp, the term is below EPS and m ≤ 25
  have hE := (abs_le.mp (exp_sub_psum_le x (abs_toReal_le_one (by have := P_pos; omega) h1) 2 le_rfl m)).2
  rw [abs_of_nonneg hT0] at hE
  have hmr : (m : ℝ) ≤ 25 := by exact_mod_cast hm25
  have hslack : (3 * (m : ℝ) + 3 * 2) / (P : ℝ) ≤ (3 * 25 + 3 * 2) / (P : ℝ) :=
    div_le_div_of_nonneg_right (by linarith only [hmr]) P_real_pos.le
  have hnum : 2 * toReal EPS + (3 * 25 + 3 * 2) / ((P : Int) : ℝ) ≤ 21 / 10 ^ 25 := by
    simp only [toReal, P, EPS]; norm_num
  linarith only [hE, hTs, hslack, hnum]

theorem one_div_close {t E δ : ℝ} (ht : 1 ≤ t) (h1 : t ≤ E) (h2 : E ≤ t + δ) :
    1 / E ≤ 1 / t ∧ 1 / t ≤ 1 / E + δ := by
  have ht0 : (0 : ℝ) < t := one_pos.trans_le ht
  have hE0 : (0 : ℝ) < E := ht0.trans_le h1
  refine ⟨one_div_le_one_div_of_le ht0 h1, ?_⟩
  have e : 1 / t - 1 / E = (E - t) / (t * E) := by
    rw [one_div, one_div, inv_sub_inv ht0.ne' hE0.ne']
  have : (E - t) / (t * E) ≤ E - t :=
    div_le_self (sub_nonneg.mpr h1) (one_le_mul_of_one_le_of_one_le ht (ht.trans h1))
  linarith only [e, this, h2]

/-- the Taylor sum for `-x` is within `2.1·10^-24` below `e^(-x) ≥ 1`; the truncating division of `1` by it
    (`expD_unit_neg`) adds one ulp -/
theorem recip_psum_unit_close (x : Int) (h0 : x < 0) (h1 : -P ≤ x) :
    |toReal ((ONE * P).tdiv (psum (-x) (stopIdx (-x) EPS 1000))) - Real.exp (toReal x)| ≤ 22 / 10 ^ 25 := by
  obtain ⟨b1, b2⟩ := psum_unit_two_sided (-x) (by omega) (by omega)
  generalize stopIdx (-x) EPS 1000 = m at b1 b2 ⊢
  have hge := psum_ge_one (-x) (by omega) m
  have htpos := psum_pos (-x) (by omega) m
  rw [toReal_neg] at b1 b2
  have ht1 : (1 : ℝ) ≤ toReal (psum (-x) m) := toReal_ONE ▸ toReal_le hge
  obtain ⟨c1, c2⟩ := one_div_close ht1 b1 b2
  have hd := abs_le.mp (toReal_div_abs ONE (psum (-x) m) htpos)
  rw [toReal_ONE] at hd
  have hPinv : 1 / ((P : Int) : ℝ) ≤ 1 / 10 ^ 25 := by
    simp only [P]; norm_num
  have hE : 1 / Real.exp (-toReal x) = Real.exp (toReal x) := by rw [Real.exp_neg, one_div, inv_inv]
  rw [hE] at c1 c2
  rw [abs_le]
  constructor <;> linarith only [hd.1, hd.2, c1, c2, hPinv]

theorem expD_zero {r : Int} (h : expD 0 = some r) : toReal r = Real.exp (toReal 0) := by
  obtain rfl : ONE = r := Option.some.inj h
  rw [toReal_ONE, toReal_zero, Real.exp_zero]

end PallasVerif.Proofs.RefMath
