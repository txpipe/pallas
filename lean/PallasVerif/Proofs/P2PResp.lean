import PallasVerif.Model.P2PResponder
/-! The responder model only panics on counter overflow, and every counter is bounded by the number
    of events handled so far. -/
namespace PallasVerif.P2P

structure RBound (n : Nat) (s : RSt) : Prop where
  perIp : ∀ h, s.perIp h ≤ n
  active : s.active ≤ n
  err : ∀ p st, s.peers p = some st → st.errorCount ≤ n

theorem RBound.mono {n m : Nat} {s : RSt} (h : RBound n s) (hnm : n ≤ m) : RBound m s :=
  ⟨fun k => Nat.le_trans (h.perIp k) hnm, Nat.le_trans h.active hnm,
   fun p st hp => Nat.le_trans (h.err p st hp) hnm⟩

theorem rApplyMsg_err (st : RPeer) (m : Msg) : (st.applyMsg m).errorCount = st.errorCount := by
  cases m <;> simp only [RPeer.applyMsg] <;> split <;> rfl

theorem rHandshakeInbound_err (s : RSt) (p : Nat) (st : RPeer) :
    (rHandshakeInbound s p st).1.errorCount = st.errorCount := by
  unfold rHandshakeInbound
  split
  · split
    · split <;> rfl
    · rfl
  · rfl

theorem setRPeer_err {n : Nat} {f : Nat → Option RPeer} {p : Nat} {st' : RPeer}
    (h : ∀ q st, f q = some st → st.errorCount ≤ n) (he : st'.errorCount ≤ n) :
    ∀ q st, setRPeer f p st' q = some st → st.errorCount ≤ n := by
  intro q st hq
  unfold setRPeer at hq
  by_cases e : q = p
  · simp only [e, if_true, Option.some.injEq] at hq; subst hq; exact he
  · simp only [e, if_false] at hq; exact h q st hq

theorem rInboundMsg_bound {n : Nat} {s : RSt} (p : Nat) (m : Msg) (b : RBound n s) :
    RBound n (rInboundMsg s p m) := by
  unfold rInboundMsg
  split
  · exact b
  · rename_i st hp
    have he : (st.applyMsg m).errorCount ≤ n := by rw [rApplyMsg_err]; exact b.err p st hp
    dsimp only
    split
    · exact ⟨b.perIp, b.active, setRPeer_err b.err he⟩
    · split
      · exact ⟨b.perIp, b.active, setRPeer_err b.err (by rw [rHandshakeInbound_err]; exact he)⟩
      all_goals exact ⟨b.perIp, b.active, setRPeer_err b.err he⟩

theorem rInboundAll_bound {n : Nat} (p : Nat) (ms : List Msg) {s : RSt} (b : RBound n s) :
    RBound n (ms.foldl (fun s m => rInboundMsg s p m) s) := by
  induction ms generalizing s with
  | nil => exact b
  | cons m ms ih => exact ih (rInboundMsg_bound p m b)

theorem rHkPeer_bound {n : Nat} {s : RSt} (p : Nat) (b : RBound n s) : RBound n (rHkPeer s p) := by
  unfold rHkPeer
  split
  · exact b
  · unfold rConnHk
    -- each arm changes `out` and `banned` only, which `RBound` does not read
    split
    · exact ⟨b.perIp, b.active, b.err⟩
    · split <;> exact ⟨b.perIp, b.active, b.err⟩

theorem rHkAll_bound {n : Nat} (ord : List Nat) {s : RSt} (b : RBound n s) : RBound n (rHkAll s ord) := by
  induction ord generalizing s with
  | nil => exact b
  | cons p ps ih => exact ih (rHkPeer_bound p b)

theorem setCount_le {n : Nat} {f : Nat → Nat} {h c : Nat} (hf : ∀ k, f k ≤ n) (hc : c ≤ n) :
    ∀ k, setCount f h c k ≤ n := by
  intro k; unfold setCount; split
  · exact hc
  · exact hf k

theorem rStep_bound {n : Nat} {s : RSt} (e : REv) (b : RBound n s) (hn : n + 1 < u32Bound) :
    ∃ f, rStep s e = some f ∧ RBound (n + 1) f := by
  -- only the increments use the room; everything else keeps the weaker bound `b1`
  have b1 : RBound (n + 1) { s with out := [] } :=
    have b' := b.mono (Nat.le_succ n); ⟨b'.perIp, b'.active, b'.err⟩
  have hu : u32Bound ≤ usizeBound := by decide
  unfold rStep
  cases e with
  | housekeeping ord | idle ord => exact ⟨_, rfl, rHkAll_bound ord b1⟩
  | provide p ms | banPeer p | disconnectPeer p => exact ⟨_, rfl, b1.perIp, b1.active, b1.err⟩
  | connected p =>
    dsimp only
    unfold rOnConnected
    have h0 := setRPeer_err (p := p) (st' := { conn := .connected }) b1.err (Nat.zero_le _)
    have hpi := b.perIp (hostOf p)
    have hac := b.active
    have hpi' : ∀ k, setCount s.perIp (hostOf p) (s.perIp (hostOf p) + 1) k ≤ n + 1 :=
      setCount_le b1.perIp (Nat.succ_le_succ hpi)
    -- the two arms that panic are the two increments
    fun_cases rConnVisitConnected { s with out := [] } p
    case case1 => exact ⟨_, rfl, b1.perIp, b1.active, h0⟩  -- banned: turned away before it is counted
    case case2 | case3 => exact ⟨_, rfl, hpi', b1.active, h0⟩  -- counted per IP only: over the limit, or accepted before
    case case4 => exact ⟨_, rfl, hpi', Nat.succ_le_succ hac, h0⟩  -- accepted: both counters go up
    case case5 c => exact absurd (show s.active + 1 < usizeBound by omega) c
    case case6 c => exact absurd (show s.perIp (hostOf p) + 1 < usizeBound by omega) c
  | disconnected p =>
    refine ⟨_, rfl, ?_⟩
    unfold rOnDisconnected
    have hdel : ∀ q st, delRPeer s.peers p q = some st → st.errorCount ≤ n + 1 := by
      intro q st hq
      unfold delRPeer at hq
      split at hq
      · cases hq
      · exact b1.err q st hq
    split
    · exact ⟨b1.perIp, b1.active, hdel⟩
    · unfold rConnVisitDisconnected
      dsimp only
      have hpi' : ∀ k, setCount s.perIp (hostOf p) (s.perIp (hostOf p) - 1) k ≤ n + 1 :=
        setCount_le b1.perIp (Nat.le_trans (Nat.sub_le _ _) (b1.perIp _))
      split
      · exact ⟨hpi', Nat.le_trans (Nat.sub_le _ _) b1.active, hdel⟩
      · exact ⟨hpi', b1.active, hdel⟩
  | recv p ms => exact ⟨_, rfl, rInboundAll_bound p ms b1⟩
  | sent p m =>
    refine ⟨_, rfl, ?_⟩
    unfold rOutboundMsg
    split
    · exact b1
    · rename_i st hp
      exact ⟨b1.perIp, b1.active, setRPeer_err b1.err (by rw [rApplyMsg_err]; exact b1.err p st hp)⟩
  | error p =>
    dsimp only
    unfold rOnErrored
    split
    · exact ⟨_, rfl, b1⟩
    · rename_i st hp
      have he := b.err p st hp
      have c : st.errorCount + 1 < u32Bound := by omega
      simp only [c, if_true]
      exact ⟨_, rfl, b1.perIp, b1.active, setRPeer_err b1.err (Nat.succ_le_succ he)⟩

theorem rRun_total : ∀ (h : List REv) (s : RSt) (n : Nat), RBound n s → n + h.length < u32Bound →
    ∃ f, rRun s h = some f ∧ RBound (n + h.length) f := by
  intro h
  induction h with
  | nil => intro s n b _; exact ⟨s, rfl, b⟩
  | cons e es ih =>
    intro s n b hl
    simp only [List.length_cons] at hl
    obtain ⟨f1, h1, b1⟩ := rStep_bound e b (by omega)
    obtain ⟨f, h2, b2⟩ := ih f1 (n + 1) b1 (by omega)
    refine ⟨f, ?_, ?_⟩
    · simp only [rRun, h1, h2]
    · simp only [List.length_cons]; rw [show n + (es.length + 1) = n + 1 + es.length by omega]; exact b2

theorem rInit_bound (s : RSt) (hp : s.perIp = fun _ => 0) (ha : s.active = 0) (hq : s.peers = fun _ => none) :
    RBound 0 s := by
  refine ⟨?_, ?_, ?_⟩
  · intro h; rw [hp]; exact Nat.le_refl 0
  · rw [ha]; exact Nat.le_refl 0
  · intro p st h; rw [hq] at h; cases h

end PallasVerif.P2P
