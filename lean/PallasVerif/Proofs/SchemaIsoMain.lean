import PallasVerif.Proofs.SchemaIso
/-! `canon_isoOn` is the induction on the fuel, one closure rule per case; `canon_iso` is the same read at one item. -/
namespace PallasVerif.Schema

/-- the hand-modelled leaf codecs re-encode the items they call canonical (`IsoOn c.canon c.enc c.dec` for each) -/
def CustomsIso (env : Env) : Prop :=
  ∀ (i : Nat) (c : Custom), env.customs[i]? = some c → ∀ it, c.canon it = true → Iso c.enc c.dec it

theorem canon_ref {env : Env} {i : Nat} {en : EnvEntry} (h : env.types[i]? = some en) (f : Nat) :
    canon env (f + 1) (.ref i) = canon env f en.schema := by funext it; simp [canon, h]
theorem canon_custom {env : Env} {i : Nat} {cu : Custom} (h : env.customs[i]? = some cu) (f : Nat) :
    canon env (f + 1) (.custom i) = cu.canon := by funext it; simp [canon, h]

/-- the two fuels `f` and `fo` as in `enc_dec_good`: induction on `f`, which `canon` follows through a `ref` as
    `enc` / `dec` do; `fo` restarts at `okFuel` there (`ok_ref`) -/
theorem canon_isoOn (env : Env) (hv : env.valid = true) (hci : CustomsIso env) :
    ∀ f s fo, ok env fo s = true → IsoOn (canon env f s) (enc env f s) (dec env f s) := by
  intro f
  induction f with
  | zero => intro s fo _; exact .intro fun it h => by simp [canon] at h
  | succ f ih =>
    intro s fo hok
    cases fo with
    | zero => simp [ok] at hok
    | succ fo =>
      cases s with
      | uint b => exact .uint b
      | sint b => exact .sint b
      | int => exact .int
      | nzint => exact .nzint
      | posCoin => exact .posCoin
      | bytes => exact .bytes
      | hash n => exact .hash n
      | text => exact .text
      | bool => exact .bool
      | vec s => exact (ih s fo hok).vec
      | tuple fs =>
        simp only [ok, Bool.and_eq_true, List.all_eq_true] at hok
        exact .tuple fs fun s hs => ih s fo (hok.2 s hs)
      | btmap k x =>
        simp only [ok, Bool.and_eq_true] at hok
        exact (ih k fo hok.1.1).btmap (ih x fo hok.1.2)
      | opt s =>
        simp only [ok, Bool.and_eq_true] at hok
        exact (ih s fo hok.1).opt
      | struct l t fs =>
        simp only [ok, Bool.and_eq_true, List.all_eq_true] at hok
        exact .struct l t fs (fun p hp => ih p.2 fo (hok.1.2 p hp)) hok.1.1
      | enumFlat vs =>
        simp only [ok, Bool.and_eq_true, List.all_eq_true] at hok
        exact .enumFlat vs fun v hv p hp => ih p.2 fo ((hok.2 v hv).2 p hp)
      | enumIdx vs => exact .enumIdx vs
      | byType alts many =>
        obtain ⟨hdist, halts, _, hmany⟩ := ok_byType hok
        exact .byType alts many hdist (fun a ha => ih a.2.2 fo (halts a ha).1)
          fun mp ms hm s hs => ih s fo ((hmany mp ms hm).2.1 s hs)
      | sumFixed b vs =>
        simp only [ok, Bool.and_eq_true, List.all_eq_true] at hok
        exact .sumFixed b vs fun v hv s hs => ih s fo ((hok.2 v hv).2 s hs)
      | sumOther b vs o =>
        obtain ⟨_, _, hvs, _, hos⟩ := ok_sumOther hok
        exact .sumOther b vs o (fun v hv s hs => ih s fo ((hvs v hv).2.2 s hs)) fun s hs => ih s fo (hos s hs)
      | keepRaw s => exact .keepRaw _ _
      | nullable s =>
        simp only [ok, Bool.and_eq_true] at hok
        exact (ih s fo hok.1.1).nullable
      | set s => exact (ih s fo hok).set
      | maybeIndef s => exact (ih s fo hok).maybeIndef
      | kvPairs k x =>
        simp only [ok, Bool.and_eq_true] at hok
        exact (ih k fo hok.1).kvPairs (ih x fo hok.2)
      | cborWrap s => exact (ih s fo hok).cborWrap
      | tagWrap t s =>
        simp only [ok, Bool.and_eq_true] at hok
        exact (ih s fo hok.2).tagWrap t
      | emptyMap => exact .emptyMap
      | zeroOrOne s => exact (ih s fo hok).zeroOrOne
      | any => exact .any
      | ref i =>
        obtain ⟨en, hget, h1, _⟩ := ok_ref hv hok
        rw [enc_ref hget, dec_ref hget, canon_ref hget]
        exact ih _ okFuel h1
      | custom i =>
        obtain ⟨cu, hget⟩ := ok_custom hok
        rw [enc_custom hget, dec_custom hget, canon_custom hget]
        exact .intro (hci i cu hget)

theorem canon_iso (env : Env) (hv : env.valid = true) (hci : CustomsIso env) :
    ∀ f s fo it, ok env fo s = true → canon env f s it = true → Iso (enc env f s) (dec env f s) it :=
  fun f s fo _ hok hcn => (canon_isoOn env hv hci f s fo hok).iso hcn

end PallasVerif.Schema
