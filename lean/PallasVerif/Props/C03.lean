import PallasVerif.Proofs.CborContainers
import PallasVerif.Proofs.SkipParse
import PallasVerif.Proofs.DecTotal
/-!
# C03 — CBOR helper wrappers round-trip and preserve original encodings

Model: `Model/Minicbor.lean` (the minicbor 0.26 decoder primitives and encoder heads) and
`Model/CborWrappers.lean` (every wrapper of `pallas-codec/src/utils.rs` + `codec_by_datatype!`).
The two laws of the property are

* `RTon c wf`  — "decoding its encoding yields an equal value": `c.dec (c.enc a ++ r) = ok a r` for every
  well-formed `a` and *every* continuation `r` (so the decoder also stops exactly at the end);
* `Pres c`     — "re-encode every byte string they accept to exactly the same bytes":
  `c.dec bs = ok a r → c.enc a ++ r = bs` for *every* byte string `bs`.

Quantifiers: all values / all byte strings, all element codecs satisfying the stated hypotheses — no
bound on nesting (generic in the parameter codecs, so they compose to any depth); lengths are bounded only by what a
CBOR head can hold (`< 2 ^ 64`, in the `wf` of each sequence wrapper).

What is **not** a theorem, and why. The full statement for the definite/indefinite containers,
`FullPresContainers`, is *false* on the code as it is: `MaybeIndefArray` / `KeyValuePairs` keep the
definite-vs-indefinite choice but not the width of a definite length head (`98 02 01 02` is accepted and
written back as `82 01 02`). The property text says "re-encode every byte string they accept to exactly
the same bytes … including non-minimal integer heads", so this is a deviation (known finding
`C03-container-head-width`; a repair needs a width field in both enums, i.e. an API change in every era
model). `full_pres_containers_fails_at_witness` proves the negation at the concrete input;
`maybeIndef_preserves_partial` / `kvp_preserves_partial` prove everything else (indefinite form always,
definite form whenever the length head is minimal), for element codecs that themselves preserve.

Besides the two laws per wrapper: `KeepRaw` under every history of its operations, the `AnyUInt` decoder as it was before
its fix (a witness against both laws), and `skip()` / `AnyCbor` on one item of the definite fragment.
-/
namespace PallasVerif.Props.C03
open PallasVerif.Cbor PallasVerif.Minicbor PallasVerif.Wrappers

/-- every `AnyUInt` (five widths, every magnitude fitting the width) decodes back from its encoding -/
theorem anyuint_roundtrip : RTon cAnyUInt AnyUInt.wf := by
  intro a hw r
  cases a
  case majorByte x =>
    simp only [AnyUInt.wf] at hw
    have hb : (UInt8.ofNat x).toNat = x := toNat_ofNat_lt x (by omega)
    have hne : (UInt8.ofNat x) ≠ 0x18 := by
      intro e; have := congrArg UInt8.toNat e; rw [hb] at this; simp at this; omega
    simp only [cAnyUInt, AnyUInt.enc, be1, List.cons_append, List.nil_append, AnyUInt.dec, datatype,
      typeOf_u8 _ _ (by omega : (UInt8.ofNat x).toNat ≤ 0x18), if_true, List.head?_cons, Minicbor.u8, uintN, hb]
    simp [show x ≤ 27 by omega, unsigned_imm x r hw, show x < 256 by omega, hne]
  -- the wide forms: a literal initial byte, then `readBe` of the big-endian argument
  all_goals
    simp only [AnyUInt.wf, AnyUInt.inRange] at hw
    simp [cAnyUInt, AnyUInt.enc, AnyUInt.dec, datatype, typeOf, typeOfPlain, Minicbor.u8, Minicbor.u16, Minicbor.u32,
      Minicbor.u64, uintN, unsigned, readBe_be, hw]

/-- every byte string `AnyUInt` accepts — `nn`, `18 nn`, `19 nnnn`, `1a …`, `1b …`, minimal or not — is
    re-encoded byte for byte -/
theorem anyuint_preserves : Pres cAnyUInt := fun bs a r h => (anyuint_dec_inv bs a r h).2

/-- whatever it decodes satisfies the invariant `anyuint_roundtrip` needs -/
theorem anyuint_decoded_wellformed (bs : Bytes) (a : AnyUInt) (r : Bytes) (h : cAnyUInt.dec bs = .ok a r) : a.wf :=
  (anyuint_dec_inv bs a r h).1

/-- the decoder as it was before `fix: AnyUInt keeps the one-byte-argument form` violates both laws:
    `18 05` was decoded to `MajorByte(5)` and written back as `05` -/
theorem anyuint_before_fix_fails_at_witness :
    ¬ Pres ⟨AnyUInt.enc, AnyUInt.decBefore⟩ ∧ ¬ RTon ⟨AnyUInt.enc, AnyUInt.decBefore⟩ AnyUInt.wf := by
  constructor
  · intro h
    have := h [0x18, 0x05] (.majorByte 5) [] rfl
    simp [AnyUInt.enc, be] at this
  · intro h
    have e : AnyUInt.decBefore (AnyUInt.enc (.u8 5) ++ []) = .ok (.majorByte 5) [] := rfl
    cases e.symm.trans (h (.u8 5) (by decide) [])

/-- `KeepRaw<T>` re-encodes every accepted input byte for byte — for *any* inner codec that consumes
    what it reads (non-minimal heads, indefinite forms, anything the inner decoder tolerates); it has to consume *something*,
    because empty raw bytes mean "no raw bytes" to the encoder -/
theorem keepraw_preserves {α : Type} (t : Codec α) (ht : Consumes t.dec) : Pres (cKeepRaw t) := by
  intro bs k r h
  rw [show (cKeepRaw t).enc k = k.raw from KeepRaw.enc_of_raw_ne t k (keepraw_raw_ne t ht bs k r h)]
  exact (keepraw_raw_is_consumed t ht.suffix bs k r h).1.symm

theorem keepraw_raw_is_span {α : Type} (t : Codec α) (ht : Suffix t.dec) (bs : Bytes) (k : KeepRaw α) (r : Bytes)
    (h : (cKeepRaw t).dec bs = .ok k r) : bs = k.raw ++ r ∧ t.dec bs = .ok k.inner r :=
  keepraw_raw_is_consumed t ht bs k r h

theorem keepraw_mutation_reencodes {α : Type} (t : Codec α) (k : KeepRaw α) (f : α → α) :
    (cKeepRaw t).enc (k.derefMut f) = t.enc (f k.inner) := keepraw_mut t k f

/-- **every history** of the public operations (`to_owned`, `clone`, `deref`, `clear_raw`, `deref_mut` + mutation), from any
    wrapper: if it contains a `deref_mut` or `clear_raw` anywhere, the result has no raw bytes and encodes as the inner
    codec's encoding of its *current* content, however many `to_owned` / `clone` come before or after -/
theorem keepraw_mutation_reencodes_every_history {α : Type} (t : Codec α) (k : KeepRaw α) (ops : List (KOp α))
    (h : ops.any KOp.invalidates = true) :
    (k.run ops).raw = [] ∧ (cKeepRaw t).enc (k.run ops) = t.enc (k.run ops).inner := by
  have hr : (k.run ops).raw = [] := by rw [keepraw_run_raw, h]; rfl
  exact ⟨hr, by simp [cKeepRaw, KeepRaw.enc, hr]⟩

/-- a history without any mutation (any mix of `to_owned`, `clone`, `deref`) keeps the original
    span and the content, so a decoded wrapper still encodes to exactly the bytes it was decoded from -/
theorem keepraw_unmutated_history_keeps_original {α : Type} (t : Codec α) (ht : Consumes t.dec) (bs : Bytes)
    (k : KeepRaw α) (r : Bytes) (hd : (cKeepRaw t).dec bs = .ok k r) (ops : List (KOp α))
    (h : ops.all (fun o => !o.invalidates) = true) :
    (cKeepRaw t).enc (k.run ops) ++ r = bs ∧ (k.run ops).inner = k.inner := by
  have h' : ops.any KOp.invalidates = false := by rw [← Bool.not_eq_true', List.not_any_eq_all_not]; exact h
  have h2 := keepraw_run_inner ops k h'
  refine ⟨?_, h2⟩
  have hp := keepraw_preserves t ht bs k r hd
  simp only [cKeepRaw, KeepRaw.enc] at hp ⊢
  rw [keepraw_run_raw, h', h2]; exact hp

/-- round trip of a `KeepRaw` made from a value (`From<T>`): same content, raw bytes = its encoding -/
theorem keepraw_roundtrip_from {α : Type} (t : Codec α) (wf : α → Prop) (ht : RTon t wf) (a : α) (ha : wf a) (r : Bytes) :
    (cKeepRaw t).dec ((cKeepRaw t).enc (KeepRaw.from a) ++ r) = .ok ⟨.borrowed (t.enc a), a⟩ r := by
  simp [cKeepRaw, KeepRaw.dec, KeepRaw.enc, KeepRaw.from, KeepRaw.raw, Cow.bytes, ht a ha r, span_of_suffix]

/-- round trip of a decoded `KeepRaw`, raw bytes included, given (`hind`) that the inner decoder reads its own raw bytes
    back before another continuation: a property of `t` on the *accepted input* `k.raw`, which follows from `RTon` and `Pres`
    together (then `k.raw = t.enc k.inner`), not from `RTon` alone -/
theorem keepraw_roundtrip_decoded {α : Type} (t : Codec α) (ht : Consumes t.dec) (bs : Bytes) (k : KeepRaw α) (r : Bytes)
    (h : (cKeepRaw t).dec bs = .ok k r) (r' : Bytes) (hind : t.dec (k.raw ++ r') = .ok k.inner r') :
    (cKeepRaw t).dec ((cKeepRaw t).enc k ++ r') = .ok k r' := by
  have hne' := keepraw_raw_ne t ht bs k r h
  have hcow : k.cow = .borrowed k.raw := by rw [KeepRaw.raw, (KeepRaw.dec_eq_ok h).2]; rfl
  show KeepRaw.dec t (KeepRaw.enc t k ++ r') = _
  rw [KeepRaw.enc_of_raw_ne t k hne']
  simp only [KeepRaw.dec, hind, span_of_suffix]
  congr 1
  cases k with
  | mk cow inner => simp only at hcow ⊢; rw [← hcow]

/-- `AnyCbor` holds, and writes back, exactly the bytes `skip()` walked over -/
theorem anycbor_preserves : Pres cAnyCbor := by
  intro bs a r h
  obtain ⟨hd, rfl⟩ := AnyCbor.dec_eq_ok h
  obtain ⟨c, _, rfl⟩ := skip_consumes bs () r hd
  simp [cAnyCbor, AnyCbor.enc, span_of_suffix]

/-- an `AnyCbor` whose bytes `skip()` takes as one unit decodes back from its encoding -/
theorem anycbor_roundtrip (inner r : Bytes) (h : skip (inner ++ r) = .ok () r) :
    cAnyCbor.dec (cAnyCbor.enc inner ++ r) = .ok inner r := by
  simp [cAnyCbor, AnyCbor.dec, AnyCbor.enc, h, span_of_suffix]

theorem nullable_roundtrip {α : Type} (t : Codec α) (wf : α → Prop) (ht : RTon t wf) (hn : NotNullish t wf) :
    RTon (cNullable t) (Nullable.wfWith wf) := by
  intro v hv r
  cases v with
  | null => simp [cNullable, Nullable.enc, Nullable.dec, encNull, datatype, typeOf_null, Minicbor.null]
  | undefined =>
    simp [cNullable, Nullable.enc, Nullable.dec, encUndefined, datatype, typeOf_undefined, Minicbor.undefined]
  | some a =>
    obtain ⟨ty, hty, h1, h2⟩ := hn a hv r
    simp [cNullable, Nullable.enc, Nullable.dec, hty, h1, h2, ht a hv r]

/-- null stays `f6`, undefined stays `f7`, a payload is preserved as far as its codec preserves -/
theorem nullable_preserves {α : Type} (t : Codec α) (ht : Pres t) : Pres (cNullable t) := by
  intro bs v r h
  obtain ⟨ty, _, h⟩ := datatype_dispatch h
  split at h
  · obtain ⟨u, e, rfl⟩ := Res.map_eq_ok h
    rw [null_inv e]; rfl
  · split at h
    · obtain ⟨u, e, rfl⟩ := Res.map_eq_ok h
      rw [undefined_inv e]; rfl
    · obtain ⟨a, e, rfl⟩ := Res.map_eq_ok h
      exact ht bs a r e

theorem maybeIndef_roundtrip {α : Type} (c : Codec α) (wf : α → Prop) (h : ElemOK c wf) :
    RTon (cMaybeIndef c) (MaybeIndef.wfWith wf) := by
  intro v ⟨hx, hl⟩ r
  cases v with
  | defn xs =>
    have hd : datatype (encVec c.enc xs ++ r) = .ok .array := by
      rw [encVec, List.append_assoc]; exact datatype_encHead_array _ _
    simp [cMaybeIndef, MaybeIndef.enc, MaybeIndef.dec, hd, vec_enc_def c wf h.rt xs hx hl r]
  | indef xs =>
    have hd : datatype (initByte 4 31 :: (concatMap c.enc xs ++ 0xff :: r)) = .ok .arrayIndef := rfl
    have hv : vec c.dec (initByte 4 31 :: (concatMap c.enc xs ++ 0xff :: r)) = .ok xs r :=
      seq_enc_indef 4 (by omega) c wf h xs hx r
    show MaybeIndef.dec c (MaybeIndef.enc c (.indef xs) ++ r) = _
    rw [MaybeIndef.enc_indef]
    simp [MaybeIndef.dec, hd, hv]

/-- **`KeyValuePairs` round-trips** (both forms, entries in wire order, duplicates kept) -/
theorem kvp_roundtrip {κ ν : Type} (k : Codec κ) (v : Codec ν) (wk : κ → Prop) (wv : ν → Prop)
    (hk : ElemOK k wk) (hv : RTon v wv) : RTon (cKVP k v) (KVP.wfWith wk wv) := by
  have he := entry_ok k v wk wv hk hv
  intro m ⟨hx, hl⟩ r
  cases m with
  | defn xs =>
    have hm : mapIter k.dec v.dec (encMapHead xs.length ++ (encPairs k.enc v.enc xs ++ r)) = .ok xs r :=
      seq_enc_def 5 (by omega) (cEntry k v) _ he.rt xs hx hl r
    simp [cKVP, KVP.enc, KVP.dec, List.append_assoc, datatype_encHead_map, hm]
  | indef xs =>
    have hd : datatype (initByte 5 31 :: (concatMap (cEntry k v).enc xs ++ 0xff :: r)) = .ok .mapIndef := rfl
    have hm : mapIter k.dec v.dec (initByte 5 31 :: (concatMap (cEntry k v).enc xs ++ 0xff :: r)) = .ok xs r :=
      seq_enc_indef 5 (by omega) (cEntry k v) _ he xs hx r
    show KVP.dec k v (KVP.enc k v (.indef xs) ++ r) = _
    rw [KVP.enc_indef]
    simp [KVP.dec, hd, hm]

/-- the property as stated, for the two container wrappers over the length-preserving integer -/
def FullPresContainers : Prop := Pres (cMaybeIndef cAnyUInt) ∧ Pres (cKVP cAnyUInt cAnyUInt)

/-- it fails: `98 02 01 02` ↦ `Def[1, 2]` ↦ `82 01 02`, `b8 01 01 02` ↦ `Def{1: 2}` ↦ `a1 01 02` -/
theorem full_pres_containers_fails_at_witness :
    ¬ Pres (cMaybeIndef cAnyUInt) ∧ ¬ Pres (cKVP cAnyUInt cAnyUInt) := by
  constructor
  · intro h
    have := h [0x98, 0x02, 0x01, 0x02] (.defn [.majorByte 1, .majorByte 2]) [] rfl
    revert this; decide
  · intro h
    have := h [0xb8, 0x01, 0x01, 0x02] (.defn [(.majorByte 1, .majorByte 2)]) [] rfl
    revert this; decide

theorem full_pres_containers_false : ¬ FullPresContainers := fun h => full_pres_containers_fails_at_witness.1 h.1

/-- a minimal length head is asked only of an input that decoded to the definite form: the indefinite form has one spelling -/
theorem maybeIndef_preserves {α : Type} (c : Codec α) (hc : Pres c) (bs : Bytes) (v : MaybeIndef α) (r : Bytes)
    (h : MaybeIndef.dec c bs = .ok v r) (hmin : ∀ xs, v = .defn xs → minimalSeqHead 4 bs = true) :
    MaybeIndef.enc c v ++ r = bs := by
  obtain ⟨ty, hT, h⟩ := datatype_dispatch h
  have inv := fun xs => seq_inv 4 .array .arrayIndef typeOf_array (fun _ => rfl) c hc bs xs r
  by_cases h1 : ty = .array
  · rw [if_pos h1] at h
    subst h1
    obtain ⟨xs, e, rfl⟩ := Res.map_eq_ok h
    rcases inv xs e with ⟨h2, _⟩ | ⟨_, hk⟩
    · cases hT.symm.trans h2
    · rw [eq_of_minimalSeqHead (hmin xs rfl) hk]
      simp [MaybeIndef.enc, encVec, encArrayHead]
  · rw [if_neg h1] at h
    by_cases h2 : ty = .arrayIndef
    · rw [if_pos h2] at h
      subst h2
      obtain ⟨xs, e, rfl⟩ := Res.map_eq_ok h
      rcases inv xs e with ⟨_, hk⟩ | ⟨h3, _⟩
      · rw [hk]; exact MaybeIndef.enc_indef c xs r
      · cases hT.symm.trans h3
    · rw [if_neg h2] at h; cases h

theorem maybeIndef_preserves_indefinite {α : Type} (c : Codec α) (hc : Pres c) (bs : Bytes) (xs : List α) (r : Bytes)
    (h : (cMaybeIndef c).dec bs = .ok (.indef xs) r) : (cMaybeIndef c).enc (.indef xs) ++ r = bs :=
  maybeIndef_preserves c hc bs _ r h fun _ e => nomatch e

/-- what does hold: the indefinite form always, the definite form when its length head is minimal -/
theorem maybeIndef_preserves_partial {α : Type} (c : Codec α) (hc : Pres c) (bs : Bytes) (v : MaybeIndef α) (r : Bytes)
    (hmin : minimalSeqHead 4 bs = true) (h : (cMaybeIndef c).dec bs = .ok v r) : (cMaybeIndef c).enc v ++ r = bs :=
  maybeIndef_preserves c hc bs v r h fun _ _ => hmin

/-- **`KeyValuePairs` keeps the indefinite form byte for byte, and a definite map whose length head is
    minimal** -/
theorem kvp_preserves_partial {κ ν : Type} (k : Codec κ) (v : Codec ν) (hk : Pres k) (hv : Pres v)
    (bs : Bytes) (m : KVP κ ν) (r : Bytes) (hmin : minimalSeqHead 5 bs = true)
    (h : (cKVP k v).dec bs = .ok m r) : (cKVP k v).enc m ++ r = bs := by
  obtain ⟨ty, hT, h⟩ := datatype_dispatch h
  obtain ⟨items, r', e1, e2⟩ := Res.andThen_eq_ok h
  rcases seq_inv 5 .map .mapIndef typeOf_map (fun _ => rfl) (cEntry k v) (entry_pres k v hk hv) bs items r' e1 with
    ⟨hd, rfl⟩ | ⟨hd, h2⟩
  · cases Except.ok.inj (hT.symm.trans hd)
    cases e2
    exact KVP.enc_indef k v _ _
  · cases Except.ok.inj (hT.symm.trans hd)
    cases e2
    rw [eq_of_minimalSeqHead hmin h2]
    simp [cKVP, KVP.enc, encMapHead, encPairs_eq]

theorem tagwrap_roundtrip {α : Type} (tg : Nat) (htg : tg < 2 ^ 64) (i : Codec α) (wf : α → Prop) (hi : RTon i wf) :
    RTon (cTagWrap tg i) wf := by
  intro a ha r
  simp [cTagWrap, TagWrap.enc, TagWrap.dec, List.append_assoc, tag_enc tg _ htg, hi a ha r]

/-- `CborWrap<T>`: the inner encoding travels as a byte string under tag 24 -/
theorem cborwrap_roundtrip {α : Type} (t : Codec α) (wf : α → Prop) (ht : RTon t wf) :
    RTon (cCborWrap t) (fun a => wf a ∧ (t.enc a).length < 2 ^ 64) := by
  intro a ⟨ha, hl⟩ r
  have h1 := ht a ha []
  simp only [List.append_nil] at h1
  simp [cCborWrap, CborWrap.enc, CborWrap.dec, List.append_assoc, tag_enc 24 _ (by omega), bytes_enc _ _ hl, h1]

theorem zeroOrOne_roundtrip {α : Type} (t : Codec α) (wf : α → Prop) (ht : RTon t wf) :
    RTon (cZeroOrOne t) (fun o => ∀ a, o = some a → wf a) := by
  intro o ho r
  cases o with
  | none => simp [cZeroOrOne, ZeroOrOne.enc, ZeroOrOne.dec, array_enc 0 r (by omega)]
  | some a =>
    simp [cZeroOrOne, ZeroOrOne.enc, ZeroOrOne.dec, List.append_assoc, array_enc 1 _ (by omega), ht a (ho a rfl) r]

/-- `Set<T>` / `NonEmptySet<T>`: always written with tag 258 -/
theorem set_roundtrip {α : Type} (c : Codec α) (wf : α → Prop) (h : RTon c wf) :
    RTon (cSet c) (fun xs => (∀ x ∈ xs, wf x) ∧ xs.length < 2 ^ 64) := by
  intro xs ⟨hx, hl⟩ r
  simp [cSet, Set.enc, Set.dec, List.append_assoc, datatype_encHead_tag, tag_enc tagSet _ (by simp [tagSet]), vec_enc_def c wf h xs hx hl r]

theorem orderPreservingProperties_roundtrip {α : Type} (p : Codec α) (wf : α → Prop) (h : RTon p wf) :
    RTon (cOPP p) (fun xs => (∀ x ∈ xs, wf x) ∧ xs.length < 2 ^ 64) := opp_rt p wf h

theorem vec_roundtrip {α : Type} (c : Codec α) (wf : α → Prop) (h : RTon c wf) :
    RTon (cVec c) (fun xs => (∀ x ∈ xs, wf x) ∧ xs.length < 2 ^ 64) := by
  intro xs ⟨hx, hl⟩ r
  exact vec_enc_def c wf h xs hx hl r

/-- `EmptyMap` decodes by `skip()`, so it accepts any one item: it round-trips and has no `Pres` -/
theorem emptyMap_roundtrip : RTon cEmptyMap (fun _ => True) := fun _ _ r =>
  -- `a0` is the item "map of no entries", and `skip()` walks over one item
  skip_item (.seq ⟨5, 0, []⟩ []) r (by decide) (by decide) (by decide)

theorem bytes_roundtrip : RTon cBytes (fun b => b.length < 2 ^ 64) := fun b hb r => bytes_enc b r hb
theorem int_roundtrip : RTon cInt (fun i => -(2 ^ 64 : Int) ≤ i ∧ i < 2 ^ 64) := fun i ⟨h1, h2⟩ r => int_enc i r h1 h2
/-- `PositiveCoin` values other than 0 round-trip (the domain `PositiveCoin::try_from` admits, see C04) -/
theorem positiveCoin_roundtrip : RTon cPositiveCoin (fun n => n ≠ 0 ∧ n < 2 ^ 64) := by
  intro n ⟨h0, hn⟩ r
  simp [cPositiveCoin, PositiveCoin.dec, PositiveCoin.enc, u64_enc n r hn, h0]
/-- `NonZeroInt` values other than 0 round-trip (the domain `NonZeroInt::try_from` admits, see C04) -/
theorem nonZeroInt_roundtrip : RTon cNonZeroInt (fun i => i ≠ 0 ∧ -(2 ^ 63 : Int) ≤ i ∧ i < 2 ^ 63) := by
  intro i ⟨h0, h1, h2⟩ r
  simp [cNonZeroInt, NonZeroInt.dec, NonZeroInt.enc, i64_enc i r h1 h2, h0]

/-- an enum whose codec `codec_by_datatype!` generates (the harness enum `Thing`, variants with
    disjoint datatypes and a many-field variant) round-trips -/
theorem codec_by_datatype_enum_roundtrip : RTon ⟨Thing.enc, Thing.dec⟩ Thing.wf := by
  intro t hw r
  show Thing.dec (Thing.enc t ++ r) = .ok t r
  cases t with
  | coin a =>
    obtain ⟨ty, hty, hcases⟩ := anyuint_datatype a hw r
    have hdec : AnyUInt.dec (AnyUInt.enc a ++ r) = .ok a r := anyuint_roundtrip a hw r
    rcases hcases with rfl | rfl | rfl | rfl <;> simp [Thing.dec, Thing.enc, byDatatype, hty, byDatatypeArms, hdec]
  | flag b =>
    cases b <;> simp [Thing.dec, Thing.enc, byDatatype, byDatatypeArms, encBool, datatype, Minicbor.bool, typeOf, typeOfPlain]
  | blob b =>
    simp only [Thing.wf] at hw
    simp [Thing.dec, Thing.enc, byDatatype, datatype_encBytes, byDatatypeArms, bytes_enc b r hw]
  | multi a n =>
    obtain ⟨ha, hn⟩ := hw
    have h1 : AnyUInt.dec (AnyUInt.enc a ++ _) = _ := anyuint_roundtrip a ha (Nullable.enc cU64 n ++ r)
    have h2 : Nullable.dec cU64 (Nullable.enc cU64 n ++ r) = _ :=
      nullable_roundtrip cU64 (fun x => x < 2 ^ 64) u64_rt u64_notNullish n hn r
    simp [Thing.dec, Thing.enc, byDatatype, List.append_assoc, datatype_encHead_array, array_enc 2 _ (by omega), h1, h2]

/-! ## the hypotheses are inhabited: the wrappers compose -/

theorem anyuint_elemOK : ElemOK cAnyUInt AnyUInt.wf := by
  refine ⟨anyuint_roundtrip, fun a hw => ?_⟩
  obtain ⟨b, t, e, hb⟩ := anyuint_enc_head a hw
  exact ⟨b, t, e, fun h => by rw [h] at hb; exact absurd hb (by decide)⟩

theorem anyuint_notNullish : NotNullish cAnyUInt AnyUInt.wf := by
  intro a hw r
  obtain ⟨ty, hty, hc⟩ := anyuint_datatype a hw r
  rcases hc with rfl | rfl | rfl | rfl <;> exact ⟨_, hty, by decide, by decide⟩

/-- `KeyValuePairs<AnyUInt, Nullable<AnyUInt>>` round-trips — a composition through three generic theorems -/
theorem kvp_anyuint_nullable_anyuint_roundtrip :
    RTon (cKVP cAnyUInt (cNullable cAnyUInt))
      (KVP.wfWith AnyUInt.wf (Nullable.wfWith AnyUInt.wf)) :=
  kvp_roundtrip _ _ _ _ anyuint_elemOK (nullable_roundtrip _ _ anyuint_roundtrip anyuint_notNullish)

/-- `MaybeIndefArray<Nullable<AnyUInt>>` preserves every accepted input with a minimal (or indefinite) head -/
theorem mia_nullable_anyuint_preserves_partial (bs : Bytes) (v : MaybeIndef (Nullable AnyUInt)) (r : Bytes)
    (hmin : minimalSeqHead 4 bs = true) (h : (cMaybeIndef (cNullable cAnyUInt)).dec bs = .ok v r) :
    (cMaybeIndef (cNullable cAnyUInt)).enc v ++ r = bs :=
  maybeIndef_preserves_partial _ (nullable_preserves _ anyuint_preserves) bs v r hmin h

/-- `KeepRaw<MaybeIndefArray<AnyUInt>>` preserves *every* accepted input, non-minimal heads included -/
theorem keepraw_mia_anyuint_preserves : Pres (cKeepRaw (cMaybeIndef cAnyUInt)) :=
  keepraw_preserves _ (.of_takes (maybeIndef_takes cAnyUInt anyUInt_takes))

/-- on the definite fragment (no indefinite-length node, text strings valid UTF-8 — `plain`), `skip()`
    walks over exactly the encoding of one well-formed item, whatever follows -/
theorem skip_walks_one_item (i : Item) (r : Bytes) (hw : i.wf = true) (hp : plain i = true)
    (hlen : (i.encode ++ r).length ≤ u64Max) : skip (i.encode ++ r) = .ok () r :=
  skip_item i r hw hp (Nat.le_trans (by rw [List.length_append]; exact Nat.le_add_right _ _) hlen)

/-- hence `AnyCbor` agrees with the strict generic parser there: it captures the bytes of the first
    item (non-minimal head widths included) and nothing else -/
theorem anycbor_captures_one_item (bs : Bytes) (i : Item) (r : Bytes) (h : parseItem bs = some (i, r))
    (hp : plain i = true) (hlen : bs.length ≤ u64Max) : cAnyCbor.dec bs = .ok i.encode r := by
  obtain ⟨e, hw⟩ := parseItem_sound bs i r h
  subst e
  simp [cAnyCbor, AnyCbor.dec, skip_walks_one_item i r hw hp hlen, span_of_suffix]

theorem anycbor_roundtrip_item (i : Item) (r : Bytes) (hw : i.wf = true) (hp : plain i = true)
    (hlen : (i.encode ++ r).length ≤ u64Max) : cAnyCbor.dec (cAnyCbor.enc i.encode ++ r) = .ok i.encode r :=
  anycbor_roundtrip _ _ (skip_walks_one_item i r hw hp hlen)

/-- the loop of `skip()` never runs out of the fuel the model gives it (one unit per input byte): the
    model-only outcome `diverge` is unreachable, on every input -/
theorem skip_never_diverges (cur : Bytes) : skip cur ≠ .err .diverge := (skip_takes cur).ne_diverge

/-- an input whose datatype belongs to variant `k`'s set (and to no earlier variant's, and is not a
    definite array when a many-field variant exists) is decoded by variant `k`'s payload decoder -/
theorem byDatatype_dispatch_single {γ : Type} (many : Option (P γ)) (arms : List (Arm γ)) (cur : Bytes) (t : DType)
    (k : Nat) (a : Arm γ) (hdt : datatype cur = .ok t) (hmany : many.isSome = true → t ≠ .array)
    (hk : arms[k]? = some a) (hsel : a.types t = true)
    (hfirst : ∀ j, j < k → ∀ b, arms[j]? = some b → b.types t = false) :
    byDatatype many arms cur = a.dec cur := by
  simp only [byDatatype, hdt]
  cases many with
  | none => simp [byDatatypeArms_select arms t k a hk hsel hfirst]
  | some m =>
    have : t ≠ .array := hmany rfl
    simp [this, byDatatypeArms_select arms t k a hk hsel hfirst]

/-- a definite array head always goes to the many-field variant -/
theorem byDatatype_dispatch_many {γ : Type} (m : P γ) (arms : List (Arm γ)) (cur : Bytes) (hdt : datatype cur = .ok .array) :
    byDatatype (some m) arms cur = (array cur).andThen fun _ r => m r := by
  simp [byDatatype, hdt]

/-! ## non-vacuity -/

example : AnyUInt.wf (.u8 5) ∧ AnyUInt.wf (.majorByte 23) ∧ ¬ AnyUInt.wf (.majorByte 24) := by decide
example : cAnyUInt.dec [0x18, 0x05, 0xaa] = .ok (.u8 5) [0xaa] := rfl
example : cAnyUInt.enc (.u8 5) = [0x18, 0x05] := rfl
example : minimalSeqHead 4 [0x82, 0x01, 0x02] = true ∧ minimalSeqHead 4 [0x9f, 0x01, 0xff] = true ∧
    minimalSeqHead 4 [0x98, 0x02, 0x01, 0x02] = false := by decide
example : (cMaybeIndef cAnyUInt).dec [0x9f, 0x01, 0x18, 0x02, 0xff] = .ok (.indef [.majorByte 1, .u8 2]) [] := rfl
example : (cKVP cAnyUInt (cNullable cAnyUInt)).dec [0xbf, 0x01, 0xf6, 0x02, 0xf7, 0xff]
    = .ok (.indef [(.majorByte 1, .null), (.majorByte 2, .undefined)]) [] := rfl
example : (cKeepRaw (cVec cU64)).dec [0x9f, 0x01, 0x02, 0xff] = .ok ⟨.borrowed [0x9f, 0x01, 0x02, 0xff], [1, 2]⟩ [] := rfl
example : (cKeepRaw (cVec cU64)).enc ((KeepRaw.mk (.borrowed [0x9f, 0x01, 0x02, 0xff]) [1, 2]).derefMut (· ++ [3])) = [0x83, 0x01, 0x02, 0x03] := rfl
/-- decode → `to_owned` → `clone` → mutate → `to_owned`: re-encoded from the new content -/
example : (cKeepRaw (cVec cU64)).enc ((KeepRaw.mk (.borrowed [0x9f, 0x01, 0x02, 0xff]) [1, 2]).run
    [.toOwned, .clone, .derefMut (· ++ [3]), .toOwned]) = [0x83, 0x01, 0x02, 0x03] := rfl
example : (cKeepRaw (cVec cU64)).enc ((KeepRaw.mk (.borrowed [0x9f, 0x01, 0x02, 0xff]) [1, 2]).run [.toOwned, .clone, .deref])
    = [0x9f, 0x01, 0x02, 0xff] := rfl
example : cAnyCbor.dec [0x98, 0x02, 0x01, 0x9f, 0xff, 0x00] = .ok [0x98, 0x02, 0x01, 0x9f, 0xff] [0x00] := rfl
/-- the `Nullable` side condition is needed: a payload that encodes as `f6` comes back as `Null` -/
example : (cNullable (cNullable cU64)).dec ((cNullable (cNullable cU64)).enc (.some .null)) = .ok .null [] := rfl

example : plain (.seq ⟨4, 25, [0, 2]⟩ [.atom ⟨0, 24, [5]⟩, .str ⟨3, 1, []⟩ [0x61]]) = true := by decide
example : (Item.seq ⟨4, 25, [0, 2]⟩ [.atom ⟨0, 24, [5]⟩, .str ⟨3, 1, []⟩ [0x61]]).wf = true := by decide
example : (Item.seq ⟨4, 25, [0, 2]⟩ [.atom ⟨0, 24, [5]⟩, .str ⟨3, 1, []⟩ [0x61]]).encode = [0x99, 0x00, 0x02, 0x18, 0x05, 0x61, 0x61] := by decide

end PallasVerif.Props.C03
