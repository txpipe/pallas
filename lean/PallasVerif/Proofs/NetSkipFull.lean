import PallasVerif.Proofs.NetSkip
/-!
Proof of `skip_exact_of_utf8Ok` (at the end; `skip_exact` and `skip_exact_of_skippable` are instances).

The loop state (`nrounds`, `irounds`, stack of `Option<u64>`) is related to the *real* nesting of
what remains to be read: one frame per open container plus the top level, each with the
items still to come and, for an indefinite container, the break after them. minicbor's
bookkeeping is deliberately sloppy — inside an indefinite container it may under-count the items
of the definite containers it is in, because the enclosing indefinite frame absorbs any number of
items until its break. The invariant (`InvN`) therefore compares, group by group (a group = an
indefinite frame, or the top level, with the definite frames opened inside it), the number of items the state
still expects (`t`) with the number really pending (`c`, the items still to come in the indefinite frame
included, though the state expects none of them): `t ≤ c` for every group that has an indefinite frame below
it, `t = c` for the bottom group (`AgreeL`). The pending counts `c0 :: cr` are never computed from a
data structure: an item takes one off the top count, a container head puts its items on it or, if indefinite,
in front as a new group, a break needs the top count to be 0 and drops it (`runs_item`, `runs_break`); the
expected counts are `gHd st + topBump st :: gTl st` of the stack when the loop runs on its stack
(`nrounds = irounds = 0`), and `nrounds :: 0 … 0` (`irounds` zeros) while it only counts.
Each round of the loop preserves the invariant (`done_step`, `open_def`, `open_indef`, `break_step`),
and when nothing is pending the state is the terminal one (`inv_done`). The rounds are put together by
induction on the item, with everything after it as a continuation (`Runs`: from any state that agrees with the
pending counts the loop stops exactly where it should).
-/
namespace PallasVerif.NetCodec
open PallasVerif.Cbor

/-- items the stack still expects in its top group: a `some k` entry counts the items of its container
    still to come after the one being read; that one is accounted for by `topBump` -/
def gHd : List (Option Nat) → Nat
  | [] => 0
  | some k :: v => k + gHd v
  | none :: _ => 0

/-- the same for each lower group of the stack, top first (one entry per `none`) -/
def gTl : List (Option Nat) → List Nat
  | [] => []
  | some _ :: v => gTl v
  | none :: v => gHd v :: gTl v

/-- the top entry, if it is a count, stands for one more item (the one being read) -/
def topBump : List (Option Nat) → Nat
  | some _ :: _ => 1
  | _ => 0

/-- expected counts `t :: tr` against pending counts `c :: cr`, group by group from the top: no
    more expected than pending, and equal in the bottom group; the lists have the same length -/
def AgreeL : Nat → List Nat → Nat → List Nat → Prop
  | c, [], t, [] => t = c
  | c, c' :: cr, t, t' :: tr => t ≤ c ∧ AgreeL c' cr t' tr
  | _, [], _, _ :: _ => False
  | _, _ :: _, _, [] => False

/-- the invariant, on the group counts `c0 :: cr` of the frames: in stack mode the stack agrees with
    them, in counting mode the stack is empty and the two counters do -/
def InvN (c0 : Nat) (cr : List Nat) (nr ir : Nat) (st : List (Option Nat)) : Prop :=
  if nr = 0 ∧ ir = 0 then AgreeL c0 cr (gHd st + topBump st) (gTl st)
  else st = [] ∧ AgreeL c0 cr nr (List.replicate ir 0)

theorem gHd_replicate (n : Nat) : gHd (List.replicate n none) = 0 := by
  cases n <;> simp [List.replicate, gHd]

theorem gTl_replicate (n : Nat) : gTl (List.replicate n none) = List.replicate n 0 := by
  induction n with
  | zero => rfl
  | succ n ih => simp [List.replicate, gTl, gHd_replicate, ih]

/-- popping the exhausted counts and decrementing the top one turns "expected, bump excluded" into
    "expected, bump included": the stack was all zeros and the loop ends, or the new stack with its
    bump expects exactly what the old one did without -/
theorem skipTail_spec : ∀ st : List (Option Nat),
    (skipTail 0 0 st = none ∧ gHd st = 0 ∧ gTl st = []) ∨
    (∃ st1, skipTail 0 0 st = some (0, 0, st1) ∧ gHd st1 + topBump st1 = gHd st ∧ gTl st1 = gTl st)
  | [] => Or.inl ⟨rfl, rfl, rfl⟩
  | none :: r => Or.inr ⟨none :: r, by simp [skipTail, popZeros], by simp [gHd, topBump], rfl⟩
  | some 0 :: r => by
    have h : skipTail 0 0 (some 0 :: r) = skipTail 0 0 r := by simp [skipTail, popZeros]
    rcases skipTail_spec r with ⟨h1, h2, h3⟩ | ⟨st1, h1, h2, h3⟩
    · exact Or.inl ⟨by rw [h, h1], by simp [gHd, h2], by simp [gTl, h3]⟩
    · exact Or.inr ⟨st1, by rw [h, h1], by simp [gHd, h2], by simp [gTl, h3]⟩
  | some (n + 1) :: r => Or.inr ⟨some n :: r, by simp [skipTail, popZeros], by simp [gHd, topBump]; omega, rfl⟩

/-- `AgreeL` constrains its head pair by `t ≤ c`, and by `t = c` in the bottom group; any other pair
    under the same constraint can take its place -/
theorem agree_shift {c c' t t' : Nat} {cr tr : List Nat} (h : AgreeL c cr t tr) (hle : t ≤ c → t' ≤ c')
    (heq : tr = [] → t = c → t' = c') : AgreeL c' cr t' tr := by
  cases cr <;> cases tr <;> simp only [AgreeL] at h ⊢
  · exact heq rfl h
  · exact ⟨hle h.1, h.2⟩

theorem agree_le {c t : Nat} {cr tr : List Nat} (h : AgreeL c cr t tr) : t ≤ c := by
  cases cr <;> cases tr <;> simp only [AgreeL] at h
  · omega
  · exact h.1

theorem agree_bottom {c t : Nat} {cr tr : List Nat} (h : AgreeL c cr t tr) (he : cr = [] ∨ tr = []) :
    cr = [] ∧ tr = [] ∧ t = c := by
  cases cr <;> cases tr <;> simp only [AgreeL] at h
  · exact ⟨rfl, rfl, h⟩
  · simp at he

theorem invN_nil {c0 : Nat} {cr : List Nat} {nr ir : Nat} : InvN c0 cr nr ir [] ↔ AgreeL c0 cr nr (List.replicate ir 0) := by
  unfold InvN
  split
  · rename_i hm
    obtain ⟨rfl, rfl⟩ := hm
    rfl
  · simp

theorem invN_cases {c0 : Nat} {cr : List Nat} {nr ir : Nat} {st : List (Option Nat)} (h : InvN c0 cr nr ir st) :
    (nr = 0 ∧ ir = 0 ∧ AgreeL c0 cr (gHd st + topBump st) (gTl st)) ∨
    (¬ (nr = 0 ∧ ir = 0) ∧ st = [] ∧ AgreeL c0 cr nr (List.replicate ir 0)) := by
  unfold InvN at h
  split at h
  · rename_i hm; exact Or.inl ⟨hm.1, hm.2, h⟩
  · rename_i hm; exact Or.inr ⟨hm, h⟩

/-- what `omega` needs to know of `gHd st + topBump st`: a bump is 1, and without one the top group
    expects nothing -/
theorem topBump_cases (st : List (Option Nat)) : topBump st = 1 ∨ (topBump st = 0 ∧ gHd st = 0) := by
  match st with
  | [] | none :: _ => exact Or.inr ⟨rfl, rfl⟩
  | some _ :: _ => exact Or.inl rfl

theorem agree_len {c t : Nat} {cr tr : List Nat} (h : AgreeL c cr t tr) : cr.length = tr.length := by
  induction cr generalizing c t tr with
  | nil => cases tr <;> simp_all [AgreeL]
  | cons c' cr ih =>
    cases tr with
    | nil => simp [AgreeL] at h
    | cons t' tr => simp only [AgreeL] at h; simp [ih h.2]

theorem inv_ir_le {c0 : Nat} {cr : List Nat} {nr ir : Nat} {st : List (Option Nat)} (h : InvN c0 cr nr ir st) : ir ≤ cr.length := by
  rcases invN_cases h with ⟨_, rfl, _⟩ | ⟨_, _, h⟩
  · omega
  · have := agree_len h; simp at this; omega

theorem inv_nr_le {c0 : Nat} {cr : List Nat} {nr ir : Nat} {st : List (Option Nat)} (h : InvN c0 cr nr ir st) : nr ≤ c0 := by
  rcases invN_cases h with ⟨rfl, _, _⟩ | ⟨_, _, h⟩
  · omega
  · exact agree_le h

theorem inv_busy {c0 : Nat} {cr : List Nat} {nr ir : Nat} {st : List (Option Nat)} (h : InvN c0 cr nr ir st)
    (hp : 1 ≤ c0 ∨ cr ≠ []) : Busy nr ir st := by
  intro ⟨h1, h2, h3⟩
  subst h1 h2
  obtain rfl : st = [] := by cases st <;> simp_all
  obtain ⟨hcr, _, hc⟩ := agree_bottom (invN_nil.1 h) (Or.inr rfl)
  rcases hp with hp | hp
  · omega
  · exact hp hcr

theorem inv_done {nr ir : Nat} {st : List (Option Nat)} (h : InvN 0 [] nr ir st) : ¬ Busy nr ir st := by
  rcases invN_cases h with ⟨rfl, rfl, h⟩ | ⟨hm, _, h⟩
  · obtain ⟨_, htr, ht⟩ := agree_bottom h (Or.inl rfl)
    match st, htr, ht with
    | [], _, _ => simp [Busy]
    | none :: _, htr, _ => simp [gTl] at htr
    | some _ :: _, _, ht => simp [topBump] at ht
  · obtain ⟨_, htr, ht⟩ := agree_bottom h (Or.inl rfl)
    exact absurd ⟨ht, by simpa using htr⟩ hm

/-- how a round ends when the group counts become `c :: cr`: the loop stops, and then nothing is
    pending, or it goes on in a state that agrees with them. Every kind of round ends so (`done_step`, `open_def`,
    `open_indef`, `break_step`), and `runs_resume` goes on from there. -/
def Ends (k : Option SkipState) (c : Nat) (cr : List Nat) : Prop :=
  (k = none ∧ c = 0 ∧ cr = []) ∨ ∃ nr' ir' st', k = some (nr', ir', st') ∧ InvN c cr nr' ir' st'

/-- no `topBump` in the hypothesis: the item in progress has just ended -/
theorem skipTail_inv {c : Nat} {cr : List Nat} {st : List (Option Nat)} (h : AgreeL c cr (gHd st) (gTl st)) :
    Ends (skipTail 0 0 st) c cr := by
  rcases skipTail_spec st with ⟨h1, h2, h3⟩ | ⟨st1, h1, h2, h3⟩
  · rw [h2, h3] at h
    obtain ⟨hcr, _, ht⟩ := agree_bottom h (Or.inr rfl)
    exact Or.inl ⟨h1, ht.symm, hcr⟩
  · exact Or.inr ⟨0, 0, st1, h1, by simp only [InvN, and_self, if_true, h2, h3]; exact h⟩

theorem done_step {c : Nat} {cr : List Nat} {nr ir : Nat} {st : List (Option Nat)} (h : InvN (c + 1) cr nr ir st) :
    Ends (skipTail nr ir st) c cr := by
  replace h := invN_cases h
  rcases h with ⟨rfl, rfl, h⟩ | ⟨hm, rfl, h⟩
  · have hb := topBump_cases st
    exact skipTail_inv (agree_shift h (by omega) fun _ => by omega)
  · exact Or.inr ⟨nr - 1, ir, [], by simp [skipTail, hm], invN_nil.2 (agree_shift h (by omega) fun _ => by omega)⟩

theorem break_step {c1 : Nat} {cr : List Nat} {nr ir : Nat} {st : List (Option Nat)} (h : InvN 0 (c1 :: cr) nr ir st) :
    Ends (closed nr ir st) c1 cr := by
  unfold closed
  replace h := invN_cases h
  rcases h with ⟨rfl, rfl, h⟩ | ⟨hm, rfl, h⟩
  · simp only [and_self, if_true]
    match st, h with
    | [], h => simp [gTl, AgreeL] at h
    | some k :: st0, h => have := agree_le h; simp [gHd, topBump] at this
    | none :: st0, h => exact skipTail_inv h.2
  · simp only [hm, if_false]
    match ir, h with
    | 0, h => simp [AgreeL] at h
    | ir' + 1, h =>
      have ⟨hnr, h'⟩ : nr ≤ 0 ∧ AgreeL c1 cr 0 (List.replicate ir' 0) := h
      obtain rfl : nr = 0 := by omega
      rw [Nat.add_sub_cancel]
      by_cases hi : ir' = 0
      · subst hi; exact skipTail_inv h'
      · exact Or.inr ⟨0, ir', [], by simp [skipTail, hi], invN_nil.2 h'⟩

theorem open_def {c : Nat} {cr : List Nat} {nr ir : Nat} {st : List (Option Nat)} (n : Nat)
    (h : InvN (c + 1) cr nr ir st) (hsat : c + 1 + n ≤ U64MAX) : Ends (opened (some n) nr ir st) (n + c) cr := by
  cases n with
  | zero =>
    -- an empty container is complete with its head: `opened (some 0) …` is `skipTail …` by the first arm of `skipOpen`
    rw [Nat.zero_add]; exact done_step h
  | succ n =>
    unfold opened
    replace h := invN_cases h
    rcases h with ⟨rfl, rfl, h⟩ | ⟨hm, rfl, h⟩
    · have hb := topBump_cases st
      refine Or.inr ⟨0, 0, some n :: st, by simp [skipOpen, skipTail, popZeros], ?_⟩
      simp only [InvN, and_self, if_true, gHd, topBump, gTl]
      exact agree_shift h (by omega) (fun _ => by omega)
    · have hle := agree_le h
      have hsat' : satAdd nr (n + 1) = nr + (n + 1) := by unfold satAdd; rw [if_neg (by omega)]
      exact Or.inr ⟨nr + (n + 1) - 1, ir, [], by simp [skipOpen, hm, hsat', skipTail],
        invN_nil.2 (agree_shift h (by omega) fun _ => by omega)⟩

/-- `n`: the items of the new container; the state expects none of them, it waits for the break -/
theorem open_indef {c : Nat} {cr : List Nat} {nr ir : Nat} {st : List (Option Nat)} (n : Nat)
    (h : InvN (c + 1) cr nr ir st) (hsat : ir + 1 ≤ U64MAX) : Ends (opened none nr ir st) n (c :: cr) := by
  refine Or.inr ?_
  unfold opened
  replace h := invN_cases h
  rcases h with ⟨rfl, rfl, h⟩ | ⟨hm, rfl, h⟩
  · have hb := topBump_cases st
    refine ⟨0, 0, none :: st, by simp [skipOpen, skipTail, popZeros], ?_⟩
    simp only [InvN, and_self, if_true, gHd, topBump, gTl, AgreeL, Nat.zero_le, true_and, Nat.add_zero]
    exact agree_shift h (by omega) (fun _ => by omega)
  · by_cases h2 : nr < 2
    · have hsat' : satAdd ir 1 = ir + 1 := by unfold satAdd; rw [if_neg (by omega)]
      refine ⟨nr - 1, ir + 1, [], by simp [skipOpen, hm, h2, hsat', skipTail], invN_nil.2 ?_⟩
      simp only [List.replicate, AgreeL]
      refine ⟨by omega, agree_shift h (by omega) fun _ => by omega⟩
    · -- back to stack mode (last arm of `skipOpen`): the group counts of this stack are `0 :: (nr - 1) :: 0 … 0`
      refine ⟨0, 0, none :: some (nr - 1) :: (List.replicate ir none ++ []), ?_, ?_⟩
      · simp [skipOpen, hm, h2, skipTail, popZeros]
      · simp only [InvN, and_self, if_true, gHd, topBump, gTl, List.append_nil, gHd_replicate, gTl_replicate, AgreeL,
          Nat.zero_le, true_and, Nat.add_zero]
        exact agree_shift h (by omega) (fun _ => by omega)

theorem heads_children_le (x : Item) : ∀ h ys, x = .seq h ys → headsList ys + 1 = heads x := by
  intro h ys e; subst e; simp [heads]; omega

/-- From any loop state that agrees with the pending counts `c :: cr`, the loop on `bs` stops with exactly
    `r` left; every pending item and every pending break is at least one byte of `bs` (which is what keeps
    the saturating counters exact below `2^64` bytes). -/
def Runs (c : Nat) (cr : List Nat) (bs r : Bytes) : Prop :=
  c + cr.length + r.length ≤ bs.length ∧
    ∀ f nr ir st, InvN c cr nr ir st → bs.length < f → skipLoop f nr ir st bs = .ok () r

theorem runs_done (r : Bytes) : Runs 0 [] r r :=
  ⟨by simp, fun f nr ir st h hf => by
    obtain ⟨f, rfl⟩ : ∃ k, f = k + 1 := ⟨f - 1, by omega⟩
    exact skipLoop_idle (inv_done h) f r⟩

theorem runs_nil {bs r : Bytes} (h : Runs 0 [] bs r) : bs = r := by
  have := h.2 (bs.length + 1) 0 0 [] (by simp [InvN, gHd, topBump, gTl, AgreeL]) (Nat.lt_succ_self _)
  rw [skipLoop_idle (by simp [Busy])] at this
  injection this

theorem runs_resume {c : Nat} {cr : List Nat} {bs r : Bytes} (h : Runs c cr bs r) {k : Option SkipState}
    (hk : Ends k c cr) {f : Nat} (hf : bs.length < f) : resume f k bs = .ok () r := by
  rcases hk with ⟨rfl, rfl, rfl⟩ | ⟨nr, ir, st, rfl, hinv⟩
  · cases runs_nil h; rfl
  · exact h.2 f nr ir st hinv hf

theorem runs_break {c1 : Nat} {cr : List Nat} {rest r : Bytes} (h : Runs c1 cr rest r) :
    Runs 0 (c1 :: cr) (0xff :: rest) r := by
  refine ⟨by have := h.1; simp only [List.length_cons]; omega, fun f nr ir st hinv hf => ?_⟩
  obtain ⟨f, rfl⟩ : ∃ k, f = k + 1 := ⟨f - 1, by omega⟩
  simp only [List.length_cons] at hf
  rw [skipLoop_break (inv_busy hinv (Or.inr (by simp))) (by decide) f]
  exact runs_resume h (break_step hinv) (by omega)

mutual
/-- One item `x` in front of `rest`: a round on its head (`step_*`), then its children if it has any, then `rest`.
    `hlen` bounds the bytes the loop will consume (`r` stays): by the first clause of `Runs` every pending count is at
    most that, which is what keeps the saturating additions of `open_def` / `open_indef` exact. -/
theorem runs_item (x : Item) (hw : x.wf = true) (ht : utf8Ok x = true) {c : Nat} {cr : List Nat} {rest r : Bytes}
    (hR : Runs c cr rest r) (hlen : (x.encode ++ rest).length ≤ U64MAX + r.length) :
    Runs (c + 1) cr (x.encode ++ rest) r := by
  have hpos := Nat.le_trans (heads_pos x) (heads_le_length x)
  have hc := hR.1
  refine ⟨by simp only [List.length_append]; omega, fun f nr ir st hinv hf => ?_⟩
  obtain ⟨f, rfl⟩ : ∃ k, f = k + 1 := ⟨f - 1, by omega⟩
  have hbusy : Busy nr ir st := inv_busy hinv (Or.inl (by omega))
  simp only [List.length_append] at hf hlen
  -- `x` is complete once its head is read
  have fin : resume f (skipTail nr ir st) rest = .ok () r := runs_resume hR (done_step hinv) (by omega)
  cases x with
  | atom h => rw [step_atom hbusy f _ h hw]; exact fin
  | str h bs =>
    simp only [utf8Ok, Bool.or_eq_true, decide_eq_true_eq] at ht
    rw [step_str hbusy f _ h bs hw ht]; exact fin
  | strIndef m cs => rw [step_strIndef hbusy f _ m cs hw ht]; exact fin
  | tag h i =>
    rw [step_tag hbusy f _ h i hw]
    simp only [Item.wf, Bool.and_eq_true, decide_eq_true_eq] at hw
    simp only [utf8Ok] at ht
    have hhd := Head.encode_length_pos h
    simp only [Item.encode, List.length_append] at hf hlen
    exact (runs_item i hw.2 ht hR (by simp only [List.length_append]; omega)).2 f nr ir st hinv
      (by simp only [List.length_append]; omega)
  | seq h ys =>
    have hhd := Head.encode_length_pos h
    simp only [Item.encode, List.length_append] at hf hlen
    have hwy : wfList ys = true := by simp only [Item.wf, Bool.and_eq_true] at hw; exact hw.2
    simp only [utf8Ok] at ht
    have hR' := runs_items ys hwy ht hR (by simp only [List.length_append]; omega)
    have hn := hR'.1
    simp only [List.length_append] at hn
    rw [step_seq hbusy f _ h ys hw (by omega)]
    exact runs_resume hR' (open_def ys.length hinv (by omega)) (by simp only [List.length_append]; omega)
  | seqIndef m ys =>
    simp only [Item.encode, List.length_cons, List.length_append, List.length_nil] at hf hlen
    simp only [Item.wf, Bool.and_eq_true, Bool.or_eq_true, decide_eq_true_eq] at hw
    simp only [utf8Ok] at ht
    have hR' := runs_items ys hw.2 ht (runs_break hR) (by simp only [List.length_append, List.length_cons]; omega)
    rw [step_seqIndef hbusy f _ m ys hw.1.1]
    exact runs_resume hR' (open_indef _ hinv (by have := inv_ir_le hinv; omega))
      (by simp only [List.length_append, List.length_cons]; omega)

theorem runs_items (xs : List Item) (hw : wfList xs = true) (ht : utf8OkList xs = true) {c : Nat} {cr : List Nat}
    {rest r : Bytes} (hR : Runs c cr rest r) (hlen : (encodeList xs ++ rest).length ≤ U64MAX + r.length) :
    Runs (xs.length + c) cr (encodeList xs ++ rest) r := by
  cases xs with
  | nil => rw [List.length_nil, Nat.zero_add]; exact hR
  | cons x xs =>
    simp only [wfList, utf8OkList, Bool.and_eq_true] at hw ht
    rw [encodeList, List.append_assoc] at hlen ⊢
    rw [List.length_cons, Nat.add_right_comm]
    exact runs_item x hw.1 ht.1 (runs_items xs hw.2 ht.2 hR (by simp only [List.length_append] at hlen ⊢; omega)) hlen
end

/-- **`Decoder::skip` is exact** on every well-formed item with UTF-8 text that is shorter than
    `2^64` bytes (as any slice is): it consumes the item — indefinite arrays and maps at any depth
    included — and nothing else, whatever follows. -/
theorem skip_exact_of_utf8Ok (i : Item) (hw : i.wf = true) (ht : utf8Ok i = true) (hlen : i.encode.length < 2 ^ 64) :
    SkipExact i.encode := fun r =>
  (runs_item i hw ht (runs_done r) (by simp only [List.length_append]; unfold U64MAX; omega)).2 _ 1 0 []
    (by simp [InvN, AgreeL]) (Nat.lt_succ_self _)

/-- the same under the bound `2^62` with which C22's `okAny` is stated (the proof needs `2^64` only) -/
theorem skip_exact (i : Item) (hw : i.wf = true) (ht : utf8Ok i = true) (hlen : i.encode.length < 2 ^ 62) : SkipExact i.encode :=
  skip_exact_of_utf8Ok i hw ht (by omega)

theorem skip_exact_of_skippable (i : Item) (hw : i.wf = true) (hs : skippable i = true)
    (hlen : i.encode.length < 2 ^ 64) : SkipExact i.encode :=
  skip_exact_of_utf8Ok i hw (utf8Ok_of_skippable i hs) hlen

end PallasVerif.NetCodec
