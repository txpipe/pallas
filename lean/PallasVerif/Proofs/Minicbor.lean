import PallasVerif.Model.Minicbor
import PallasVerif.Proofs.Cbor
/-!
  The minicbor model. What the decoding primitives return on a definite head of any width (`*_head`), on what the `Encoder`
  writes (`*_enc`: the minimal-head case) and what they accepted (`*_inv`), the sized signed readers through `int()`
  (`sintN_eq_int`); what `type_of` answers on the ranges of the initial byte the wrappers meet. `Consumes p`, its weakening
  `Suffix p`, and `Res.Takes k cur x`, closed under the combinators the decoders are built from: the `_takes` fact of a
  primitive, of the break-ended element loop and of `skip` says both that it consumes and that its fuel never runs out
  (`DecTotal` reads both off). For the loops: `Run`, a successful run of an element loop as a relation (what is proved from a
  success is an induction over it), and what one round of `skip` does for each range of the initial byte (`skipArm_*`).
-/
namespace PallasVerif.Minicbor
open PallasVerif.Cbor

@[simp] theorem Res.andThen_ok {α β : Type} (a : α) (r : Bytes) (f : α → Bytes → Res β) :
    (Res.ok a r).andThen f = f a r := rfl
@[simp] theorem Res.andThen_err {α β : Type} (e : Err) (f : α → Bytes → Res β) :
    (Res.err e : Res α).andThen f = .err e := rfl
@[simp] theorem Res.map_ok {α β : Type} (a : α) (r : Bytes) (f : α → β) :
    (Res.ok a r).map f = .ok (f a) r := rfl
@[simp] theorem Res.map_err {α β : Type} (e : Err) (f : α → β) :
    (Res.err e : Res α).map f = .err e := rfl

theorem Res.andThen_eq_ok {α β : Type} {x : Res α} {f : α → Bytes → Res β} {b : β} {r : Bytes}
    (h : x.andThen f = .ok b r) : ∃ a r', x = .ok a r' ∧ f a r' = .ok b r := by
  cases x with
  | ok a r' => exact ⟨a, r', rfl, h⟩
  | err e => simp at h

theorem Res.map_eq_ok {α β : Type} {x : Res α} {f : α → β} {b : β} {r : Bytes}
    (h : x.map f = .ok b r) : ∃ a, x = .ok a r ∧ f a = b := by
  cases x with
  | ok a r' => simp at h; exact ⟨a, by rw [h.2], h.1⟩
  | err e => simp at h

theorem readBe_append (arg rest : Bytes) : readBe arg.length (arg ++ rest) = .ok (ofBe arg) rest := by
  simp [readBe]

theorem readBe_be (w n : Nat) (r : Bytes) (h : n < 256 ^ w) : readBe w (be w n ++ r) = .ok n r := by
  have := readBe_append (be w n) r
  rwa [be_length, ofBe_be, Nat.mod_eq_of_lt h] at this

theorem readBe_inv (w : Nat) (cur : Bytes) (n : Nat) (r : Bytes) (h : readBe w cur = .ok n r) :
    cur = be w n ++ r ∧ n < 256 ^ w := by
  unfold readBe at h
  split at h
  · rename_i hw
    simp only [Res.ok.injEq] at h
    obtain ⟨rfl, rfl⟩ := h
    have hl : (cur.take w).length = w := by simp; omega
    have e : be w (ofBe (cur.take w)) = cur.take w := by
      have := be_ofBe (cur.take w); rwa [hl] at this
    constructor
    · rw [e]; simp
    · have := ofBe_lt (cur.take w); rwa [hl] at this
  · cases h

theorem unsigned_imm (ai : Nat) (cur : Bytes) (h : ai < 24) : unsigned ai cur = .ok ai cur := by simp [unsigned, h]
theorem unsigned_24 (cur : Bytes) : unsigned 24 cur = readBe 1 cur := by simp [unsigned]
theorem unsigned_25 (cur : Bytes) : unsigned 25 cur = readBe 2 cur := by simp [unsigned]
theorem unsigned_26 (cur : Bytes) : unsigned 26 cur = readBe 4 cur := by simp [unsigned]
theorem unsigned_27 (cur : Bytes) : unsigned 27 cur = readBe 8 cur := by simp [unsigned]

theorem unsigned_ai_le {ai n : Nat} {cur r : Bytes} (h : unsigned ai cur = .ok n r) : ai ≤ 27 :=
  Decidable.byContradiction fun hn => by
    rw [unsigned, if_neg (by omega), if_neg (by omega), if_neg (by omega), if_neg (by omega), if_neg (by omega)] at h
    cases h

theorem readSlice_append (bs r : Bytes) : readSlice bs.length (bs ++ r) = .ok bs r := by
  simp [readSlice]

/-- with the equation, what the proofs about the primitives that call `unsigned` need of a definite head, in the model's
    words (`major`, `info`; `Head.byte_div_mod` says the last two in `/ 32`, `% 32`) -/
theorem unsigned_head (h : Head) (rest : Bytes) (hw : h.wf = true) (hai : h.ai ≠ 31) :
    unsigned h.ai (h.arg ++ rest) = .ok h.val rest ∧ h.val < 2 ^ 64 ∧ h.ai ≤ 27 ∧
      major (initByte h.major h.ai) = h.major ∧ info (initByte h.major h.ai) = h.ai := by
  have hl := ((Head.wf_iff h).mp hw).2.2
  have hlen := ofBe_lt h.arg
  have e := readBe_append h.arg rest
  suffices key : unsigned h.ai (h.arg ++ rest) = .ok h.val rest ∧ h.val < 2 ^ 64 from
    ⟨key.1, key.2, Head.ai_le_of_wf hw hai, (Head.byte_div_mod hw).1, (Head.byte_div_mod hw).2⟩
  rcases argLen_cases _ _ hl with ⟨h0, hn⟩ | ⟨h1, hn⟩ | ⟨h1, hn⟩ | ⟨h1, hn⟩ | ⟨h1, hn⟩ | ⟨h1, _⟩
  · have : h.arg = [] := List.eq_nil_of_length_eq_zero hn
    simp [unsigned, h0, Head.val, this]; omega
  iterate 4
    · rw [hn] at e hlen
      exact ⟨by simpa [unsigned, Head.val, h1] using e, by simp [Head.val, h1]; omega⟩
  · exact absurd h1 hai

theorem seqHead_head (m : Nat) (h : Head) (rest : Bytes) (hd : h.definite m) :
    seqHead m (h.encode ++ rest) = .ok (some h.val) rest := by
  obtain ⟨hw, hm, hai⟩ := hd
  obtain ⟨hu, _, _, hmaj, hinf⟩ := unsigned_head h rest hw hai
  simp only [Head.encode, List.cons_append, seqHead, hmaj, hinf]
  rw [if_neg (by omega), if_neg hai]
  simp [hu]

theorem tag_head (h : Head) (rest : Bytes) (hd : h.definite 6) : tag (h.encode ++ rest) = .ok h.val rest := by
  obtain ⟨hw, hm, hai⟩ := hd
  obtain ⟨hu, _, _, hmaj, hinf⟩ := unsigned_head h rest hw hai
  simp only [Head.encode, List.cons_append, tag, hmaj, hinf]
  rw [if_neg (by omega)]; exact hu

theorem bytes_head (h : Head) (bs rest : Bytes) (hd : h.definite 2) (hl : h.val = bs.length) :
    bytes (h.encode ++ (bs ++ rest)) = .ok bs rest := by
  obtain ⟨hw, hm, hai⟩ := hd
  obtain ⟨hu, _, _, hmaj, hinf⟩ := unsigned_head h (bs ++ rest) hw hai
  simp only [Head.encode, List.cons_append, bytes, hmaj, hinf]
  rw [if_neg (by omega), hu]
  simp [hl, readSlice_append]

theorem uintN_head (bits : Nat) (h : Head) (rest : Bytes) (hd : h.definite 0) :
    uintN bits (h.encode ++ rest) = if h.val < 2 ^ bits then .ok h.val rest else .err .overflow := by
  obtain ⟨hw, hm, hai⟩ := hd
  obtain ⟨hu, _, h27, _⟩ := unsigned_head h rest hw hai
  have hb := h.initByte_toNat hw
  simp only [Head.encode, List.cons_append, uintN, hb]
  rw [if_pos (by omega)]
  have : h.major * 32 + h.ai = h.ai := by omega
  rw [this, hu]; rfl

theorem encHead_eq (m n : Nat) : encHead m n = initByte m (minHead m n).ai :: (minHead m n).arg :=
  minHead_encode m n

/-- the initial byte `type_len` writes (followed by `(minHead m n).arg`, see `encHead_eq`) -/
theorem encHead_byte (m n : Nat) (hm : m < 8) :
    (minHead m n).ai ≤ 27 ∧ (initByte m (minHead m n).ai).toNat = m * 32 + (minHead m n).ai :=
  ⟨minHead_ai_le m n, initByte_toNat m _ hm (by have := minHead_ai_le m n; omega)⟩

theorem uintN_enc (bits n : Nat) (r : Bytes) (hb : bits ≤ 64) (hn : n < 2 ^ bits) :
    uintN bits (encUInt n ++ r) = .ok n r := by
  have hn64 : n < 2 ^ 64 := Nat.lt_of_lt_of_le hn (Nat.pow_le_pow_right (by omega) hb)
  have h := uintN_head bits (minHead 0 n) r (.minHead 0 n (by omega))
  rwa [minHead_val 0 n hn64, if_pos hn] at h

theorem u64_enc (n : Nat) (r : Bytes) (hn : n < 2 ^ 64) : u64 (encUInt n ++ r) = .ok n r :=
  uintN_enc 64 n r (by omega) hn

theorem seqHead_enc (m n : Nat) (r : Bytes) (hm : m < 8) (hn : n < 2 ^ 64) :
    seqHead m (encHead m n ++ r) = .ok (some n) r := by
  have h := seqHead_head m (minHead m n) r (.minHead m n hm)
  rwa [minHead_val m n hn] at h

theorem array_enc (n : Nat) (r : Bytes) (hn : n < 2 ^ 64) : array (encArrayHead n ++ r) = .ok (some n) r :=
  seqHead_enc 4 n r (by omega) hn
theorem map_enc (n : Nat) (r : Bytes) (hn : n < 2 ^ 64) : map (encMapHead n ++ r) = .ok (some n) r :=
  seqHead_enc 5 n r (by omega) hn

theorem tag_enc (n : Nat) (r : Bytes) (hn : n < 2 ^ 64) : tag (encTag n ++ r) = .ok n r := by
  have h := tag_head (minHead 6 n) r (.minHead 6 n (by omega))
  rwa [minHead_val 6 n hn] at h

theorem bytes_enc (bs r : Bytes) (hn : bs.length < 2 ^ 64) : bytes (encBytes bs ++ r) = .ok bs r := by
  rw [encBytes, List.append_assoc]
  exact bytes_head (minHead 2 bs.length) bs r (.minHead 2 _ (by omega)) (minHead_val 2 _ hn)

theorem seqHead_indef (m : Nat) (hm : m < 8) (t : Bytes) : seqHead m (initByte m 31 :: t) = .ok none t := by
  simp [seqHead, major, info, initByte_div_mod m 31 hm (by omega)]

theorem int_head (h : Head) (rest : Bytes) (hw : h.wf = true) (hai : h.ai ≠ 31) :
    (h.major = 0 → int (h.encode ++ rest) = .ok h.val rest) ∧
    (h.major = 1 → int (h.encode ++ rest) = .ok (-1 - h.val) rest) := by
  obtain ⟨hu, _, h27, _⟩ := unsigned_head h rest hw hai
  simp only [Head.encode, List.cons_append, int, h.initByte_toNat hw]
  constructor <;> intro hm
  · rw [if_pos (by omega), show h.major * 32 + h.ai = h.ai by omega, hu]; rfl
  · rw [if_neg (by omega), if_pos (by omega), show h.major * 32 + h.ai - 0x20 = h.ai by omega, hu]; rfl

/-- `int()` reads back what `Encoder::int` wrote, over the whole 65-bit range -/
theorem int_enc (i : Int) (r : Bytes) (hlo : -(2 ^ 64 : Int) ≤ i) (hhi : i < 2 ^ 64) :
    Minicbor.int (encInt i ++ r) = .ok i r := by
  unfold encInt encHead
  split
  · rw [(int_head _ r (minHead_wf 0 _ (by omega)) (minHead_ai_ne 0 _)).1 (minHead_major 0 _), minHead_val 0 _ (by omega)]
    congr 1; omega
  · rw [(int_head _ r (minHead_wf 1 _ (by omega)) (minHead_ai_ne 1 _)).2 (minHead_major 1 _), minHead_val 1 _ (by omega)]
    congr 1; omega

/-- `i8()` … `i64()` are `int()` followed by the range test of the width: minicbor tests the magnitude before it negates,
    which comes to the same -/
theorem sintN_eq_int (bits : Nat) (cur : Bytes) :
    sintN bits cur = (int cur).andThen fun i r =>
      if -((2 ^ (bits - 1) : Nat) : Int) ≤ i ∧ i < (2 ^ (bits - 1) : Nat) then .ok i r else .err .overflow := by
  cases cur with
  | nil => rfl
  | cons b t =>
    simp only [sintN, int]
    generalize 2 ^ (bits - 1) = B
    by_cases h1 : b.toNat ≤ 0x1b
    · rw [if_pos h1, if_pos h1]
      cases unsigned b.toNat t with
      | err e => rfl
      | ok n r => exact ite_congr (propext (by simp only [Int.ofNat_eq_natCast]; omega)) (fun _ => rfl) (fun _ => rfl)
    · rw [if_neg h1, if_neg h1]
      by_cases h2 : 0x20 ≤ b.toNat ∧ b.toNat ≤ 0x3b
      · rw [if_pos h2, if_pos h2]
        cases unsigned (b.toNat - 0x20) t with
        | err e => rfl
        | ok n r => exact ite_congr (propext (by simp only [Int.ofNat_eq_natCast]; omega)) (fun _ => rfl) (fun _ => rfl)
      · rw [if_neg h2, if_neg h2]; rfl

theorem i64_enc (i : Int) (r : Bytes) (hlo : -(2 ^ 63 : Int) ≤ i) (hhi : i < 2 ^ 63) :
    Minicbor.i64 (encInt i ++ r) = .ok i r := by
  rw [i64, sintN_eq_int, int_enc i r (by omega) (by omega)]
  exact if_pos ⟨hlo, hhi⟩

theorem uintN_inv (bits : Nat) (b : UInt8) (t : Bytes) (x : Nat) (r : Bytes) (h : uintN bits (b :: t) = .ok x r) :
    b.toNat ≤ 0x1b ∧ unsigned b.toNat t = .ok x r ∧ x < 2 ^ bits := by
  simp only [uintN] at h
  by_cases hb : b.toNat ≤ 0x1b
  · rw [if_pos hb] at h
    obtain ⟨n, r', e1, e2⟩ := Res.andThen_eq_ok h
    split at e2
    · cases e2; exact ⟨hb, e1, by assumption⟩
    · cases e2
  · rw [if_neg hb] at h; cases h

theorem seqHead_inv (m : Nat) (b : UInt8) (t : Bytes) (len : Option Nat) (r : Bytes)
    (h : seqHead m (b :: t) = .ok len r) :
    b.toNat / 32 = m ∧ ((len = none ∧ b.toNat % 32 = 31 ∧ r = t) ∨ (len ≠ none ∧ b.toNat % 32 ≤ 27)) := by
  simp only [seqHead] at h
  by_cases hmaj : major b ≠ m
  · rw [if_pos hmaj] at h; cases h
  rw [if_neg hmaj] at h
  refine ⟨Decidable.not_not.mp hmaj, ?_⟩
  by_cases hinf : info b = 31
  · rw [if_pos hinf] at h; cases h; exact .inl ⟨rfl, hinf, rfl⟩
  · rw [if_neg hinf] at h
    obtain ⟨n, e, rfl⟩ := Res.map_eq_ok h
    exact .inr ⟨nofun, unsigned_ai_le e⟩

theorem null_inv {bs r : Bytes} {u : Unit} (h : null bs = .ok u r) : bs = 0xf6 :: r := by
  cases bs with
  | nil => cases h
  | cons b t =>
    simp only [null] at h
    by_cases hb : b = 0xf6
    · rw [if_pos hb] at h; cases h; rw [hb]
    · rw [if_neg hb] at h; cases h

theorem undefined_inv {bs r : Bytes} {u : Unit} (h : undefined bs = .ok u r) : bs = 0xf7 :: r := by
  cases bs with
  | nil => cases h
  | cons b t =>
    simp only [undefined] at h
    by_cases hb : b = 0xf7
    · rw [if_pos hb] at h; cases h; rw [hb]
    · rw [if_neg hb] at h; cases h

theorem sintN_inv (bits : Nat) (cur : Bytes) (i : Int) (r : Bytes) (h : sintN bits cur = .ok i r) :
    -((2 ^ (bits - 1) : Nat) : Int) ≤ i ∧ i < (2 ^ (bits - 1) : Nat) := by
  rw [sintN_eq_int] at h
  obtain ⟨j, r', _, e⟩ := Res.andThen_eq_ok h
  split at e
  · cases e; assumption
  · cases e

theorem typeOf_plain (cur : Bytes) (b : UInt8) (h : ¬ (0x38 ≤ b.toNat ∧ b.toNat ≤ 0x3b)) :
    typeOf cur b = .ok (typeOfPlain b.toNat) := by
  simp only [typeOf]; rw [if_neg h]

/-- `type_of` can only fail with end-of-input (the look-ahead of `0x38..=0x3b`) -/
theorem typeOf_error (cur : Bytes) (b : UInt8) (e : Err) (h : typeOf cur b = .error e) : e = .eoi := by
  simp only [typeOf] at h
  split at h
  · split at h
    · cases h; rfl
    · cases h
  · cases h

theorem datatype_err_ne_diverge {cur : Bytes} {e : Err} (he : datatype cur = .error e) : e ≠ .diverge := by
  cases cur with
  | nil => simp [datatype] at he; subst he; decide
  | cons b r => simp only [datatype] at he; rw [typeOf_error _ _ _ he]; decide

/-- the opening of a decoder that dispatches on `datatype()`: on success the datatype was read -/
theorem datatype_dispatch {α : Type} {cur r : Bytes} {f : DType → Res α} {a : α}
    (h : (match datatype cur with | .error e => Res.err e | .ok t => f t) = .ok a r) :
    ∃ t, datatype cur = .ok t ∧ f t = .ok a r := by
  cases hT : datatype cur with
  | error e => rw [hT] at h; cases h
  | ok t => rw [hT] at h; exact ⟨t, rfl, h⟩

section
variable (cur : Bytes) (b : UInt8)

-- the tests of `type_of` that precede an arm are for lower ranges: each fails on a byte in the arm's range

theorem typeOf_bytes (h1 : 0x40 ≤ b.toNat) (h2 : b.toNat ≤ 0x5b) : typeOf cur b = .ok .bytes := by
  rw [typeOf_plain _ _ (by omega), typeOfPlain, if_neg (by omega), if_neg (by omega), if_neg (by omega), if_neg (by omega), if_neg (by omega), if_pos ⟨h1, h2⟩]
theorem typeOf_array (h1 : 0x80 ≤ b.toNat) (h2 : b.toNat ≤ 0x9b) : typeOf cur b = .ok .array := by
  rw [typeOf_plain _ _ (by omega), typeOfPlain, if_neg (by omega), if_neg (by omega), if_neg (by omega), if_neg (by omega), if_neg (by omega),
    if_neg (by omega), if_neg (by omega), if_neg (by omega), if_neg (by omega), if_pos ⟨h1, h2⟩]
theorem typeOf_map (h1 : 0xa0 ≤ b.toNat) (h2 : b.toNat ≤ 0xbb) : typeOf cur b = .ok .map := by
  rw [typeOf_plain _ _ (by omega), typeOfPlain, if_neg (by omega), if_neg (by omega), if_neg (by omega), if_neg (by omega), if_neg (by omega),
    if_neg (by omega), if_neg (by omega), if_neg (by omega), if_neg (by omega), if_neg (by omega), if_neg (by omega), if_pos ⟨h1, h2⟩]
theorem typeOf_tag (h1 : 0xc0 ≤ b.toNat) (h2 : b.toNat ≤ 0xdb) : typeOf cur b = .ok .tag := by
  rw [typeOf_plain _ _ (by omega), typeOfPlain, if_neg (by omega), if_neg (by omega), if_neg (by omega), if_neg (by omega), if_neg (by omega),
    if_neg (by omega), if_neg (by omega), if_neg (by omega), if_neg (by omega), if_neg (by omega), if_neg (by omega), if_neg (by omega), if_neg (by omega), if_pos ⟨h1, h2⟩]
theorem typeOf_u8 (h : b.toNat ≤ 0x18) : typeOf cur b = .ok .u8 := by
  rw [typeOf_plain _ _ (by omega), typeOfPlain, if_pos h]
theorem typeOf_u16 (h : b.toNat = 0x19) : typeOf cur b = .ok .u16 := by
  rw [typeOf_plain _ _ (by omega), h]; rfl
theorem typeOf_u32 (h : b.toNat = 0x1a) : typeOf cur b = .ok .u32 := by
  rw [typeOf_plain _ _ (by omega), h]; rfl
theorem typeOf_u64 (h : b.toNat = 0x1b) : typeOf cur b = .ok .u64 := by
  rw [typeOf_plain _ _ (by omega), h]; rfl

end

theorem typeOf_uint_cases (cur : Bytes) (b : UInt8) (hb : b.toNat ≤ 0x1b) :
    (b.toNat ≤ 0x18 ∧ typeOf cur b = .ok .u8) ∨ (b.toNat = 0x19 ∧ typeOf cur b = .ok .u16) ∨
    (b.toNat = 0x1a ∧ typeOf cur b = .ok .u32) ∨ (b.toNat = 0x1b ∧ typeOf cur b = .ok .u64) := by
  by_cases h1 : b.toNat ≤ 0x18
  · exact Or.inl ⟨h1, typeOf_u8 _ _ h1⟩
  · by_cases h2 : b.toNat = 0x19
    · exact Or.inr (Or.inl ⟨h2, typeOf_u16 _ _ h2⟩)
    · by_cases h3 : b.toNat = 0x1a
      · exact Or.inr (Or.inr (Or.inl ⟨h3, typeOf_u32 _ _ h3⟩))
      · exact Or.inr (Or.inr (Or.inr ⟨by omega, typeOf_u64 _ _ (by omega)⟩))

theorem typeOf_null (cur : Bytes) : typeOf cur 0xf6 = .ok .null := rfl
theorem typeOf_undefined (cur : Bytes) : typeOf cur 0xf7 = .ok .undefined := rfl
theorem typeOf_bool (cur : Bytes) (b : Bool) : typeOf cur (if b then 0xf5 else 0xf4) = .ok .bool := by
  cases b <;> rfl

theorem datatype_encHead (m n : Nat) (r : Bytes) (ty : DType) (hm : m < 8)
    (hty : ∀ cur b, m * 32 ≤ b.toNat → b.toNat ≤ m * 32 + 27 → typeOf cur b = .ok ty) :
    datatype (encHead m n ++ r) = .ok ty := by
  obtain ⟨hai, hb⟩ := encHead_byte m n hm
  rw [encHead_eq]
  exact hty _ _ (by omega) (by omega)

theorem datatype_encHead_array (n : Nat) (r : Bytes) : datatype (encArrayHead n ++ r) = .ok .array :=
  datatype_encHead 4 n r _ (by omega) typeOf_array

theorem datatype_encHead_map (n : Nat) (r : Bytes) : datatype (encMapHead n ++ r) = .ok .map :=
  datatype_encHead 5 n r _ (by omega) typeOf_map

theorem datatype_encHead_tag (n : Nat) (r : Bytes) : datatype (encTag n ++ r) = .ok .tag :=
  datatype_encHead 6 n r _ (by omega) typeOf_tag

theorem datatype_encBytes (bs r : Bytes) : datatype (encBytes bs ++ r) = .ok .bytes := by
  rw [encBytes, List.append_assoc]
  exact datatype_encHead 2 _ _ _ (by omega) typeOf_bytes

/-- a successful run of `p` returns a *proper* suffix of its input: spans are well defined, loops make progress -/
def Consumes {α : Type} (p : P α) : Prop :=
  ∀ cur a rest, p cur = .ok a rest → ∃ c, c ≠ [] ∧ cur = c ++ rest

/-- `Consumes` without "proper": all that `KeepRaw` needs for its raw bytes to be the span read -/
def Suffix {α : Type} (p : P α) : Prop :=
  ∀ cur a rest, p cur = .ok a rest → ∃ c, cur = c ++ rest

theorem Consumes.suffix {α : Type} {p : P α} (h : Consumes p) : Suffix p := by
  intro cur a rest e; obtain ⟨c, _, hc⟩ := h cur a rest e; exact ⟨c, hc⟩

theorem span_of_suffix (c rest : Bytes) : span (c ++ rest) rest = c := by
  simp [span]

theorem Suffix.andThen {α β : Type} {p : P α} {f : α → P β} (hp : Suffix p) (hf : ∀ a, Suffix (f a)) :
    Suffix (fun cur => (p cur).andThen fun a r => f a r) := by
  intro cur b rest h
  obtain ⟨a, r', e1, e2⟩ := Res.andThen_eq_ok h
  obtain ⟨c1, h1⟩ := hp cur a r' e1
  obtain ⟨c2, h2⟩ := hf a r' b rest e2
  exact ⟨c1 ++ c2, by rw [h1, h2, List.append_assoc]⟩

/-- What a run on `cur` may answer: a success leaves a suffix of `cur` at least `k` bytes shorter, a failure is never
    the model-only `diverge`. A proof of it follows the decoder's `if` / `map` / `andThen` term. -/
def Res.Takes {α : Type} (k : Nat) (cur : Bytes) : Res α → Prop
  | .ok _ rest => ∃ c, k ≤ c.length ∧ cur = c ++ rest
  | .err e => e ≠ .diverge

namespace Res.Takes
variable {α β : Type} {k j : Nat} {cur r : Bytes} {x : Res α}

theorem ok (a : α) : (Res.ok a cur).Takes 0 cur := ⟨[], Nat.le_refl 0, rfl⟩

theorem err {e : Err} (h : e ≠ .diverge) : (Res.err e : Res α).Takes k cur := h

theorem ite {c : Prop} [Decidable c] {y : Res α} (hx : x.Takes k cur) (hy : y.Takes k cur) :
    (if c then x else y).Takes k cur := by
  split <;> assumption

theorem map (f : α → β) (h : x.Takes k cur) : (x.map f).Takes k cur := by
  cases x <;> exact h

/-- `x` ran on a suffix `r` of `cur` at least `k` bytes shorter; what `x` itself consumed (`j`) is not counted -/
theorem after (h : ∃ c, k ≤ c.length ∧ cur = c ++ r) (hx : x.Takes j r) : x.Takes k cur := by
  cases x with
  | err e => exact hx
  | ok a rest =>
    obtain ⟨c, hk, hc⟩ := h
    obtain ⟨c', _, hc'⟩ := hx
    exact ⟨c ++ c', by rw [List.length_append]; omega, by rw [hc, hc', List.append_assoc]⟩

theorem weaken (h : x.Takes k cur) : x.Takes 0 cur := after ⟨[], Nat.le_refl 0, rfl⟩ h

theorem cons (b : UInt8) (h : x.Takes j r) : x.Takes 1 (b :: r) := after ⟨[b], Nat.le_refl 1, rfl⟩ h

theorem andThen {f : α → Bytes → Res β} (hx : x.Takes k cur) (hf : ∀ a r, (f a r).Takes j r) :
    (x.andThen f).Takes k cur := by
  cases x with
  | err e => exact hx
  | ok a r => exact after hx (hf a r)

/-- the step of a loop: what follows a run that consumed input runs on a shorter input -/
theorem andThen_shorter {f : α → Bytes → Res β} (hx : x.Takes 1 cur)
    (hf : ∀ a r, r.length + 1 ≤ cur.length → (f a r).Takes j r) : (x.andThen f).Takes 1 cur := by
  cases x with
  | err e => exact hx
  | ok a r =>
    refine after hx (hf a r ?_)
    obtain ⟨c, hk, hc⟩ := hx
    rw [hc, List.length_append]; omega

theorem ne_diverge (h : x.Takes k cur) : x ≠ .err .diverge := by
  rintro rfl; exact h rfl

theorem datatype {f : DType → Res α} (h : ∀ t, (f t).Takes k cur) :
    (match Minicbor.datatype cur with | .error e => Res.err e | .ok t => f t).Takes k cur := by
  cases hT : Minicbor.datatype cur with
  | error e => exact datatype_err_ne_diverge hT
  | ok t => exact h t

/-- the value is rebuilt from the run (`KeepRaw`: the raw bytes are its span), the rest is the run's -/
theorem rebuild {g : α → Bytes → β} (h : x.Takes k cur) :
    (match x with | .ok a rest => Res.ok (g a rest) rest | .err e => .err e).Takes k cur := by
  cases x <;> exact h

/-- a fresh decoder over a byte string read before (`CborWrap`): only its failures surface -/
theorem inner {bs : Bytes} (h : x.Takes k bs) :
    (match x with | .ok a _ => Res.ok a r | .err e => .err e).Takes 0 r := by
  cases x with
  | ok a _ => exact .ok a
  | err e => exact h

end Res.Takes

theorem Consumes.of_takes {α : Type} {p : P α} (h : ∀ cur, (p cur).Takes 1 cur) : Consumes p := by
  intro cur a rest e
  have h := h cur
  rw [e] at h
  obtain ⟨c, hk, hc⟩ := h
  exact ⟨c, by rintro rfl; exact absurd hk (by decide), hc⟩

theorem errTypeOf_ne_diverge (cur : Bytes) (b : UInt8) : errTypeOf cur b ≠ .diverge := by
  unfold errTypeOf
  cases h : typeOf cur b with
  | ok t => simp
  | error e => simp only; rw [typeOf_error cur b e h]; decide

theorem readSlice_takes (n : Nat) (cur : Bytes) : (readSlice n cur).Takes 0 cur :=
  .ite ⟨cur.take n, Nat.zero_le _, (List.take_append_drop n cur).symm⟩ (.err nofun)

theorem readBe_takes (w : Nat) (cur : Bytes) : (readBe w cur).Takes 0 cur :=
  .ite ⟨cur.take w, Nat.zero_le _, (List.take_append_drop w cur).symm⟩ (.err nofun)

theorem unsigned_takes (ai : Nat) (cur : Bytes) : (unsigned ai cur).Takes 0 cur :=
  .ite (.ok ai) (.ite (readBe_takes 1 cur) (.ite (readBe_takes 2 cur) (.ite (readBe_takes 4 cur)
    (.ite (readBe_takes 8 cur) (.err nofun)))))

theorem uintN_takes (bits : Nat) : ∀ cur, (uintN bits cur).Takes 1 cur
  | [] => .err nofun
  | b :: r => .ite (.cons b (.andThen (unsigned_takes _ r) fun _ _ => .ite (.ok _) (.err nofun)))
      (.err (errTypeOf_ne_diverge r b))

theorem int_takes : ∀ cur, (int cur).Takes 1 cur
  | [] => .err nofun
  | b :: r => .ite (.cons b (.map _ (unsigned_takes _ r)))
      (.ite (.cons b (.map _ (unsigned_takes _ r))) (.err (errTypeOf_ne_diverge r b)))

theorem sintN_takes (bits : Nat) (cur : Bytes) : (sintN bits cur).Takes 1 cur :=
  sintN_eq_int bits cur ▸ .andThen (int_takes cur) fun _ _ => .ite (.ok _) (.err nofun)

theorem bool_takes : ∀ cur, (Minicbor.bool cur).Takes 1 cur
  | [] => .err nofun
  | b :: r => .ite (.cons b (.ok _)) (.ite (.cons b (.ok _)) (.err (errTypeOf_ne_diverge r b)))

theorem null_takes : ∀ cur, (null cur).Takes 1 cur
  | [] => .err nofun
  | b :: r => .ite (.cons b (.ok _)) (.err (errTypeOf_ne_diverge r b))

theorem undefined_takes : ∀ cur, (undefined cur).Takes 1 cur
  | [] => .err nofun
  | b :: r => .ite (.cons b (.ok _)) (.err (errTypeOf_ne_diverge r b))

theorem bytes_takes : ∀ cur, (bytes cur).Takes 1 cur
  | [] => .err nofun
  | b :: r => .ite (.err (errTypeOf_ne_diverge r b))
      (.cons b (.andThen (unsigned_takes _ r) fun n r' => readSlice_takes n r'))

theorem str_takes : ∀ cur, (str cur).Takes 1 cur
  | [] => .err nofun
  | b :: r => .ite (.err (errTypeOf_ne_diverge r b))
      (.cons b (.andThen (unsigned_takes _ r) fun n r' =>
        .andThen (readSlice_takes n r') fun _ _ => .ite (.ok _) (.err nofun)))

theorem seqHead_takes (m : Nat) : ∀ cur, (seqHead m cur).Takes 1 cur
  | [] => .err nofun
  | b :: r => .ite (.err (errTypeOf_ne_diverge r b))
      (.ite (.cons b (.ok _)) (.cons b (.map _ (unsigned_takes _ r))))

theorem tag_takes : ∀ cur, (tag cur).Takes 1 cur
  | [] => .err nofun
  | b :: r => .ite (.err (errTypeOf_ne_diverge r b)) (.cons b (unsigned_takes _ r))

theorem untilBreak_takes {α : Type} {elem : P α} (h : ∀ cur, (elem cur).Takes 1 cur) :
    ∀ fuel cur, cur.length + 1 ≤ fuel → (untilBreak elem fuel cur).Takes 1 cur
  | 0, _, hf => absurd hf (Nat.not_succ_le_zero _)
  | _ + 1, [], _ => .err nofun
  | f + 1, b :: _, hf => .ite (.cons b (.ok _)) (.andThen_shorter (h _) fun _ r' hr =>
      .map _ (untilBreak_takes h f r' (by omega)))

theorem chunkLoop_eq (chunk : P Bytes) : ∀ fuel cur, chunkLoop chunk fuel cur = untilBreak chunk fuel cur
  | 0, _ => rfl
  | _ + 1, [] => rfl
  | f + 1, b :: r => by simp only [chunkLoop, untilBreak, chunkLoop_eq chunk f]

theorem chunkLoop_takes (chunk : P Bytes) (hc : ∀ cur, (chunk cur).Takes 1 cur) (fuel : Nat) (cur : Bytes)
    (hf : cur.length + 1 ≤ fuel) : (chunkLoop chunk fuel cur).Takes 1 cur :=
  chunkLoop_eq chunk fuel cur ▸ untilBreak_takes hc fuel cur hf

theorem bytesIter_takes : ∀ cur, (bytesIter cur).Takes 1 cur
  | [] => .err nofun
  | b :: r => .ite (.err (errTypeOf_ne_diverge r b))
      (.ite (.cons b (chunkLoop_takes bytes bytes_takes _ r (Nat.le_refl _)))
        (.cons b (.andThen (unsigned_takes _ r) fun n r' => .map _ (readSlice_takes n r'))))

theorem strIter_takes : ∀ cur, (strIter cur).Takes 1 cur
  | [] => .err nofun
  | b :: r => .ite (.err (errTypeOf_ne_diverge r b))
      (.ite (.cons b (chunkLoop_takes str str_takes _ r (Nat.le_refl _)))
        (.cons b (.andThen (unsigned_takes _ r) fun n r' =>
          .andThen (readSlice_takes n r') fun _ _ => .ite (.ok _) (.err nofun))))

theorem sintN_consumes (bits : Nat) : Consumes (sintN bits) := .of_takes (sintN_takes bits)
theorem null_consumes : Consumes null := .of_takes null_takes
theorem undefined_consumes : Consumes undefined := .of_takes undefined_takes
theorem bool_consumes : Consumes Minicbor.bool := .of_takes bool_takes

/-- A successful run of an element loop, whichever test ends it: `elem` read `xs` one after the other from `cur` and
    stopped at `r`. The counted loop returns `r`; the other one found the break byte there. -/
inductive Run {α : Type} (elem : P α) : Bytes → List α → Bytes → Prop
  | nil (cur : Bytes) : Run elem cur [] cur
  | cons {cur r r' : Bytes} {a : α} {xs : List α} : elem cur = .ok a r → Run elem r xs r' → Run elem cur (a :: xs) r'

theorem repeatN_run {α : Type} {elem : P α} : ∀ n cur xs r', repeatN elem n cur = .ok xs r' →
    Run elem cur xs r' ∧ xs.length = n
  | 0, cur, _, _, h => by cases h; exact ⟨.nil cur, rfl⟩
  | n + 1, cur, _, r', h => by
    rw [repeatN] at h
    obtain ⟨a, r, e1, e2⟩ := Res.andThen_eq_ok h
    obtain ⟨ys, e3, rfl⟩ := Res.map_eq_ok e2
    obtain ⟨hr, hl⟩ := repeatN_run n r ys r' e3
    exact ⟨.cons e1 hr, congrArg (· + 1) hl⟩

theorem untilBreak_run {α : Type} {elem : P α} : ∀ fuel cur xs r', untilBreak elem fuel cur = .ok xs r' →
    Run elem cur xs (0xff :: r')
  | 0, _, _, _, h => by cases h
  | _ + 1, [], _, _, h => by cases h
  | f + 1, b :: t, _, r', h => by
    rw [untilBreak] at h
    by_cases hb : b = 0xff
    · rw [if_pos hb] at h; cases h; rw [hb]; exact .nil _
    · rw [if_neg hb] at h
      obtain ⟨a, r, e1, e2⟩ := Res.andThen_eq_ok h
      obtain ⟨ys, e3, rfl⟩ := Res.map_eq_ok e2
      exact .cons e1 (untilBreak_run f r ys r' e3)

theorem iterCollect_run {α : Type} {elem : P α} {len : Option Nat} {cur r' : Bytes} {xs : List α}
    (h : iterCollect elem len cur = .ok xs r') : ∃ r, Run elem cur xs r := by
  cases len with
  | some n => exact ⟨_, (repeatN_run n cur xs r' h).1⟩
  | none => exact ⟨_, untilBreak_run _ cur xs r' h⟩

section
variable (st : SkipSt) (b : UInt8) (r : Bytes)

theorem skipArm_uint (h : b.toNat ≤ 0x1b) :
    skipArm st (b :: r) = (u64 (b :: r)).map fun _ => (st, true) := by
  simp only [skipArm]; rw [if_pos h]

theorem skipArm_nint (h : 0x20 ≤ b.toNat ∧ b.toNat ≤ 0x3b) :
    skipArm st (b :: r) = (int (b :: r)).map fun _ => (st, true) := by
  simp only [skipArm]; rw [if_neg (by omega), if_pos h]

theorem skipArm_bytes (h : 0x40 ≤ b.toNat ∧ b.toNat ≤ 0x5f) :
    skipArm st (b :: r) = (bytesIter (b :: r)).map fun _ => (st, true) := by
  simp only [skipArm]; rw [if_neg (by omega), if_neg (by omega), if_pos h]

theorem skipArm_text (h : 0x60 ≤ b.toNat ∧ b.toNat ≤ 0x7f) :
    skipArm st (b :: r) = (strIter (b :: r)).map fun _ => (st, true) := by
  simp only [skipArm]; rw [if_neg (by omega), if_neg (by omega), if_neg (by omega), if_pos h]

theorem skipArm_array (h : 0x80 ≤ b.toNat ∧ b.toNat ≤ 0x9f) :
    skipArm st (b :: r) = (array (b :: r)).map fun l =>
      match l with
      | some n => (skipDef st n, true)
      | none => (skipIndef st, true) := by
  simp only [skipArm]; rw [if_neg (by omega), if_neg (by omega), if_neg (by omega), if_neg (by omega), if_pos h]
  rfl

theorem skipArm_map (h : 0xa0 ≤ b.toNat ∧ b.toNat ≤ 0xbf) :
    skipArm st (b :: r) = (Minicbor.map (b :: r)).map fun l =>
      match l with
      | some n => (skipDef st (satMul n 2), true)
      | none => (skipIndef st, true) := by
  simp only [skipArm]
  rw [if_neg (by omega), if_neg (by omega), if_neg (by omega), if_neg (by omega), if_neg (by omega), if_pos h]
  rfl

theorem skipArm_tag (h : 0xc0 ≤ b.toNat ∧ b.toNat ≤ 0xdb) :
    skipArm st (b :: r) = (unsigned (info b) r).map fun _ => (st, false) := by
  simp only [skipArm]
  rw [if_neg (by omega), if_neg (by omega), if_neg (by omega), if_neg (by omega), if_neg (by omega), if_neg (by omega),
    if_pos h]

theorem skipArm_simple (h : 0xe0 ≤ b.toNat ∧ b.toNat ≤ 0xfb) :
    skipArm st (b :: r) = (unsigned (info b) r).map fun _ => (st, true) := by
  simp only [skipArm]
  rw [if_neg (by omega), if_neg (by omega), if_neg (by omega), if_neg (by omega), if_neg (by omega), if_neg (by omega),
    if_neg (by omega), if_pos h]

end

theorem skipArm_takes (st : SkipSt) : ∀ cur, (skipArm st cur).Takes 1 cur
  | [] => .err nofun
  | b :: r =>
    -- one `.ite` per test of `skipArm`, in its order; the innermost is the `if` inside the break arm
    .ite (.map _ (uintN_takes 64 _)) (.ite (.map _ (int_takes _))
    (.ite (.map _ (bytesIter_takes _)) (.ite (.map _ (strIter_takes _))
    (.ite (.map _ (seqHead_takes 4 _)) (.ite (.map _ (seqHead_takes 5 _))
    (.ite (.cons b (.map _ (unsigned_takes _ r))) (.ite (.cons b (.map _ (unsigned_takes _ r)))
    (.ite (.ite (by split <;> exact .cons b (.ok _)) (.cons b (.ok _))) (.err nofun)))))))))

/-- unless the loop is over on entry it consumes input: hence the `k` that depends on the state -/
theorem skipLoop_takes : ∀ fuel st cur, cur.length + 1 ≤ fuel →
    (skipLoop fuel st cur).Takes (if st.nrounds = 0 ∧ st.irounds = 0 ∧ st.stack = [] then 0 else 1) cur
  | 0, _, _, hf => absurd hf (Nat.not_succ_le_zero _)
  | f + 1, st, cur, hf => by
    unfold skipLoop
    split
    · exact .ok ()
    · refine .andThen_shorter (j := 0) (skipArm_takes st cur) fun (st', post) c hc => ?_
      have ih := fun st'' => (skipLoop_takes f st'' c (by omega)).weaken
      refine .ite ?_ (ih _)
      split
      · exact .ok ()
      · exact ih _

theorem skip_takes (cur : Bytes) : (skip cur).Takes 1 cur := skipLoop_takes _ ⟨1, 0, []⟩ cur (Nat.le_refl _)

theorem skip_consumes : Consumes skip := .of_takes skip_takes

end PallasVerif.Minicbor
