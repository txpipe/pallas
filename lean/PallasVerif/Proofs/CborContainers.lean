import PallasVerif.Proofs.CborWrappers
/-!
  The sequence-shaped wrappers (`MaybeIndefArray`, `KeyValuePairs`, `Vec`, `Set`) all read a head of major `m` and then the
  elements: `seqOf m elem` (`vec` and `mapIter` are its instances). It is read back on what the encoders write (definite
  form: the element codec round-trips; indefinite form: it also never starts with the break byte, `ElemOK`) and inverted
  (`seq_inv`); only under `minimalSeqHead` does a definite head determine its bytes. `OrderPreservingProperties` is not an
  instance (it takes an indefinite head for length 0 and never runs the break-terminated loop): `opp_rt` shares the counted
  loop only. At the end the arm search of `codec_by_datatype!`. The other laws of the wrappers are proved in `Props/C03`.
-/
namespace PallasVerif.Wrappers
open PallasVerif.Cbor PallasVerif.Minicbor

/-- what the break-terminated loop needs from its element codec: round trip, and no encoding starts with the break byte
    (true of every CBOR data item); the counted loop needs the round trip only -/
structure ElemOK {α : Type} (c : Codec α) (wf : α → Prop) : Prop where
  rt : RTon c wf
  nonbreak : ∀ a, wf a → ∃ b t, c.enc a = b :: t ∧ b ≠ 0xff

theorem concatMap_append {α : Type} (f : α → Bytes) (xs ys : List α) :
    concatMap f (xs ++ ys) = concatMap f xs ++ concatMap f ys := by
  induction xs with
  | nil => rfl
  | cons x xs ih => simp [concatMap, ih]

theorem repeatN_enc {α : Type} (c : Codec α) (wf : α → Prop) (h : RTon c wf) (xs : List α)
    (hx : ∀ x ∈ xs, wf x) (r : Bytes) :
    repeatN c.dec xs.length (concatMap c.enc xs ++ r) = .ok xs r := by
  induction xs with
  | nil => simp [repeatN, concatMap]
  | cons x xs ih =>
    obtain ⟨hx0, hxs⟩ := List.forall_mem_cons.mp hx
    have h1 := h x hx0 (concatMap c.enc xs ++ r)
    have h2 := ih hxs
    simp only [List.length_cons, repeatN, concatMap, List.append_assoc, h1, Res.andThen_ok, h2, Res.map_ok]

/-- every element takes at least a byte (`nonbreak`), so fuel that covers the input, a unit per byte, covers the rounds -/
theorem untilBreak_enc {α : Type} (c : Codec α) (wf : α → Prop) (h : ElemOK c wf) (xs : List α)
    (hx : ∀ x ∈ xs, wf x) (r : Bytes) (fuel : Nat) (hf : (concatMap c.enc xs ++ 0xff :: r).length + 1 ≤ fuel) :
    untilBreak c.dec fuel (concatMap c.enc xs ++ 0xff :: r) = .ok xs r := by
  induction xs generalizing fuel with
  | nil =>
    cases fuel with
    | zero => omega
    | succ f => simp [untilBreak, concatMap]
  | cons x xs ih =>
    cases fuel with
    | zero => omega
    | succ f =>
      obtain ⟨hx0, hxs⟩ := List.forall_mem_cons.mp hx
      obtain ⟨b, t, e, hne⟩ := h.nonbreak x hx0
      have h1 := h.rt x hx0 (concatMap c.enc xs ++ 0xff :: r)
      rw [concatMap, List.append_assoc] at hf ⊢
      rw [e, List.cons_append] at h1 hf ⊢
      rw [untilBreak, if_neg hne, h1, Res.andThen_ok, ih hxs f (by simp at hf ⊢; omega)]
      rfl

theorem _root_.PallasVerif.Minicbor.Run.pres {α : Type} {c : Codec α} (hc : Pres c) {cur r : Bytes} {xs : List α}
    (h : Run c.dec cur xs r) : concatMap c.enc xs ++ r = cur := by
  induction h with
  | nil => rfl
  | cons e _ ih => rw [concatMap, List.append_assoc, ih, hc _ _ _ e]

/-- `vec elem` is `seqOf 4 elem` and `mapIter k v` is `seqOf 5 (pairOf k v)`, by unfolding -/
def seqOf {α : Type} (m : Nat) (elem : P α) : P (List α) := fun cur =>
  (seqHead m cur).andThen fun len r => iterCollect elem len r

/-- an input's sequence head (major `m`) is the shortest encoding of its length, or it is not a
    definite sequence head at all -/
def minimalSeqHead (m : Nat) (bs : Bytes) : Bool :=
  match seqHead m bs with
  | .ok (some n) r => bs == encHead m n ++ r
  | _ => true

theorem eq_of_minimalSeqHead {m n : Nat} {bs r : Bytes} (hmin : minimalSeqHead m bs = true)
    (h : seqHead m bs = .ok (some n) r) : bs = encHead m n ++ r := by
  unfold minimalSeqHead at hmin
  rw [h] at hmin
  exact eq_of_beq hmin

theorem seq_enc_def {α : Type} (m : Nat) (hm : m < 8) (c : Codec α) (wf : α → Prop) (h : RTon c wf) (xs : List α)
    (hx : ∀ x ∈ xs, wf x) (hl : xs.length < 2 ^ 64) (r : Bytes) :
    seqOf m c.dec (encHead m xs.length ++ (concatMap c.enc xs ++ r)) = .ok xs r := by
  rw [seqOf, seqHead_enc m _ _ hm hl]
  exact repeatN_enc c wf h xs hx r

theorem seq_enc_indef {α : Type} (m : Nat) (hm : m < 8) (c : Codec α) (wf : α → Prop) (h : ElemOK c wf) (xs : List α)
    (hx : ∀ x ∈ xs, wf x) (r : Bytes) :
    seqOf m c.dec (initByte m 31 :: (concatMap c.enc xs ++ 0xff :: r)) = .ok xs r := by
  rw [seqOf, seqHead_indef m hm]
  exact untilBreak_enc c wf h xs hx r _ (Nat.le_refl _)

/-- `tyD`, `tyI` are what `datatype()` reports at a definite / the indefinite head of major `m` (`hD`, `hI`): a wrapper
    that dispatched on the datatype discards with it the case that is not its own. A definite head may have any width, so
    the second case gives no equation for `bs`; `eq_of_minimalSeqHead` gives one, which is why the `*_preserves_partial`
    of C03 assume `minimalSeqHead`. -/
theorem seq_inv {α : Type} (m : Nat) (tyD tyI : DType)
    (hD : ∀ cur b, m * 32 ≤ b.toNat → b.toNat ≤ m * 32 + 27 → typeOf cur b = .ok tyD)
    (hI : ∀ t, datatype (initByte m 31 :: t) = .ok tyI)
    (c : Codec α) (hc : Pres c) (bs : Bytes) (xs : List α) (r : Bytes)
    (h : seqOf m c.dec bs = .ok xs r) :
    (datatype bs = .ok tyI ∧ bs = initByte m 31 :: (concatMap c.enc xs ++ 0xff :: r)) ∨
    (datatype bs = .ok tyD ∧ seqHead m bs = .ok (some xs.length) (concatMap c.enc xs ++ r)) := by
  obtain ⟨len, r1, e1, e2⟩ := Res.andThen_eq_ok h
  cases bs with
  | nil => cases e1
  | cons b t =>
    obtain ⟨hm, ⟨rfl, h31, ht⟩ | ⟨hne, h27⟩⟩ := seqHead_inv m b t len r1 e1
    · have e : b :: t = initByte m 31 :: (concatMap c.enc xs ++ 0xff :: r) := by
        rw [ht] at e2
        rw [← (untilBreak_run _ _ _ _ e2).pres hc, ← initByte_of_byte b, hm, h31]
      exact .inl ⟨by rw [e]; exact hI _, e⟩
    · cases len with
      | none => exact absurd rfl hne
      | some n =>
        obtain ⟨hr, h2⟩ := repeatN_run n r1 xs r e2
        exact .inr ⟨hD _ b (by omega) (by omega), hr.pres hc ▸ h2 ▸ e1⟩

def MaybeIndef.wfWith {α : Type} (wf : α → Prop) (v : MaybeIndef α) : Prop :=
  (∀ x ∈ v.items, wf x) ∧ v.items.length < 2 ^ 64

theorem vec_enc_def {α : Type} (c : Codec α) (wf : α → Prop) (h : RTon c wf) (xs : List α)
    (hx : ∀ x ∈ xs, wf x) (hl : xs.length < 2 ^ 64) (r : Bytes) :
    vec c.dec (encVec c.enc xs ++ r) = .ok xs r := by
  rw [encVec, List.append_assoc]
  exact seq_enc_def 4 (by omega) c wf h xs hx hl r

/-- the element of a map iteration -/
def cEntry {κ ν : Type} (k : Codec κ) (v : Codec ν) : Codec (κ × ν) :=
  ⟨fun p => k.enc p.1 ++ v.enc p.2, pairOf k.dec v.dec⟩

theorem entry_ok {κ ν : Type} (k : Codec κ) (v : Codec ν) (wk : κ → Prop) (wv : ν → Prop)
    (hk : ElemOK k wk) (hv : RTon v wv) : ElemOK (cEntry k v) (fun p => wk p.1 ∧ wv p.2) := by
  constructor
  · intro p ⟨h1, h2⟩ r
    simp [cEntry, pairOf, List.append_assoc, hk.rt p.1 h1, hv p.2 h2]
  · intro p ⟨h1, _⟩
    obtain ⟨b, t, e, hne⟩ := hk.nonbreak p.1 h1
    exact ⟨b, t ++ v.enc p.2, by simp [cEntry, e], hne⟩

theorem entry_pres {κ ν : Type} (k : Codec κ) (v : Codec ν) (hk : Pres k) (hv : Pres v) : Pres (cEntry k v) := by
  intro bs p r h
  simp only [cEntry, pairOf] at h
  obtain ⟨a, r1, e1, e2⟩ := Res.andThen_eq_ok h
  obtain ⟨b, e3, rfl⟩ := Res.map_eq_ok e2
  have h1 := hk bs a r1 e1
  have h2 := hv r1 b r e3
  simp [cEntry, List.append_assoc, h2, h1]

theorem encPairs_eq {κ ν : Type} (k : Codec κ) (v : Codec ν) (xs : List (κ × ν)) :
    encPairs k.enc v.enc xs = concatMap (cEntry k v).enc xs := rfl

/-- what the encoders write for the indefinite forms, in the shape `seq_enc_indef` and `seq_inv` speak -/
theorem MaybeIndef.enc_indef {α : Type} (c : Codec α) (xs : List α) (r : Bytes) :
    MaybeIndef.enc c (.indef xs) ++ r = initByte 4 31 :: (concatMap c.enc xs ++ 0xff :: r) := by
  simp [MaybeIndef.enc, encBeginArray, encEnd, initByte]

theorem KVP.enc_indef {κ ν : Type} (k : Codec κ) (v : Codec ν) (xs : List (κ × ν)) (r : Bytes) :
    KVP.enc k v (.indef xs) ++ r = initByte 5 31 :: (concatMap (cEntry k v).enc xs ++ 0xff :: r) := by
  simp [KVP.enc, encBeginMap, encEnd, initByte, encPairs_eq]

def KVP.wfWith {κ ν : Type} (wk : κ → Prop) (wv : ν → Prop) (m : KVP κ ν) : Prop :=
  (∀ p ∈ m.items, wk p.1 ∧ wv p.2) ∧ m.items.length < 2 ^ 64

theorem opp_rt {α : Type} (p : Codec α) (wf : α → Prop) (h : RTon p wf) :
    RTon (cOPP p) (fun xs => (∀ x ∈ xs, wf x) ∧ xs.length < 2 ^ 64) := by
  intro xs ⟨hx, hl⟩ r
  simp [cOPP, OPP.enc, OPP.dec, List.append_assoc, map_enc _ _ hl, repeatN_enc p wf h xs hx r]

theorem u64_rt : RTon cU64 (fun n => n < 2 ^ 64) := fun n hn r => u64_enc n r hn

/-- the macro's arm search is `List.find?` over the arms' datatype sets -/
theorem byDatatypeArms_eq_find {γ : Type} (arms : List (Arm γ)) (t : DType) :
    byDatatypeArms arms t = match arms.find? (·.types t) with
      | some a => a.dec
      | none => fun _ => .err .msg := by
  induction arms with
  | nil => rfl
  | cons x xs ih => rw [byDatatypeArms, List.find?_cons, ih]; cases x.types t <;> rfl

theorem byDatatypeArms_select {γ : Type} (arms : List (Arm γ)) (t : DType) (k : Nat) (a : Arm γ)
    (hk : arms[k]? = some a) (hsel : a.types t = true)
    (hfirst : ∀ j, j < k → ∀ b, arms[j]? = some b → b.types t = false) :
    byDatatypeArms arms t = a.dec := by
  obtain ⟨hlt, e⟩ := List.getElem?_eq_some_iff.mp hk
  have : arms.find? (·.types t) = some a := List.find?_eq_some_iff_getElem.mpr ⟨hsel, k, hlt, e, fun j hj => by
    rw [hfirst j hj _ (List.getElem?_eq_getElem _)]; rfl⟩
  rw [byDatatypeArms_eq_find, this]

/-- no arm matches: the macro's `_ => Err(message)` -/
theorem byDatatypeArms_none {γ : Type} (arms : List (Arm γ)) (t : DType) (h : ∀ b ∈ arms, b.types t = false) (cur : Bytes) :
    byDatatypeArms arms t cur = .err .msg := by
  rw [byDatatypeArms_eq_find, List.find?_eq_none.mpr fun b hb => by simp [h b hb]]

def Thing.wf : Thing → Prop
  | .coin a => a.wf
  | .flag _ => True
  | .blob b => b.length < 2 ^ 64
  | .multi a n => a.wf ∧ Nullable.wfWith (fun x => x < 2 ^ 64) n

end PallasVerif.Wrappers
