import PallasVerif.Model.Reassembly
import PallasVerif.Proofs.Codec
/-!
# C21 — Message reassembly is independent of segment boundaries

`Model/Reassembly.lean` transcribes the two receive paths: network1 `ChannelBuffer::recv_full_msg`
(+ `try_decode_message`) and network2 `BearerReadHalf::read_full_msgs` (+ `try_decode_msg`,
`AnyMessage::from_payload` dispatch, per-channel partial buffers keyed by `channel & !0x8000`), both
generic in the message decoder.

`Good D dec enc` is what the property needs from a codec, on the messages in its domain `D`: **RT + no look-ahead** (`dec (enc m ++ r)`
returns `m` and consumes exactly `|enc m|` bytes whatever follows), **prefix-eoi** (every proper
prefix of an encoding is an end-of-input error, never another error), encodings are non-empty,
and the empty buffer is end-of-input.

Proved for any message list and any split of the concatenated encodings into chunks (empty and one-byte
chunks included), with no bound on lengths: `reassembly_network1`, with `reassembly_network1_progress` and
`recv_after_all_blocks` (no further chunk is needed to get the last message out, and the next call blocks with
an empty buffer; `skipping_loop_stalls` shows a loop that skips a decode attempt after a full-size chunk violates
this), and `reassembly_network2`. `Good` is proved of the keep-alive, block-fetch and node-to-node chain-sync
codecs of both stacks (`good_keepalive`, `good_blockfetch`, `good_chainsync`; modelled over minicbor's
primitives and tied by the `kdec`, `bfdec`/`bfenc`, `csdec`/`csenc` ops of the stream), which gives the instances
that assume nothing of the codec (only that the messages are in its domain), and of a synthetic length-prefixed codec
(`good_lenCodec`).

What is **not** proved: that the *other* pallas message decoders satisfy `Good`. Nothing in the
development yields it (C22's `Good` is another notion: over the `NetCodec` decoders, without the
prefix clause). The correspondence stream replays real protocol messages of both stacks through the
real receive paths at every split and through this model with a "one well-formed CBOR item" decoder.
-/
namespace PallasVerif.Props.C21
open PallasVerif.Reassembly

variable {M : Type} {D : M → Prop}

/-- what reassembly needs from a codec, on the messages satisfying `D` (size limits of the wire
    format: `u64` fields, lengths below `2^64`; `fun _ => True` when there are none) -/
structure Good (D : M → Prop) (dec : Decoder M) (enc : M → Bytes) : Prop where
  rt : ∀ m, D m → ∀ r, dec (enc m ++ r) = .ok m (enc m).length
  pfx : ∀ m, D m → ∀ p, p <+: enc m → p ≠ enc m → dec p = .eoi
  nonempty : ∀ m, D m → enc m ≠ []
  /-- follows from `pfx` and `nonempty` once some message is in `D`; a field because `recv_after_all_blocks` and the
      end of the stream in `drain_spec` have no message at hand -/
  empty : dec [] = .eoi

def encAll (enc : M → Bytes) (msgs : List M) : Bytes := (msgs.map enc).flatten

theorem drop_left_len (e r : Bytes) : (e ++ r).drop e.length = r := List.drop_left' rfl

/-- a buffer that starts the encoding of `m`: either it holds all of it, and both stacks' decode
    attempts return `m` and what follows, or it is too short and both ask for more -/
theorem decode_split {dec : Decoder M} {enc : M → Bytes} (h : Good D dec enc) (m : M) (hm : D m) {a x R : Bytes}
    (heq : a ++ x = enc m ++ R) :
    (∃ r1, a = enc m ++ r1 ∧ r1 ++ x = R ∧ tryDecode dec a = .msg m r1 ∧ tryDecode2 dec a = some (m, r1)) ∨
    (a.length < (enc m).length ∧ tryDecode dec a = .needMore ∧ tryDecode2 dec a = none) := by
  rcases Proofs.Codec.prefix_append_cases ⟨x, heq⟩ with ⟨hp, hl⟩ | ⟨r1, rfl, _⟩
  · have hd := h.pfx m hm a hp fun e => Nat.lt_irrefl _ (e ▸ hl)
    exact Or.inr ⟨hl, by simp [tryDecode, hd], by simp [tryDecode2, hd]⟩
  · exact Or.inl ⟨r1, rfl, by simpa using heq, by simp [tryDecode, h.rt m hm r1], by simp [tryDecode2, h.rt m hm r1]⟩

/-! ## network1: `recv_full_msg`, one message per call -/

theorem recvLoop_spec {dec : Decoder M} {enc : M → Bytes} (h : Good D dec enc) (m : M) (hm : D m)
    (R : Bytes) :
    ∀ (chunks : List Bytes) (temp : Bytes), temp ++ chunks.flatten = enc m ++ R →
      temp.length < (enc m).length →
      ∃ t' c', recvLoop dec temp chunks = .msg m t' c' ∧ t' ++ c'.flatten = R := by
  intro chunks
  induction chunks with
  | nil =>
    intro temp heq hlt
    have := congrArg List.length heq
    simp only [List.flatten_nil, List.append_nil, List.length_append] at this
    omega
  | cons chunk cs ih =>
    intro temp heq hlt
    have heq' : (temp ++ chunk) ++ cs.flatten = enc m ++ R := by
      simpa [List.flatten_cons, List.append_assoc] using heq
    rcases decode_split h m hm heq' with ⟨r1, _, h2, hd, _⟩ | ⟨hl', hd, _⟩
    · exact ⟨r1, cs, by simp only [recvLoop, hd], h2⟩
    · simp only [recvLoop, hd]
      exact ih (temp ++ chunk) heq' hl'

/-- the bytes kept from the last call are one more chunk in front of the queue: `recv_full_msg` tries them first,
    as its loop does with every chunk (an empty buffer is skipped, and asks for more if tried) -/
theorem recvFullMsg_eq {dec : Decoder M} (h0 : dec [] = .eoi) (temp : Bytes) (chunks : List Bytes) :
    recvFullMsg dec temp chunks = recvLoop dec [] (temp :: chunks) := by
  unfold recvFullMsg
  cases temp with
  | nil => simp only [List.isEmpty_nil, if_true, recvLoop, List.append_nil, tryDecode, h0]
  | cons b t => rfl

theorem recvFullMsg_spec {dec : Decoder M} {enc : M → Bytes} (h : Good D dec enc) (m : M) (hm : D m)
    (R : Bytes) (temp : Bytes) (chunks : List Bytes) (heq : temp ++ chunks.flatten = enc m ++ R) :
    ∃ t' c', recvFullMsg dec temp chunks = .msg m t' c' ∧ t' ++ c'.flatten = R := by
  rw [recvFullMsg_eq h.empty]
  exact recvLoop_spec h m hm R (temp :: chunks) [] heq (List.length_pos_iff.2 (h.nonempty m hm))

/-- `t ++ c.flatten = []`: no byte is left, in `temp` or in a chunk -/
theorem recvN_spec {dec : Decoder M} {enc : M → Bytes} (h : Good D dec enc) :
    ∀ (msgs : List M), (∀ m ∈ msgs, D m) → ∀ (temp : Bytes) (chunks : List Bytes),
      temp ++ chunks.flatten = encAll enc msgs →
      ∃ t c, recvN dec msgs.length temp chunks = some (msgs, t, c) ∧ t ++ c.flatten = [] := by
  intro msgs
  induction msgs with
  | nil =>
    intro _ temp chunks heq
    exact ⟨temp, chunks, rfl, by simpa [encAll] using heq⟩
  | cons m ms ih =>
    intro hD temp chunks heq
    have heq' : temp ++ chunks.flatten = enc m ++ encAll enc ms := by
      simpa [encAll] using heq
    obtain ⟨t', c', h1, h2⟩ :=
      recvFullMsg_spec h m (hD m (List.mem_cons_self ..)) _ temp chunks heq'
    obtain ⟨t, c, h3, h4⟩ := ih (fun x hx => hD x (List.mem_cons_of_mem _ hx)) t' c' h2
    refine ⟨t, c, ?_, h4⟩
    simp only [List.length_cons, recvN, h1, h3]

/-- **network1.** For any messages and any split of their concatenated encodings into chunks,
    `msgs.length` calls of `recv_full_msg` return exactly the messages, in order; afterwards `temp` is
    empty and every chunk still queued is empty (no left-over bytes). -/
theorem reassembly_network1 {dec : Decoder M} {enc : M → Bytes} (h : Good D dec enc) (msgs : List M)
    (hD : ∀ m ∈ msgs, D m) (splits : List Bytes) (hs : splits.flatten = encAll enc msgs) :
    ∃ c, recvN dec msgs.length [] splits = some (msgs, [], c) ∧ c.flatten = [] := by
  obtain ⟨t, c, h1, h2⟩ := recvN_spec h msgs hD [] splits (by simpa using hs)
  obtain ⟨rfl, hc⟩ := List.append_eq_nil_iff.1 h2
  exact ⟨c, h1, hc⟩

/-- once every byte has been consumed, a further `recv_full_msg` finds nothing and waits: `blocked` with
    an empty buffer (it neither invents a message nor fails) -/
theorem recv_after_all_blocks {dec : Decoder M} {enc : M → Bytes} (h : Good D dec enc) :
    ∀ c : List Bytes, c.flatten = [] → recvFullMsg dec [] c = .blocked [] := by
  intro c
  -- with nothing kept, `recv_full_msg` is its loop
  show _ → recvLoop dec [] c = _
  induction c with
  | nil => intro _; rfl
  | cons x xs ih =>
    intro hc
    obtain ⟨rfl, hxs⟩ := List.append_eq_nil_iff.1 (List.flatten_cons ▸ hc)
    simp only [recvLoop, List.append_nil, tryDecode, h.empty]
    exact ih hxs

/-- **network1, with progress.** `reassembly_network1` (the chunks of `msgs` alone make `msgs.length` calls return
    exactly `msgs`: a complete message is never left waiting in the buffer, whatever the size of the chunk that
    completed it) together with `recv_after_all_blocks`: the call after that blocks with an empty buffer. -/
theorem reassembly_network1_progress {dec : Decoder M} {enc : M → Bytes} (h : Good D dec enc)
    (msgs : List M) (hD : ∀ m ∈ msgs, D m) (splits : List Bytes)
    (hs : splits.flatten = encAll enc msgs) :
    ∃ c, recvN dec msgs.length [] splits = some (msgs, [], c) ∧ recvFullMsg dec [] c = .blocked [] := by
  obtain ⟨c, h1, h2⟩ := reassembly_network1 h msgs hD splits hs
  exact ⟨c, h1, recv_after_all_blocks h c h2⟩

/-! ## network2: `read_full_msgs` drains each segment, channel by channel -/

/-- the invariant of a channel of network2: its buffer followed by what is still to come encodes `ms`, and the buffer
    holds no complete message (`read_full_msgs` drains) -/
def Pending (enc : M → Bytes) (buffered future : Bytes) (ms : List M) : Prop :=
  buffered ++ future = encAll enc ms ∧ (ms = [] ∨ ∃ m ms', ms = m :: ms' ∧ buffered.length < (enc m).length)

/-- the `while let Some(..) = from_payload(..)` loop delivers every complete message of the payload
    and leaves exactly the incomplete tail -/
theorem drain_spec {dec : Decoder M} {enc : M → Bytes} (h : Good D dec enc) :
    ∀ (ms : List M), (∀ m ∈ ms, D m) → ∀ (payload future : Bytes) (fuel : Nat),
      payload ++ future = encAll enc ms → payload.length < fuel →
      ∃ ms1 ms2, ms = ms1 ++ ms2 ∧ (drain dec fuel payload).1 = ms1 ∧
        Pending enc (drain dec fuel payload).2 future ms2 := by
  intro ms
  induction ms with
  | nil =>
    intro _ payload future fuel heq hf
    obtain ⟨rfl, rfl⟩ : payload = [] ∧ future = [] := by simpa [encAll] using heq
    cases fuel with
    | zero => omega
    | succ f =>
      refine ⟨[], [], rfl, ?_, ?_, Or.inl rfl⟩
      · simp [drain, tryDecode2, h.empty]
      · simp only [drain, tryDecode2, h.empty]; rfl
  | cons m ms ih =>
    intro hD payload future fuel heq hf
    have hm : D m := hD m (List.mem_cons_self ..)
    have hD' : ∀ x ∈ ms, D x := fun x hx => hD x (List.mem_cons_of_mem _ hx)
    have heq' : payload ++ future = enc m ++ encAll enc ms := by simpa [encAll] using heq
    cases fuel with
    | zero => omega
    | succ f =>
      rcases decode_split h m hm heq' with ⟨r1, h1, h2, _, hd⟩ | ⟨hl', _, hd⟩
      · have hpos : 0 < (enc m).length := List.length_pos_iff.2 (h.nonempty m hm)
        have hf' : r1.length < f := by
          have := congrArg List.length h1; simp only [List.length_append] at this; omega
        obtain ⟨ms1, ms2, e1, e2, e3, e4⟩ := ih hD' r1 future f h2 hf'
        simp only [drain, hd]
        exact ⟨m :: ms1, ms2, by simp [e1], by simp [e2], e3, e4⟩
      · simp only [drain, hd]
        exact ⟨[], m :: ms, rfl, rfl, heq, Or.inr ⟨m, ms, rfl, hl'⟩⟩

/-- channel key of a segment: `raw_channel & !PROTOCOL_SERVER` -/
def keyOf (seg : UInt16 × Bytes) : UInt16 := seg.1 &&& ~~~PROTOCOL_SERVER

/-- the bytes arriving on channel `c`, segment after segment -/
def bytesOn (c : UInt16) (segs : List (UInt16 × Bytes)) : Bytes :=
  ((segs.filter fun s => keyOf s = c).map (·.2)).flatten

/-- the messages delivered on channel `c`, in order -/
def msgsOn (c : UInt16) (out : List (UInt16 × M)) : List M :=
  (out.filter fun x => x.1 = c).map (·.2)

/-- the partial buffer of channel `c` (empty if there is none) -/
def partialOf (p : UInt16 → Option Bytes) (c : UInt16) : Bytes := (p c).getD []

/-- the model spells the channel key out; the proofs speak of `keyOf` -/
theorem keyOf_eq (seg : UInt16 × Bytes) : seg.1 &&& ~~~PROTOCOL_SERVER = keyOf seg := rfl

theorem setPartial_same (f : UInt16 → Option Bytes) (k : UInt16) (v : Option Bytes) : setPartial f k v k = v := by
  simp [setPartial]

theorem setPartial_other (f : UInt16 → Option Bytes) {k c : UInt16} (v : Option Bytes) (h : k ≠ c) :
    setPartial f k v c = f c := by
  have : ¬ c = k := fun e => h e.symm
  simp [setPartial, this]

theorem readFullMsgs_other (tbl : Table M) (p : UInt16 → Option Bytes) (seg : UInt16 × Bytes)
    (c : UInt16) (hc : keyOf seg ≠ c) : (readFullMsgs tbl p seg).2 c = p c := by
  have hc' : seg.1 &&& ~~~PROTOCOL_SERVER ≠ c := hc
  unfold readFullMsgs
  simp only
  cases tbl (seg.1 &&& ~~~PROTOCOL_SERVER) with
  | none => exact setPartial_other _ _ hc'
  | some dec =>
    simp only
    split <;> (split <;> simp [setPartial_other _ _ hc'])

theorem readFullMsgs_same (tbl : Table M) (dec : Decoder M) (p : UInt16 → Option Bytes)
    (seg : UInt16 × Bytes) (c : UInt16) (hc : keyOf seg = c) (ht : tbl c = some dec) :
    (readFullMsgs tbl p seg).1 =
        (drain dec ((partialOf p c ++ seg.2).length + 1) (partialOf p c ++ seg.2)).1 ∧
    partialOf (readFullMsgs tbl p seg).2 c =
        (drain dec ((partialOf p c ++ seg.2).length + 1) (partialOf p c ++ seg.2)).2 := by
  unfold readFullMsgs
  simp only [keyOf_eq, hc, ht]
  -- with or without bytes kept from earlier segments, the same argument
  cases hp : p c
  all_goals
    simp only [partialOf, hp, Option.getD_none, Option.getD_some, List.nil_append]
    split
    · rename_i he
      exact ⟨rfl, by simp only [setPartial_same, Option.getD_none]; exact (List.isEmpty_iff.1 he).symm⟩
    · exact ⟨rfl, by simp only [setPartial_same, Option.getD_some]⟩

/-- `readAll` on one more segment, in terms of its channel key -/
theorem readAll_cons (tbl : Table M) (p : UInt16 → Option Bytes) (seg : UInt16 × Bytes) (segs : List (UInt16 × Bytes)) :
    readAll tbl p (seg :: segs) =
      (((readFullMsgs tbl p seg).1.map fun m => (keyOf seg, m)) ++ (readAll tbl (readFullMsgs tbl p seg).2 segs).1,
        (readAll tbl (readFullMsgs tbl p seg).2 segs).2) := rfl

theorem msgsOn_append (c : UInt16) (a b : List (UInt16 × M)) :
    msgsOn c (a ++ b) = msgsOn c a ++ msgsOn c b := by
  simp [msgsOn, List.filter_append]

theorem msgsOn_tag (c k : UInt16) (l : List M) :
    msgsOn c (l.map fun m => (k, m)) = if k = c then l else [] := by
  by_cases hk : k = c <;> simp [msgsOn, List.filter_map, Function.comp_def, hk]

/-- an unfinished stream: whatever is still to come on `c`, the messages yielded so far are an initial
    part of `ms`, and the partial buffer of `c` followed by what is to come encodes the others -/
theorem reassembly_network2_stream {tbl : Table M} {dec : Decoder M} {enc : M → Bytes} (c : UInt16)
    (ht : tbl c = some dec) (h : Good D dec enc) (future : Bytes) :
    ∀ (segs : List (UInt16 × Bytes)) (p : UInt16 → Option Bytes) (ms : List M), (∀ m ∈ ms, D m) →
      Pending enc (partialOf p c) (bytesOn c segs ++ future) ms →
      ∃ ms1 ms2, ms = ms1 ++ ms2 ∧ msgsOn c (readAll tbl p segs).1 = ms1 ∧
        Pending enc (partialOf (readAll tbl p segs).2 c) future ms2 := by
  intro segs
  induction segs with
  | nil =>
    intro p ms _ hp
    exact ⟨[], ms, rfl, rfl, hp⟩
  | cons seg segs ih =>
    intro p ms hD ⟨heq, hd⟩
    by_cases hk : keyOf seg = c
    · have hb : bytesOn c (seg :: segs) = seg.2 ++ bytesOn c segs := by
        simp [bytesOn, hk]
      rw [hb, List.append_assoc, ← List.append_assoc] at heq
      obtain ⟨e1, e2⟩ := readFullMsgs_same tbl dec p seg c hk ht
      obtain ⟨ms1, ms2, rfl, d1, d2, d3⟩ :=
        drain_spec h ms hD (partialOf p c ++ seg.2) (bytesOn c segs ++ future)
          ((partialOf p c ++ seg.2).length + 1) heq (Nat.lt_succ_self _)
      rw [← e2] at d2 d3
      have hD2 : ∀ m ∈ ms2, D m := fun x hx => hD x (List.mem_append_right _ hx)
      obtain ⟨a, b, rfl, i1, i2⟩ := ih (readFullMsgs tbl p seg).2 ms2 hD2 ⟨d2, d3⟩
      refine ⟨ms1 ++ a, b, (List.append_assoc ..).symm, ?_, i2⟩
      simp only [readAll_cons, msgsOn_append, msgsOn_tag, hk, if_true, i1, e1, d1]
    · have hb : bytesOn c (seg :: segs) = bytesOn c segs := by
        simp [bytesOn, hk]
      rw [hb] at heq
      have hsame : partialOf (readFullMsgs tbl p seg).2 c = partialOf p c := by
        unfold partialOf; rw [readFullMsgs_other tbl p seg c hk]
      rw [← hsame] at heq hd
      obtain ⟨a, b, hab, i1, i2⟩ := ih (readFullMsgs tbl p seg).2 ms hD ⟨heq, hd⟩
      refine ⟨a, b, hab, ?_, i2⟩
      simp only [readAll_cons, msgsOn_append, msgsOn_tag, hk, if_false, List.nil_append, i1]

/-- **network2.** For every supported channel `c` whose decoder is `Good`: if the bytes arriving on
    `c` are the concatenated encodings of `ms`, then — however they are cut into segments (either
    direction bit) and whatever segments of other channels are interleaved on the bearer — starting
    from empty partial buffers the messages yielded on `c` are exactly `ms`, in order, and the
    partial buffer of `c` ends empty (no left-over bytes). -/
theorem reassembly_network2 {tbl : Table M} {dec : Decoder M} {enc : M → Bytes} (c : UInt16)
    (ht : tbl c = some dec) (h : Good D dec enc) (segs : List (UInt16 × Bytes)) (ms : List M)
    (hD : ∀ m ∈ ms, D m) (hs : bytesOn c segs = encAll enc ms) :
    msgsOn c (readAll tbl (fun _ => none) segs).1 = ms ∧
      partialOf (readAll tbl (fun _ => none) segs).2 c = [] := by
  obtain ⟨ms1, ms2, rfl, h1, h2, h3⟩ :=
    reassembly_network2_stream c ht h [] segs (fun _ => none) ms hD ⟨by simpa [partialOf] using hs, by
      cases ms with
      | nil => exact Or.inl rfl
      | cons m ms' =>
        exact Or.inr ⟨m, ms', rfl, List.length_pos_iff.2 (h.nonempty m (hD m (List.mem_cons_self ..)))⟩⟩
  -- at the end of the stream a drained buffer is empty
  rw [List.append_nil] at h2
  rcases h3 with rfl | ⟨m, ms', rfl, hlt⟩
  · exact ⟨by rw [h1, List.append_nil], h2⟩
  · simp [h2, encAll] at hlt
    omega

/-- an unsupported channel never yields a message and keeps no bytes -/
theorem unsupported_channel (tbl : Table M) (p : UInt16 → Option Bytes) (seg : UInt16 × Bytes)
    (hu : tbl (keyOf seg) = none) :
    (readFullMsgs tbl p seg).1 = [] ∧ (readFullMsgs tbl p seg).2 (keyOf seg) = none := by
  unfold readFullMsgs
  simp only [keyOf_eq, hu, setPartial_same, and_self]

/-! ## codecs that are `Good`: a synthetic one (the hypotheses are satisfiable), then three of pallas' -/

/-- messages = byte strings shorter than 256 bytes, encoded as `length ‖ bytes` -/
def LenMsg := { b : Bytes // b.length < 256 }

def lenEnc (m : LenMsg) : Bytes := UInt8.ofNat m.val.length :: m.val

def lenDec : Decoder LenMsg := fun bs =>
  match bs with
  | [] => .eoi
  | n :: rest =>
    if h : n.toNat ≤ rest.length then
      .ok ⟨rest.take n.toNat, by
        have := n.toNat_lt
        simp only [List.length_take]; omega⟩ (1 + n.toNat)
    else .eoi

theorem good_lenCodec : Good (fun _ => True) lenDec lenEnc := by
  refine ⟨?_, ?_, ?_, rfl⟩
  · intro m _ r
    obtain ⟨b, hb⟩ := m
    have hn : (UInt8.ofNat b.length).toNat = b.length := by simp; omega
    simp only [lenEnc, lenDec, List.cons_append, hn, List.length_append, List.length_cons]
    have : b.length ≤ b.length + r.length := by omega
    simp only [this, dite_true]
    congr 1
    · apply Subtype.ext; simp
    · omega
  · intro m _ p hp hne
    obtain ⟨b, hb⟩ := m
    have hn : (UInt8.ofNat b.length).toNat = b.length := by simp; omega
    have hl := Proofs.Codec.prefix_length_lt hp hne
    rcases List.prefix_cons_iff.1 hp with rfl | ⟨xs, rfl, _⟩
    · rfl
    · simp only [lenEnc, List.length_cons] at hl
      have : ¬ b.length ≤ xs.length := by omega
      simp [lenDec, hn, this]
  · intro m _; simp [lenEnc]

theorem reassembly_network1_lenCodec (msgs : List LenMsg) (splits : List Bytes)
    (hs : splits.flatten = encAll lenEnc msgs) :
    ∃ c, recvN lenDec msgs.length [] splits = some (msgs, [], c) ∧ c.flatten = [] :=
  reassembly_network1 good_lenCodec msgs (fun _ _ => trivial) splits hs

/-- `Good` from `Parses`, for a decoder that is its parser's outcome. The encodings are not empty because of `h0`: were
    `enc m = []`, the parser would return `m` on the empty input instead of asking for more. -/
theorem good_of_parses {p : P M} {dec : Decoder M} {enc : M → Bytes} (hdec : ∀ bs, dec bs = (p bs).toDecRes)
    (h : ∀ m, D m → Proofs.Codec.Parses p m (enc m)) (h0 : p [] = .eoi) :
    Good D dec enc :=
  ⟨fun m hm r => by rw [hdec, (h m hm).1 r]; rfl, fun m hm q hq hq' => by rw [hdec, (h m hm).2 q hq (Proofs.Codec.prefix_length_lt hq hq')]; rfl,
    fun m hm e => by have := (h m hm).1 []; rw [e, List.append_nil, h0] at this; contradiction,
    by rw [hdec, h0]; rfl⟩

/-- the keep-alive message codec (`array(2) u16(label) cookie` / `array(1) u16(2)`, decoded with
    minicbor's `array()` / `u16()`) satisfies `Good` -/
theorem good_keepalive : Good (fun _ => True) kDec kEnc :=
  good_of_parses Proofs.Keepalive.kDec_eq (fun m _ => Proofs.Keepalive.parses_pKeepAlive m) rfl

theorem reassembly_network1_keepalive (msgs : List KMsg) (splits : List Bytes)
    (hs : splits.flatten = encAll kEnc msgs) :
    ∃ c, recvN kDec msgs.length [] splits = some (msgs, [], c) ∧ c.flatten = [] :=
  reassembly_network1 good_keepalive msgs (fun _ _ => trivial) splits hs

theorem reassembly_network2_keepalive (tbl : Table KMsg) (c : UInt16) (ht : tbl c = some kDec)
    (segs : List (UInt16 × Bytes)) (ms : List KMsg) (hs : bytesOn c segs = encAll kEnc ms) :
    msgsOn c (readAll tbl (fun _ => none) segs).1 = ms ∧
      partialOf (readAll tbl (fun _ => none) segs).2 c = [] :=
  reassembly_network2 c ht good_keepalive segs ms (fun _ _ => trivial) hs

/-- the block-fetch codec (`array(n) u16(label) …` with `Point`s and a tag-24 byte string, decoded with
    minicbor's `array()` / `u16()` / `u64()` / `tag()` / `bytes()`) satisfies `Good` on every message
    whose slot numbers fit `u64` and whose byte strings are shorter than `2^64` -/
theorem good_blockfetch : Good Proofs.Codec.WFMsg bfDec bfEnc :=
  good_of_parses Proofs.Codec.bfDec_eq Proofs.Codec.parses_blockfetch rfl

/-- network1, block-fetch messages (a block body may be far longer than a segment) -/
theorem reassembly_network1_blockfetch (msgs : List BFMsg) (hD : ∀ m ∈ msgs, Proofs.Codec.WFMsg m)
    (splits : List Bytes) (hs : splits.flatten = encAll bfEnc msgs) :
    ∃ c, recvN bfDec msgs.length [] splits = some (msgs, [], c) ∧ c.flatten = [] :=
  reassembly_network1 good_blockfetch msgs hD splits hs

theorem reassembly_network2_blockfetch (tbl : Table BFMsg) (c : UInt16) (ht : tbl c = some bfDec)
    (segs : List (UInt16 × Bytes)) (ms : List BFMsg) (hD : ∀ m ∈ ms, Proofs.Codec.WFMsg m)
    (hs : bytesOn c segs = encAll bfEnc ms) :
    msgsOn c (readAll tbl (fun _ => none) segs).1 = ms ∧
      partialOf (readAll tbl (fun _ => none) segs).2 c = [] :=
  reassembly_network2 c ht good_blockfetch segs ms hD hs

/-- the chain-sync codec (`HeaderContent` with its Byron prefix, `Tip`, `Point`, the point list of
    `FindIntersect` decoded through `Vec<T>` / `ArrayIter`) satisfies `Good` on every message that
    pallas can send and receive (`WFCS`: integers in `u8`/`u64`, lengths below `2^64`, Byron prefix
    present exactly for variant 0) -/
theorem good_chainsync : Good Proofs.Codec.WFCS csDec csEnc :=
  good_of_parses Proofs.Codec.csDec_eq Proofs.Codec.parses_chainsync rfl

theorem reassembly_network1_chainsync (msgs : List CSMsg) (hD : ∀ m ∈ msgs, Proofs.Codec.WFCS m)
    (splits : List Bytes) (hs : splits.flatten = encAll csEnc msgs) :
    ∃ c, recvN csDec msgs.length [] splits = some (msgs, [], c) ∧ c.flatten = [] :=
  reassembly_network1 good_chainsync msgs hD splits hs

theorem reassembly_network2_chainsync (tbl : Table CSMsg) (c : UInt16) (ht : tbl c = some csDec)
    (segs : List (UInt16 × Bytes)) (ms : List CSMsg) (hD : ∀ m ∈ ms, Proofs.Codec.WFCS m)
    (hs : bytesOn c segs = encAll csEnc ms) :
    msgsOn c (readAll tbl (fun _ => none) segs).1 = ms ∧
      partialOf (readAll tbl (fun _ => none) segs).2 c = [] :=
  reassembly_network2 c ht good_chainsync segs ms hD hs

/-! ## a receive loop that skips a decode attempt stalls (why the model tries after *every* chunk) -/

/-- `recvLoop` with the shortcut "a chunk of exactly `full` bytes means more is coming: do not try to
    decode yet" -/
def recvLoopSkip {M : Type} (full : Nat) (dec : Decoder M) (temp : Bytes) : List Bytes → Recv M
  | [] => .blocked temp
  | chunk :: chunks =>
    if chunk.length = full then recvLoopSkip full dec (temp ++ chunk) chunks
    else
      match tryDecode dec (temp ++ chunk) with
      | .msg m rest => .msg m rest chunks
      | .needMore => recvLoopSkip full dec (temp ++ chunk) chunks
      | .error => .error

/-- tests on an outcome for `skipping_loop_stalls` (`Recv` has no decidable equality) -/
def isBlockedWith {M : Type} (t : Bytes) : Recv M → Bool
  | .blocked t' => t' == t
  | _ => false

def isMsgWith (body : Bytes) : Recv LenMsg → Bool
  | .msg m t c => m.val == body && t.isEmpty && c.isEmpty
  | _ => false

/-- with the shortcut, a message that ends exactly at the end of a full-size chunk stays in the buffer:
    the loop blocks holding the complete message, whereas `recvLoop` yields it -/
theorem skipping_loop_stalls :
    isBlockedWith [3, 1, 2, 3] (recvLoopSkip 4 lenDec [] [[3, 1, 2, 3]]) = true ∧
    isMsgWith [1, 2, 3] (recvLoop lenDec [] [[3, 1, 2, 3]]) = true := by
  decide

def m1 : LenMsg := ⟨[1, 2, 3], by decide⟩
def m2 : LenMsg := ⟨[], by decide⟩
def m3 : LenMsg := ⟨[9], by decide⟩

example : encAll lenEnc [m1, m2, m3] = [3, 1, 2, 3, 0, 1, 9] := by decide
/-- one-byte chunks, an empty chunk, and a chunk spanning two messages -/
example : (recvN lenDec 3 [] [[3], [1], [], [2, 3, 0, 1], [9], []]).map (fun r => (r.1.map (·.val), r.2)) =
    some ([[1, 2, 3], [], [9]], [], [[]]) := by decide
example : (recvN lenDec 3 [] [[3, 1, 2, 3, 0, 1, 9]]).map (fun r => (r.1.map (·.val), r.2)) =
    some ([[1, 2, 3], [], [9]], [], []) := by decide
/-- a decoder that reports a non-eoi error on a proper prefix is not `Good`, and reassembly fails -/
example : (recvN (fun bs => if bs.length < 4 then .fail else lenDec bs) 1 [] [[3], [1, 2, 3]]).isNone := by
  decide
-- `itemDec` is the decoder the correspondence stream runs the model with (one well-formed CBOR item)
example : itemDec [0x82, 0x00, 0x19, 0x01, 0x02, 0xAA] = .ok [0x82, 0x00, 0x19, 0x01, 0x02] 5 := by decide
example : itemDec [0x82, 0x00, 0x19, 0x01] = .eoi := by decide
example : itemDec [0x9f, 0x01, 0x5f, 0x41, 0x00, 0xff, 0xff] = .ok [0x9f, 0x01, 0x5f, 0x41, 0x00, 0xff, 0xff] 7 := by
  decide
example : itemDec [0xff] = .fail ∧ itemDec [0x1c] = .fail := by decide

example : kEnc (.keepAlive 0x1234) = [0x82, 0x00, 0x19, 0x12, 0x34] ∧ kEnc (.response 7) = [0x82, 0x01, 0x07] ∧
    kEnc .done = [0x81, 0x02] := by decide
example : kDec [0x82, 0x00, 0x19, 0x12] = .eoi ∧ kDec [0x82, 0x00, 0x1a, 0, 1, 0, 0] = .fail ∧
    kDec [0x82, 0x00, 0x1a, 0, 0, 0x12, 0x34, 0xff] = .ok (.keepAlive 0x1234) 7 := by decide

example : bfEnc (.block [1, 2, 3]) = [0x82, 0x04, 0xd8, 0x18, 0x43, 1, 2, 3] := by decide
example : bfEnc (.requestRange .origin (.specific 1000 [0xAA])) =
    [0x83, 0x00, 0x80, 0x82, 0x19, 0x03, 0xe8, 0x41, 0xAA] := by decide
example : bfDec [0x82, 0x04, 0xd8, 0x18, 0x43, 1, 2] = .eoi ∧
    bfDec [0x82, 0x04, 0xd8, 0x18, 0x5f, 0x41, 1, 0xff] = .fail ∧
    bfDec [0x82, 0x04, 0xc1, 0x41, 7, 9] = .ok (.block [7]) 5 := by decide
/-- a block body longer than a segment is inside the domain -/
example : Proofs.Codec.WFMsg (.block (List.replicate 70000 0)) := by
  show (List.replicate 70000 (0 : UInt8)).length < 18446744073709551616
  rw [List.length_replicate]; decide

example : csEnc (.rollForward ⟨6, none, [0x80]⟩ ⟨.origin, 5⟩) =
    [0x83, 0x02, 0x82, 0x06, 0xd8, 0x18, 0x41, 0x80, 0x82, 0x80, 0x05] := by decide
example : csDec [0x82, 0x04, 0x9f, 0x80, 0x80, 0xff, 0x00] = .ok (.findIntersect [.origin, .origin]) 6 ∧
    csDec [0x82, 0x04, 0x9f, 0x80] = .eoi ∧ csDec [0x82, 0x04, 0x82, 0x80] = .eoi := by decide
example : Proofs.Codec.WFCS (.rollForward ⟨0, some (1, 2), [1, 2, 3]⟩ ⟨.specific 7 [9], 1⟩) := by
  refine ⟨⟨by decide, by decide, fun _ => ⟨1, 2, rfl, by decide, by decide⟩, fun h => absurd rfl h⟩,
    ⟨⟨by decide, by decide⟩, by decide⟩⟩

end PallasVerif.Props.C21
