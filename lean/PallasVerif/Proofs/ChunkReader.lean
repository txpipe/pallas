import PallasVerif.Model.ChunkReader
/-! Lemmas about `Model/ChunkReader.lean` for C43 (and, through the big-endian encoder, C44):
    builders of intact primary / secondary index files and how the readers parse them. -/
namespace PallasVerif.Proofs.ChunkReader
open PallasVerif.ChunkReader

theorem checkedSub_some (a b d : Nat) (h : checkedSub a b = some d) : b ≤ a ∧ d = a - b := by
  unfold checkedSub at h
  split at h
  · cases h; exact ⟨by assumption, rfl⟩
  · cases h

/-- `w` big-endian bytes of `v` -/
def enc : Nat → Nat → Bytes
  | 0, _ => []
  | w + 1, v => enc w (v / 256) ++ [v % 256]

theorem enc_length (w v : Nat) : (enc w v).length = w := by
  induction w generalizing v with
  | zero => rfl
  | succ w ih => simp [enc, ih]

theorem beNat_append_single (l : Bytes) (d : Nat) : beNat (l ++ [d]) = beNat l * 256 + d := by
  simp [beNat, List.foldl_append]

theorem beNat_enc_mod (w v : Nat) : beNat (enc w v) = v % 256 ^ w := by
  induction w generalizing v with
  | zero => simp [enc, beNat, Nat.mod_one]
  | succ w ih =>
    simp only [enc, beNat_append_single, ih]
    rw [Nat.pow_succ', Nat.mod_mul, Nat.mul_comm, Nat.add_comm]

theorem beNat_enc (w v : Nat) (h : v < 256 ^ w) : beNat (enc w v) = v := by
  rw [beNat_enc_mod, Nat.mod_eq_of_lt h]

/-- arithmetic progression with step 56 (the size of a secondary entry): the primary offsets of an index
    without empty slots, and all but the last of them the occupied ones -/
def arith : Nat → Nat → List Nat
  | _, 0 => []
  | pos, n + 1 => pos :: arith (pos + 56) n

theorem arith_length (pos n : Nat) : (arith pos n).length = n := by
  induction n generalizing pos with
  | zero => rfl
  | succ n ih => simp [arith, ih]

theorem occupied_arith (pos n : Nat) : occupied (arith pos (n + 1)) = arith pos n := by
  induction n generalizing pos with
  | zero => rfl
  | succ n ih =>
    rw [arith, arith, occupied, if_pos (Nat.lt_add_of_pos_right (by decide)), ← arith, ih, arith]

theorem mem_arith_lt (pos n x : Nat) (h : x ∈ arith pos n) : x < pos + 56 * n := by
  induction n generalizing pos with
  | zero => simp [arith] at h
  | succ n ih =>
    simp only [arith, List.mem_cons] at h
    rcases h with rfl | e
    · omega
    · have := ih _ e; omega

/-- `hf`: a unit of fuel per byte, which is what `primaryOffsets` gives; each round uses four bytes -/
theorem offsets_enc (offs : List Nat) (fuel : Nat) (hf : (offs.map (enc 4)).flatten.length ≤ fuel) (hb : ∀ o ∈ offs, o < 256 ^ 4) :
    offsets fuel (offs.map (enc 4)).flatten = offs := by
  induction offs generalizing fuel with
  | nil =>
    cases fuel <;> simp [offsets]
  | cons o t ih =>
    have hl : (enc 4 o).length = 4 := enc_length 4 o
    rw [List.map_cons, List.flatten_cons, List.length_append, hl] at hf
    cases fuel with
    | zero => omega
    | succ fuel =>
      simp only [List.map_cons, List.flatten_cons, offsets, List.length_append, hl,
        if_neg (Nat.not_lt.2 (Nat.le_add_right 4 _)), List.take_left' hl, List.drop_left' hl,
        beNat_enc 4 o (hb o (List.mem_cons_self ..)),
        ih fuel (by omega) (fun x hx => hb x (List.mem_cons_of_mem _ hx))]

def primaryBytes (offs : List Nat) : Bytes := 1 :: (offs.map (enc 4)).flatten

theorem primaryOffsets_primaryBytes (offs : List Nat) (hb : ∀ o ∈ offs, o < 256 ^ 4) :
    primaryOffsets (primaryBytes offs) = some offs :=
  congrArg some (offsets_enc offs _ (Nat.le_refl _) hb)

/-- one secondary entry: block offset, then 48 bytes the readers ignore -/
def secEntry (off : Nat) : Bytes := enc 8 off ++ List.replicate 48 0

theorem secEntry_length (off : Nat) : (secEntry off).length = 56 := by simp [secEntry, enc_length]

def secondaryBytes (starts : List Nat) : Bytes := (starts.map secEntry).flatten

theorem secondaryItems_cons (s : Bytes) {pos cur : Nat} (rest : List Nat) (h1 : pos ≤ cur)
    (h2 : cur + 56 ≤ s.length) :
    secondaryItems s pos (cur :: rest) =
      .entry (beNat ((s.drop cur).take 8)) :: secondaryItems s (cur + 56) rest := by
  simp only [secondaryItems, checkedSub, if_pos h1, if_pos h2]

/-- `pre` is what has been read already and grows along the induction -/
theorem secondaryItems_intact (pre : Bytes) (starts : List Nat) (hb : ∀ o ∈ starts, o < 256 ^ 8) :
    secondaryItems (pre ++ secondaryBytes starts) pre.length (arith pre.length starts.length)
      = starts.map SecItem.entry := by
  induction starts generalizing pre with
  | nil => rfl
  | cons o t ih =>
    have hs : pre ++ secondaryBytes (o :: t) = pre ++ secEntry o ++ secondaryBytes t := by
      simp only [secondaryBytes, List.map_cons, List.flatten_cons, List.append_assoc]
    have hent : ((pre ++ secEntry o ++ secondaryBytes t).drop pre.length).take 8 = enc 8 o := by
      simp only [secEntry, List.append_assoc]
      rw [List.drop_left, List.take_left' (enc_length 8 o)]
    have hlen : pre.length + 56 ≤ (pre ++ secEntry o ++ secondaryBytes t).length := by
      simp only [List.length_append, secEntry_length]
      omega
    have := ih (pre ++ secEntry o) (fun x hx => hb x (List.mem_cons_of_mem _ hx))
    rw [List.length_append, secEntry_length] at this
    rw [hs, List.length_cons, arith, secondaryItems_cons _ _ (Nat.le_refl _) hlen, hent,
      beNat_enc 8 o (hb o (List.mem_cons_self ..)), this, List.map_cons]

end PallasVerif.Proofs.ChunkReader
