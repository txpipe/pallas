import PallasVerif.Proofs.Utxo
/-!
# C31 — UTxO effects of a transaction follow the phase-2 validity rule

`Model/Utxo.lean` transcribes `MultiEraTx::{consumes, produces, produces_at, inputs_sorted_set}`
(HashSet-insert filter, `enumerate`, `sort_by_key` + `dedup_by_key`) over the abstract transaction
the four functions see through the accessors. The theorems below state each clause of the
property for **every** transaction (all input lists, any number of duplicates, any outputs,
both validity flags, with and without collateral return); no hypothesis is needed.
-/
namespace PallasVerif.Props.C31
open PallasVerif.Utxo

variable {O : Type}

/-- what "consumes the list `src`, each element once" means, without reference to the algorithm:
    no repetitions, exactly the elements of `src`, order as in `src` (which occurrence of a repeated
    element is the one kept is said by `consumes_first_occurrence_order`) -/
def ConsumesOnce (res src : List TxIn) : Prop :=
  res.Nodup ∧ (∀ z, z ∈ res ↔ z ∈ src) ∧ res.Sublist src

theorem consumesOnce_filterInsert (src : List TxIn) : ConsumesOnce (filterInsert [] src) src := by
  obtain ⟨h1, h2, h3⟩ := filterInsert_spec src []
  exact ⟨h1, fun z => by simpa using h2 z, h3⟩

theorem consumes_valid (tx : Tx O) (h : tx.valid = true) : ConsumesOnce (consumes tx) tx.inputs := by
  simp only [consumes, h]
  exact consumesOnce_filterInsert _

theorem consumes_invalid (tx : Tx O) (h : tx.valid = false) : ConsumesOnce (consumes tx) tx.collateral := by
  simp only [consumes, h]
  exact consumesOnce_filterInsert _

theorem consumes_nodup (tx : Tx O) : (consumes tx).Nodup := (consumesOnce_filterInsert _).1

/-- what is kept are the FIRST occurrences, in their order: the positions of first occurrence in
    the consumed source list are strictly increasing along the result -/
theorem consumes_first_occurrence_order (tx : Tx O) :
    let src := match tx.valid with | true => tx.inputs | false => tx.collateral
    (consumes tx).Pairwise (fun a b => src.idxOf a < src.idxOf b) := by
  simp only [consumes]
  exact filterInsert_first_order _ []

/-- members and first-occurrence order determine the result: any list with the elements of the source,
    ordered by where they first occur in it (hence without repetitions), IS `consumes` -/
theorem consumes_unique (tx : Tx O) (res : List TxIn)
    (hm : ∀ z, z ∈ res ↔ z ∈ (match tx.valid with | true => tx.inputs | false => tx.collateral))
    (ho : res.Pairwise (fun a b =>
      (match tx.valid with | true => tx.inputs | false => tx.collateral).idxOf a <
      (match tx.valid with | true => tx.inputs | false => tx.collateral).idxOf b)) :
    res = consumes tx := by
  refine unique_of_pairwise _ (fun a b h => Nat.lt_asymm h) res (consumes tx) ho
    (consumes_first_occurrence_order tx) fun z => ?_
  rw [hm z]
  exact ((consumesOnce_filterInsert _).2.1 z).symm

theorem consumes_valid_of_nodup (tx : Tx O) (h : tx.valid = true) (hn : tx.inputs.Nodup) :
    consumes tx = tx.inputs := by
  simp only [consumes, h]
  exact filterInsert_of_nodup _ _ hn (by simp)

theorem produces_valid (tx : Tx O) (h : tx.valid = true) :
    (produces tx).length = tx.outputs.length ∧
    ∀ i : Nat, (produces tx)[i]? = (tx.outputs[i]?).map fun o => (i, o) := by
  simp only [produces, h, enumerateFrom_eq]
  refine ⟨by rw [List.length_map, List.length_zipIdx], fun i => ?_⟩
  rw [List.getElem?_map, List.getElem?_zipIdx, Option.map_map, Nat.zero_add]; rfl

theorem produces_invalid (tx : Tx O) (h : tx.valid = false) :
    produces tx = match tx.collateralReturn with
      | some o => [(tx.outputs.length, o)]
      | none => [] := by
  simp only [produces, h]
  cases tx.collateralReturn <;> rfl

theorem produces_at_agrees (tx : Tx O) (i : Nat) : producesAt tx i = (produces tx).lookup i := by
  cases h : tx.valid
  · simp only [producesAt, produces, h]
    cases hc : tx.collateralReturn with
    | none => simp
    | some o =>
      by_cases e : i = tx.outputs.length
      · simp [e]
      · have : (i == tx.outputs.length) = false := by simpa using e
        simp [List.lookup_cons, e, this]
  · simpa only [producesAt, produces, h, Nat.zero_add] using (enumerateFrom_lookup tx.outputs 0 i).symm

/-- the indices of the produced list are pairwise distinct (so `lookup` is unambiguous) -/
theorem produces_indices_nodup (tx : Tx O) : ((produces tx).map Prod.fst).Nodup := by
  cases h : tx.valid
  · rw [produces_invalid tx h]; cases tx.collateralReturn <;> simp
  · simp only [produces, h, enumerateFrom_eq, List.map_map]
    exact List.zipIdx_map_snd 0 _ ▸ List.nodup_range'

theorem sorted_set_spec (tx : Tx O) :
    (inputsSortedSet tx).Pairwise (fun a b => keyLt a b = true) ∧
    (inputsSortedSet tx).Nodup ∧
    ∀ z, z ∈ inputsSortedSet tx ↔ z ∈ tx.inputs := by
  obtain ⟨h1, h2⟩ := dedupByKey_spec (sortByKey tx.inputs) (sorted_sortByKey tx.inputs)
  refine ⟨h1, ?_, fun z => ?_⟩
  · exact h1.imp (fun {a b} h => keyLt_ne a b h)
  · simp only [inputsSortedSet]; rw [h2 z, mem_sortByKey]

theorem keyLt_strict_total (a b c : TxIn) :
    keyLt a a = false ∧ (keyLt a b = true → keyLt b c = true → keyLt a c = true) ∧
    (keyLt a b = false → keyLt b a = false → a = b) :=
  ⟨keyLt_irrefl a, keyLt_trans a b c, keyLt_tri a b⟩

/-- the result does not depend on the sorting algorithm: a strictly increasing list with the
    same elements is unique -/
theorem sorted_set_unique (l₁ l₂ : List TxIn)
    (h1 : l₁.Pairwise (fun a b => keyLt a b = true)) (h2 : l₂.Pairwise (fun a b => keyLt a b = true))
    (hm : ∀ z, z ∈ l₁ ↔ z ∈ l₂) : l₁ = l₂ :=
  unique_of_pairwise (fun a b => keyLt a b = true)
    (fun a b h h' => by rw [keyLt_asymm a b h] at h'; cases h') l₁ l₂ h1 h2 hm

def hA : List UInt8 := [0x4d, 0x9c]
def hB : List UInt8 := [0x4d, 0x9d]
def txDup (v : Bool) : Tx String :=
  { valid := v, inputs := [⟨hB, 1⟩, ⟨hA, 7⟩, ⟨hB, 1⟩, ⟨hA, 2⟩], outputs := ["o0", "o1", "o2"],
    collateral := [⟨hA, 9⟩, ⟨hA, 9⟩], collateralReturn := some "ret" }

example : consumes (txDup true) = [⟨hB, 1⟩, ⟨hA, 7⟩, ⟨hA, 2⟩] := by decide
example : consumes (txDup false) = [⟨hA, 9⟩] := by decide
example : produces (txDup true) = [(0, "o0"), (1, "o1"), (2, "o2")] := by decide
example : produces (txDup false) = [(3, "ret")] := by decide
example : producesAt (txDup false) 3 = some "ret" ∧ producesAt (txDup false) 0 = none ∧
    producesAt (txDup true) 3 = none ∧ producesAt (txDup true) 2 = some "o2" := by decide
example : inputsSortedSet (txDup true) = [⟨hA, 2⟩, ⟨hA, 7⟩, ⟨hB, 1⟩] := by decide
example : produces ({ txDup false with collateralReturn := none }) = [] := by decide

end PallasVerif.Props.C31
