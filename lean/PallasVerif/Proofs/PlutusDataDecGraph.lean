import PallasVerif.Model.PlutusData
import PallasVerif.Proofs.Cbor
import PallasVerif.Proofs.PlutusDataTags
/-!
  The tree decoder `ofItem` (C07), for the byte-level refinement.

  `OfItem` is the graph of `ofItem` with one constructor per arm of the Rust decoder: completeness
  (`PlutusDataDec`) analyses what `ofItem` returned by `ofItem_graph`, soundness (`PlutusDataDecSoundAt`) concludes
  `ofItem i = some d` by `ofItem_of_graph`. `dsize` is the fuel completeness needs; `DecodesTo` is what soundness
  proves; `ofItem_good` is for C07.
-/
namespace PallasVerif.PlutusData.Dec
open PallasVerif.Cbor PallasVerif.PlutusData

def SeqShape (m : Nat) (i : Item) (df : Bool) (xs : List Item) : Prop :=
  (∃ h, i = .seq h xs ∧ h.major = m ∧ df = true) ∨ (i = .seqIndef m xs ∧ df = false)

abbrev ArrayShape := SeqShape 4

/-- for a map `xs` lists keys and values in alternation (that there are evenly many is part of `Item.wf`,
    not of the shape) -/
abbrev MapShape := SeqShape 5

inductive OfItem : Item → PData → Prop
  | int {i : Item} {n : Int} : i.int? = some n → OfItem i (.int (.int n))
  | bytes {i : Item} {bs : Bytes} : i.strPayload? 2 = some bs → OfItem i (.bytes bs)
  | array {i : Item} {df : Bool} {xs : List Item} {ds : List PData} :
      ArrayShape i df xs → ofItems xs = some ds → OfItem i (.array df ds)
  | map {i : Item} {df : Bool} {xs : List Item} {kvs : List (PData × PData)} :
      MapShape i df xs → ofPairs xs = some kvs → OfItem i (.map df kvs)
  | big {h : Head} {i : Item} {bs : Bytes} {b : BigInt} : i.strPayload? 2 = some bs →
      (h.val = 2 ∧ b = .bigU bs) ∨ (h.val = 3 ∧ b = .bigN bs) → OfItem (.tag h i) (.int b)
  | constr {h : Head} {i : Item} {df : Bool} {xs : List Item} {ds : List PData} :
      isConstrTag h.val = true → ArrayShape i df xs → ofItems xs = some ds →
      OfItem (.tag h i) (.constr h.val none df ds)
  | constr102 {h ha : Head} {i fi : Item} {dfo df : Bool} {xs : List Item} {ds : List PData} :
      h.val = 102 → ArrayShape i dfo [.atom ha, fi] → ha.major = 0 → ArrayShape fi df xs → ofItems xs = some ds →
      OfItem (.tag h i) (.constr 102 (some ha.val) df ds)

theorem seqShape_wfList {m : Nat} {i : Item} {df : Bool} {xs : List Item} (hs : SeqShape m i df xs)
    (hw : i.wf = true) : wfList xs = true := by
  rcases hs with ⟨h, rfl, _, _⟩ | ⟨rfl, _⟩
  · exact ((Item.wf_seq_iff h xs).1 hw).2.2.2.2
  · exact ((Item.wf_seqIndef_iff m xs).1 hw).2.2

/-- the match on the item under a constructor tag, as `ofItem` has it twice (see `ofItem_tag`) -/
def fields? (F : Bool → List PData → PData) : Item → Option PData
  | .seq h xs => if h.major = 4 then (ofItems xs).map (F true) else none
  | .seqIndef m xs => if m = 4 then (ofItems xs).map (F false) else none
  | _ => none

/-- the `[any_constructor, fields]` part of a tag-102 constructor -/
def inner102 (a f : Item) : Option PData :=
  match a.uint?, f with
  | some n, .seq h'' xs => if h''.major = 4 then (ofItems xs).map (.constr 102 (some n) true) else none
  | some n, .seqIndef m xs => if m = 4 then (ofItems xs).map (.constr 102 (some n) false) else none
  | _, _ => none

/-- the match on the outer array of a tag-102 constructor -/
def arm102 : Item → Option PData
  | .seq h [a, f] => if h.major = 4 then inner102 a f else none
  | .seqIndef m [a, f] => if m = 4 then inner102 a f else none
  | _ => none

/-- the tag arm of `ofItem` with its nested matches named. `rfl` works because `fields?`, `inner102`
    and `arm102` repeat those matches literally, arm for arm; they have to follow the model. -/
theorem ofItem_tag (h : Head) (i : Item) : ofItem (.tag h i) =
    if h.val = 2 then (i.strPayload? 2).map fun bs => .int (.bigU bs)
    else if h.val = 3 then (i.strPayload? 2).map fun bs => .int (.bigN bs)
    else if isConstrTag h.val then fields? (.constr h.val none) i
    else if h.val = 102 then arm102 i
    else none := by
  rw [ofItem.eq_def]; rfl

theorem fields?_eq_some {F : Bool → List PData → PData} {i : Item} {d : PData} :
    fields? F i = some d ↔ ∃ df xs ds, ArrayShape i df xs ∧ ofItems xs = some ds ∧ d = F df ds := by
  constructor
  · intro ho
    cases i with
    | seq h xs =>
      simp only [fields?, Option.ite_none_right_eq_some, Option.map_eq_some_iff] at ho
      obtain ⟨hm, ds, hds, rfl⟩ := ho
      exact ⟨true, xs, ds, .inl ⟨h, rfl, hm, rfl⟩, hds, rfl⟩
    | seqIndef m xs =>
      simp only [fields?, Option.ite_none_right_eq_some, Option.map_eq_some_iff] at ho
      obtain ⟨rfl, ds, hds, rfl⟩ := ho
      exact ⟨false, xs, ds, .inr ⟨rfl, rfl⟩, hds, rfl⟩
    | _ => simp [fields?] at ho
  · rintro ⟨df, xs, ds, ⟨h, rfl, hm, rfl⟩ | ⟨rfl, rfl⟩, hds, rfl⟩
    · simp [fields?, hm, hds]
    · simp [fields?, hds]

theorem inner102_eq_some {a f : Item} {d : PData} : inner102 a f = some d ↔
    ∃ ha, a = .atom ha ∧ ha.major = 0 ∧ fields? (.constr 102 (some ha.val)) f = some d := by
  have : inner102 a f = a.uint?.bind fun n => fields? (.constr 102 (some n)) f := by
    unfold inner102
    cases a.uint? <;> cases f <;> rfl
  rw [this]
  cases a with
  | atom ha => by_cases hm : ha.major = 0 <;> simp [Item.uint?, hm]
  | _ => simp [Item.uint?]

theorem arm102_eq_some {i : Item} {d : PData} :
    arm102 i = some d ↔ ∃ dfo a f, ArrayShape i dfo [a, f] ∧ inner102 a f = some d := by
  constructor
  · intro ho
    unfold arm102 at ho
    split at ho
    · rw [Option.ite_none_right_eq_some] at ho
      exact ⟨true, _, _, .inl ⟨_, rfl, ho.1, rfl⟩, ho.2⟩
    · rw [Option.ite_none_right_eq_some] at ho
      obtain ⟨rfl, ho⟩ := ho
      exact ⟨false, _, _, .inr ⟨rfl, rfl⟩, ho⟩
    · simp at ho
  · rintro ⟨dfo, a, f, ⟨h, rfl, hm, rfl⟩ | ⟨rfl, rfl⟩, ho⟩
    · simp [arm102, hm, ho]
    · simp [arm102, ho]

theorem ofItem_atom (h : Head) : ofItem (.atom h) = (Item.atom h).int?.map fun n => .int (.int n) := by
  simp only [ofItem, Item.int?]
  split
  · rfl
  · split <;> rfl

theorem ofItem_str (h : Head) (bs : Bytes) : ofItem (.str h bs) = ((Item.str h bs).strPayload? 2).map .bytes := by
  simp only [ofItem, Item.strPayload?]
  split <;> rfl

theorem ofItem_strIndef (m : Nat) (cs : List (Head × Bytes)) :
    ofItem (.strIndef m cs) = ((Item.strIndef m cs).strPayload? 2).map .bytes := by
  simp only [ofItem, Item.strPayload?]
  split <;> rfl

theorem ofItem_graph_tag {h : Head} {i : Item} {d : PData} (ho : ofItem (.tag h i) = some d) :
    OfItem (.tag h i) d := by
  rw [ofItem_tag] at ho
  split at ho
  · rename_i h2
    obtain ⟨bs, hp, rfl⟩ := Option.map_eq_some_iff.1 ho
    exact .big hp (.inl ⟨h2, rfl⟩)
  · split at ho
    · rename_i h3
      obtain ⟨bs, hp, rfl⟩ := Option.map_eq_some_iff.1 ho
      exact .big hp (.inr ⟨h3, rfl⟩)
    · split at ho
      · rename_i hc
        obtain ⟨df, xs, ds, hs, hds, rfl⟩ := fields?_eq_some.1 ho
        exact .constr hc hs hds
      · split at ho
        · rename_i h102
          obtain ⟨dfo, a, f, hout, hin⟩ := arm102_eq_some.1 ho
          obtain ⟨ha, rfl, ham, hf⟩ := inner102_eq_some.1 hin
          obtain ⟨df, xs, ds, hs, hds, rfl⟩ := fields?_eq_some.1 hf
          exact .constr102 h102 hout ham hs hds
        · simp at ho

/-- `hw` is used in the two sequence arms only: `ofItem` reads every sequence that is no array as a map,
    and it is `Item.wf` that leaves only major type 5 -/
theorem ofItem_graph {i : Item} {d : PData} (hw : i.wf = true) (ho : ofItem i = some d) : OfItem i d := by
  cases i with
  | atom h =>
    rw [ofItem_atom, Option.map_eq_some_iff] at ho
    obtain ⟨n, hn, rfl⟩ := ho
    exact .int hn
  | str h bs | strIndef m cs =>
    simp only [ofItem_str, ofItem_strIndef, Option.map_eq_some_iff] at ho
    obtain ⟨b, hb, rfl⟩ := ho
    exact .bytes hb
  | seq h xs =>
    have hmaj := ((Item.wf_seq_iff h xs).1 hw).2.1
    simp only [ofItem] at ho
    split at ho
    · rename_i hm
      obtain ⟨ds, hds, rfl⟩ := Option.map_eq_some_iff.1 ho
      exact .array (.inl ⟨h, rfl, hm, rfl⟩) hds
    · rename_i hm
      obtain ⟨kvs, hk, rfl⟩ := Option.map_eq_some_iff.1 ho
      exact .map (.inl ⟨h, rfl, hmaj.resolve_left hm, rfl⟩) hk
  | seqIndef m xs =>
    have hmaj := ((Item.wf_seqIndef_iff m xs).1 hw).1
    simp only [ofItem] at ho
    split at ho
    · rename_i hm
      subst hm
      obtain ⟨ds, hds, rfl⟩ := Option.map_eq_some_iff.1 ho
      exact .array (.inr ⟨rfl, rfl⟩) hds
    · rename_i hm
      obtain rfl := hmaj.resolve_left hm
      obtain ⟨kvs, hk, rfl⟩ := Option.map_eq_some_iff.1 ho
      exact .map (.inr ⟨rfl, rfl⟩) hk
  | tag h i => exact ofItem_graph_tag ho

theorem ofItem_of_graph {i : Item} {d : PData} (g : OfItem i d) : ofItem i = some d := by
  cases g with
  | int hn =>
    cases i with
    | atom h => rw [ofItem_atom, hn]; rfl
    | _ => simp [Item.int?] at hn
  | bytes hp =>
    cases i with
    | str h bs => rw [ofItem_str, hp]; rfl
    | strIndef m cs => rw [ofItem_strIndef, hp]; rfl
    | _ => simp [Item.strPayload?] at hp
  | array hs hds | map hs hds =>
    rcases hs with ⟨h, rfl, hm, rfl⟩ | ⟨rfl, rfl⟩
    · simp [ofItem, hm, hds]
    · simp [ofItem, hds]
  | big hp hv =>
    rw [ofItem_tag]
    rcases hv with ⟨hv, rfl⟩ | ⟨hv, rfl⟩ <;> simp [hv, hp]
  | @constr h _ _ _ _ hc hs hds =>
    have := (isConstrTag_iff h.val).1 hc
    have h2 : h.val ≠ 2 := by omega
    have h3 : h.val ≠ 3 := by omega
    simp only [ofItem_tag, h2, h3, hc, if_true, if_false]
    exact fields?_eq_some.2 ⟨_, _, _, hs, hds, rfl⟩
  | constr102 h102 hout ham hs hds =>
    have hc : isConstrTag 102 = false := by decide
    simp only [ofItem_tag, h102, hc, if_true, if_false, Nat.reduceEqDiff, Bool.false_eq_true]
    exact arm102_eq_some.2 ⟨_, _, _, hout, inner102_eq_some.2 ⟨_, rfl, ham, fields?_eq_some.2 ⟨_, _, _, hs, hds, rfl⟩⟩⟩

mutual
/-- The fuel the decoder needs for the encoding of a tree: one level per decoder layer a node passes
    through (`decP`, `decVec` / `decKvs`, the element loop; for a tag `decP`, `decConstr`,
    `decMaybeIndef`) plus one per element of a sequence, and one more for the look at a break. -/
def dsize : Item → Nat
  | .atom _ => 1
  | .str _ _ => 1
  | .strIndef _ cs => cs.length + 2
  | .seq _ xs => dsizes xs + 2
  | .seqIndef _ xs => dsizes xs + 3
  | .tag _ i => dsize i + 3
def dsizes : List Item → Nat
  | [] => 0
  | x :: xs => dsize x + dsizes xs + 1
end

theorem dsize_pos (i : Item) : 0 < dsize i := by
  cases i <;> simp only [dsize] <;> omega

/-- an indefinite sequence needs one more level, for the loop's look at the break -/
theorem seqShape_dsize {m : Nat} {i : Item} {df : Bool} {xs : List Item} (hs : SeqShape m i df xs) :
    dsizes xs + 2 ≤ dsize i ∧ (df = false → dsizes xs + 3 ≤ dsize i) := by
  rcases hs with ⟨h, rfl, _, rfl⟩ | ⟨rfl, rfl⟩ <;> simp [dsize]

theorem ofItems_cons_some {x : Item} {xs : List Item} {ds : List PData} : ofItems (x :: xs) = some ds ↔
    ∃ d ds', ofItem x = some d ∧ ofItems xs = some ds' ∧ ds = d :: ds' := by
  simp only [ofItems]
  cases ofItem x <;> cases ofItems xs <;> simp [eq_comm]

theorem ofPairs_cons_some {k v : Item} {xs : List Item} {kvs : List (PData × PData)} :
    ofPairs (k :: v :: xs) = some kvs ↔
    ∃ a b kvs', ofItem k = some a ∧ ofItem v = some b ∧ ofPairs xs = some kvs' ∧ kvs = (a, b) :: kvs' := by
  simp only [ofPairs]
  cases ofItem k <;> cases ofItem v <;> cases ofPairs xs <;> simp [eq_comm]

theorem ofPairs_length : ∀ (its : List Item) (kvs : List (PData × PData)), ofPairs its = some kvs →
    its.length = 2 * kvs.length
  | [], kvs, h => by cases h; rfl
  | [_], kvs, h => by simp [ofPairs] at h
  | k :: v :: xs, kvs, h => by
    obtain ⟨a, b, kvs', _, _, hx, rfl⟩ := ofPairs_cons_some.1 h
    have := ofPairs_length xs _ hx
    simp only [List.length_cons]; omega

/-- what the byte-level decoder's `some (d, r)` is to mean -/
def DecodesTo (bs : Bytes) (d : PData) (r : Bytes) : Prop :=
  ∃ i : Item, i.wf = true ∧ ofItem i = some d ∧ bs = i.encode ++ r

/-- valid constructor tags at every depth (`wfTag`, the hypothesis of C07's order theorems) and a fixed
    point of `normAny` -/
def Good (d : PData) : Prop := wfTag d = true ∧ normAny d = d
def GoodL (xs : List PData) : Prop := wfTagList xs = true ∧ normAnyList xs = xs
def GoodK (xs : List (PData × PData)) : Prop := wfTagKvs xs = true ∧ normAnyKvs xs = xs

theorem good_array (df : Bool) {xs : List PData} (g : GoodL xs) : Good (.array df xs) :=
  ⟨by simp [wfTag, g.1], by simp [normAny, g.2]⟩

theorem good_map (df : Bool) {kvs : List (PData × PData)} (g : GoodK kvs) : Good (.map df kvs) :=
  ⟨by simp [wfTag, g.1], by simp [normAny, g.2]⟩

theorem goodL_of_array {df : Bool} {xs : List PData} (g : Good (.array df xs)) : GoodL xs := by
  simp only [Good, wfTag, normAny] at g
  exact ⟨g.1, by simpa using g.2⟩

theorem good_constr (t : Nat) (df : Bool) (xs : List PData) (ht : isConstrTag t = true) (hxs : GoodL xs) :
    Good (.constr t none df xs) := by
  have h102 : t ≠ 102 := by rw [isConstrTag_iff] at ht; omega
  exact ⟨by simp [wfTag, (constrIndex_isSome t none).2 (.inl ht), hxs.1], by simp [normAny, h102, hxs.2]⟩

theorem good_constr102 (a : Nat) (df : Bool) (xs : List PData) (hxs : GoodL xs) :
    Good (.constr 102 (some a) df xs) :=
  ⟨by simp [wfTag, constrIndex, hxs.1], by simp [normAny, hxs.2]⟩

mutual
theorem ofItem_good : ∀ (i : Item) (d : PData), ofItem i = some d → Good d
  | .atom _, d, ho | .str _ _, d, ho | .strIndef _ _, d, ho => by
    simp only [ofItem_atom, ofItem_str, ofItem_strIndef, Option.map_eq_some_iff] at ho
    obtain ⟨_, _, rfl⟩ := ho; exact ⟨rfl, rfl⟩
  | .seq _ xs, d, ho | .seqIndef _ xs, d, ho => by
    simp only [ofItem] at ho
    split at ho
    · obtain ⟨ds, hds, rfl⟩ := Option.map_eq_some_iff.1 ho
      exact good_array _ (ofItems_good xs ds hds)
    · obtain ⟨kvs, hk, rfl⟩ := Option.map_eq_some_iff.1 ho
      exact good_map _ (ofPairs_good xs kvs hk)
  | .tag h i, d, ho => by
    -- the recursion has to be on the direct child `i` (the fields sit below it, behind a case split), so the fields'
    -- goodness is taken from `i` read as an array, which `ofItem` maps to them
    cases ofItem_graph_tag ho with
    | big _ _ => exact ⟨rfl, rfl⟩
    | constr hc hs hds =>
      exact good_constr _ _ _ hc (goodL_of_array (ofItem_good i _ (ofItem_of_graph (.array hs hds))))
    | @constr102 _ ha _ fi _ df xs ds _ hout ham hs hds =>
      have e : ofItems [.atom ha, fi] = some [.int (.int (Int.ofNat ha.val)), .array df ds] := by
        simp [ofItems, ofItem, ham, ofItem_of_graph (.array hs hds)]
      have g := goodL_of_array (ofItem_good i _ (ofItem_of_graph (.array hout e)))
      simp only [GoodL, wfTagList, normAnyList, Bool.and_eq_true, List.cons.injEq] at g
      exact good_constr102 _ _ _ (goodL_of_array ⟨g.1.2.1, g.2.2.1⟩)
    | int hn => simp [Item.int?] at hn
    | bytes hp => simp [Item.strPayload?] at hp
    | array hs _ | map hs _ => rcases hs with ⟨_, e, _⟩ | ⟨e, _⟩ <;> cases e
theorem ofItems_good : ∀ (xs : List Item) (ds : List PData), ofItems xs = some ds → GoodL ds
  | [], ds, ho => by
    cases ho
    exact ⟨rfl, rfl⟩
  | x :: xs, ds, ho => by
    obtain ⟨d, ds', hx, hxs, rfl⟩ := ofItems_cons_some.1 ho
    have gx := ofItem_good x d hx
    have gr := ofItems_good xs ds' hxs
    exact ⟨by simp [wfTagList, gx.1, gr.1], by simp [normAnyList, gx.2, gr.2]⟩
theorem ofPairs_good : ∀ (xs : List Item) (kvs : List (PData × PData)), ofPairs xs = some kvs → GoodK kvs
  | [], kvs, ho => by
    cases ho
    exact ⟨rfl, rfl⟩
  | [_], kvs, ho => by simp [ofPairs] at ho
  | k :: v :: xs, kvs, ho => by
    obtain ⟨a, b, kvs', hk, hv, hxs, rfl⟩ := ofPairs_cons_some.1 ho
    have gk := ofItem_good k a hk
    have gv := ofItem_good v b hv
    have gr := ofPairs_good xs kvs' hxs
    exact ⟨by simp [wfTagKvs, gk.1, gv.1, gr.1], by simp [normAnyKvs, gk.2, gv.2, gr.2]⟩
end

end PallasVerif.PlutusData.Dec
