import PallasVerif.Model.Hash
import PallasVerif.Model.Blake2bArray
/-! Byte-string helpers of the hashing models that both C10 and C12 reason about: the in-place write `blit` (the hasher's
    128-byte array, the KES key buffer), sizes of the BLAKE2b state and digest, fixed-width big-endian numbers (CBOR
    heads, the KES period field). The digest size is read off the last `compress` of the block schedule, which
    `rfcBlocks_eq_loop` exposes; C10 reads the same equation for its streaming theorem. -/

namespace PallasVerif.Blake2b

theorem blit_length (dst : Bytes) (pos : Nat) (src : Bytes) (h : pos + src.length ≤ dst.length) :
    (blit dst pos src).length = dst.length := by
  simp only [blit, List.length_append, List.length_take, List.length_drop]; omega

/-- `n` is a parameter of its own so that a literal (`128`) can be given where `pos + src.length` only equals it by a
    hypothesis -/
theorem blit_take (dst : Bytes) (pos : Nat) (src : Bytes) (n : Nat) (hp : pos ≤ dst.length)
    (hn : n = pos + src.length) : (blit dst pos src).take n = dst.take pos ++ src := by
  rw [blit, List.take_left' (by rw [List.length_append, List.length_take_of_le hp, hn])]

theorem blit_after (pre old src : Bytes) (pos : Nat) (hn : pre.length = pos) :
    blit (pre ++ old) pos src = pre ++ src ++ old.drop src.length := by
  rw [blit, List.take_left' hn, ← hn, List.drop_length_add_append]

theorem blit_zero (dst src : Bytes) : blit dst 0 src = src ++ dst.drop src.length :=
  blit_after [] dst src 0 rfl

theorem blit_tail (dst src : Bytes) (pos : Nat) (h : dst.length = pos + src.length) :
    blit dst pos src = dst.take pos ++ src := by
  rw [blit, List.drop_of_length_le (Nat.le_of_eq h), List.append_nil]

theorem compress_size (h : H) (b : Bytes) (t : Nat) (l : Bool) : (compress h b t l).size = 8 := by
  simp [compress]

theorem words_length (l : List UInt64) : (l.flatMap leBytes64).length = 8 * l.length := by
  induction l with
  | nil => rfl
  | cons a as ih => simp [List.flatMap_cons, leBytes64, ih]; omega

/-- the RFC block schedule is the hasher's loop followed by the final compress of what it kept back -/
theorem rfcBlocks_eq_loop (h : H) (t : Nat) (m : Bytes) :
    rfcBlocks h t m =
      compress (loop h t m).1 (pad (loop h t m).2.2) ((loop h t m).2.1 + (loop h t m).2.2.length) true := by
  fun_induction loop h t m with
  | case1 h t x hx ih => rw [rfcBlocks, if_pos hx]; exact ih
  | case2 h t x hx => rw [rfcBlocks, if_neg hx]

theorem blake2b_length (nn : Nat) (data : Bytes) (hn : nn ≤ 64) : (blake2b nn data).length = nn := by
  rw [blake2b, digestOf, List.length_take, words_length, Array.length_toList, rfcBlocks_eq_loop, compress_size]
  omega

end PallasVerif.Blake2b

namespace PallasVerif.Hash
open PallasVerif.Blake2b (Bytes)

theorem beBytes_length (w n : Nat) : (beBytes w n).length = w := by simp [beBytes]

theorem beBytes_succ (w n : Nat) :
    beBytes (w + 1) n = beBytes w (n / 256) ++ [UInt8.ofNat (n % 256)] := by
  simp only [beBytes, List.range_succ, List.map_append, List.map_cons, List.map_nil]
  congr 1
  · apply List.map_congr_left
    intro i hi
    have hi := List.mem_range.mp hi
    have : w + 1 - 1 - i = (w - 1 - i) + 1 := by omega
    rw [this, Nat.pow_succ, Nat.mul_comm, Nat.div_div_eq_div_mul]
  · simp

theorem beNat_append_single (bs : Bytes) (b : UInt8) : beNat (bs ++ [b]) = beNat bs * 256 + b.toNat := by
  simp [beNat, List.foldl_append]

theorem beNat_beBytes (w n : Nat) : beNat (beBytes w n) = n % 256 ^ w := by
  induction w generalizing n with
  | zero => simp [beBytes, beNat, Nat.mod_one]
  | succ w ih =>
    rw [beBytes_succ, beNat_append_single, ih, Nat.pow_succ', Nat.mod_mul, UInt8.toNat_ofNat']
    omega

end PallasVerif.Hash
