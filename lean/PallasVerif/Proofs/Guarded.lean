/-! The guarded returns of the code (`if overflow { return Err }`) are `if`s in the models: how a cascade of them is shown never
    to give a certain result (`panic`: C33, C34, C37), and how an accepted run is taken apart (C34, C37). -/
namespace PallasVerif

theorem ite_ne {α : Type} {c : Prop} [Decidable c] {a b x : α} (ha : a ≠ x) (hb : b ≠ x) :
    (if c then a else b) ≠ x := by
  split <;> assumption

theorem of_ite_eq {α : Type} {c : Prop} [Decidable c] {a b x : α} (h : (if c then a else b) = x) (ha : a ≠ x) :
    ¬ c ∧ b = x := by
  split at h
  · exact absurd h ha
  · exact ⟨‹_›, h⟩

end PallasVerif
