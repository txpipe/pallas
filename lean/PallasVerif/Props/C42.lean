import PallasVerif.Proofs.ImmutableDb
/-!
# C42 — Immutable-DB reads return exactly the requested chain suffix

`Model/ImmutableDb.lean` transcribes `chunk_binary_search`, `iterate_till_point` (after
`fix: hardano reports an exact point past the tip as not found`), `build_stack_of_chunk_names`,
`read_blocks`, `read_blocks_from_point` and `get_tip`. A database is `all`, its chunks in file order
with the newest (skipped) one last; `Intact all db` says its immutable chunks are the block lists
`db`, none empty, slots strictly increasing along the chain `db.flatten`. No bound on the number of
chunks, their sizes or the slots.

* `read_all` — every block of the immutable chunks once, in chain (= slot) order; the newest chunk
  file is excluded for every file count (`stack_length`): `no_chunk_db_is_empty`,
  `single_chunk_db_is_empty` (no block, no tip, every point refused, whatever the single file holds),
  `two_chunk_db_serves_the_older`;
* `binary_search_picks_containing_chunk` — on strictly descending first slots the modified binary
  search returns the newest chunk starting at or before the slot (`none` iff there is none), and
  on any list, ordered or not, it neither panics nor diverges unless the comparator panics
  (`binary_search_total`);
* `read_from_point_eq` — the whole `Point::Specific` path equals a loop-free list specification
  (`readSpec`); from it: `from_existing_point` (suffix starting at that block), `from_fuzzy_slot`
  (suffix from the first block at or after the slot, for slots not before the first block),
  `absent_exact_fails` (every (slot, hash) pair that is not exactly some block's:
  `right_hash_wrong_slot_fails`, `right_slot_wrong_hash_fails` spell out the two one-coordinate misses);
* `tip_is_last` — `get_tip` answers the last block of the chain.

`from_origin` — the `Point::Origin` arm: the whole chain when its first block is the genesis block,
`OriginMissing` otherwise.

`read_from_point_total`, `getTip_ne_panic` — on *arbitrary* chunk contents (blocks in any order,
read errors, undecodable bytes, empty chunks: what C43's corrupted files produce) the directory
level returns a result or an error, never a panic.

The full fuzzy clause is `FuzzyFull`; it is **false** for the unchanged code at slots before the
first block (`fuzzy_before_first_fails`, `fuzzy_full_fails_at_witness`): `read_blocks_from_point`
answers `CannotFindBlock`, and the repository's test `read_blocks_from_point_test` demands exactly that
for `Point::Specific(0, vec![])`, so this is recorded as a known finding, and `from_fuzzy_slot` is
the proved part.
-/
namespace PallasVerif.Props.C42
open PallasVerif.ImmutableDb PallasVerif.Proofs.ImmutableDb

variable {H : Type}

def toChunk (bs : List (Block H)) : Chunk H := bs.map Item.blk

def Sorted (bs : List (Block H)) : Prop := bs.Pairwise (fun a b => a.slot < b.slot)

structure Intact (all : List (Chunk H)) (db : List (List (Block H))) : Prop where
  layout : all.dropLast = db.map toChunk
  nonempty : ∀ c ∈ db, c ≠ []
  sorted : Sorted db.flatten

/-- the key the search compares; the default is never met, `Intact.nonempty` excluding the empty chunk -/
def firstSlot (bs : List (Block H)) : Nat :=
  match bs with
  | b :: _ => b.slot
  | [] => 0

theorem stack_eq (all : List (Chunk H)) (db : List (List (Block H))) (h : Intact all db) :
    stack all = db.reverse.map toChunk := by
  unfold stack; rw [h.layout, List.map_reverse]

theorem chunkCmp_toChunk (s : Nat) (bs : List (Block H)) (hne : bs ≠ []) :
    chunkCmp s (toChunk bs) = .ok (cmpNat (firstSlot bs) s) := by
  cases bs with
  | nil => exact absurd rfl hne
  | cons b t => rfl

theorem firsts_ascending (db : List (List (Block H))) (hne : ∀ c ∈ db, c ≠ []) (hs : Sorted db.flatten) :
    (db.map firstSlot).Pairwise (· < ·) := by
  rw [List.pairwise_map]
  refine (List.pairwise_flatten.1 hs).2.imp_of_mem fun {c c'} hc hc' hcc => ?_
  obtain ⟨x, xs, rfl⟩ := List.exists_cons_of_ne_nil (hne c hc)
  obtain ⟨y, ys, rfl⟩ := List.exists_cons_of_ne_nil (hne c' hc')
  exact hcc x (List.mem_cons_self ..) y (List.mem_cons_self ..)

theorem readers_reverse (l : List (List (Block H))) :
    readers (l.reverse.map toChunk) = l.flatten.map Item.blk := by
  unfold readers toChunk
  rw [← List.map_reverse, List.reverse_reverse, List.map_flatten]

-- `accepts` compares hashes; the theorems below that do not get that far take the instance all the same
set_option linter.unusedSectionVars false
variable [DecidableEq H]

theorem read_all (all : List (Chunk H)) (db : List (List (Block H))) (h : Intact all db) :
    readBlocks all = db.flatten.map Item.blk ∧ Sorted db.flatten := by
  refine ⟨?_, h.sorted⟩
  unfold readBlocks
  rw [stack_eq all db h, readers_reverse]

theorem tip_is_last (all : List (Chunk H)) (db : List (List (Block H))) (h : Intact all db) :
    getTip all = .ok db.flatten.getLast? := by
  unfold getTip
  -- `getLast?_flatten`: the last element of the first non-empty list from the end — here the first, `c`
  rw [stack_eq all db h, List.getLast?_flatten]
  cases hr : db.reverse with
  | nil => rfl
  | cons c t =>
    have hc : c ≠ [] := h.nonempty c (List.mem_reverse.1 (hr ▸ List.mem_cons_self ..))
    cases hg : c.getLast? with
    | none => exact absurd (List.getLast?_eq_none_iff.mp hg) hc
    | some b =>
      have hf : (c :: t).findSome? (fun l => l.getLast?) = some b := by
        rw [List.findSome?_cons_of_isSome (by rw [hg]; rfl), hg]
      simp only [List.map_cons, toChunk, List.getLast?_map, hg, Option.map_some, hf]

theorem binary_search_picks_containing_chunk {α : Type} (chunks : List α) (first : α → Nat) (s : Nat)
    (hdesc : (chunks.map first).Pairwise (· > ·)) :
    ∃ r, chunkBinarySearch chunks (fun c => .ok (cmpNat (first c) s)) = .ok r ∧ BsSpec chunks first s r := by
  rw [List.pairwise_map, List.pairwise_iff_getElem] at hdesc
  -- the whole list is the window; nothing lies left of it or from its end on
  exact bsLoop_spec chunks first s hdesc _ 0 _ _ ⟨(Nat.zero_add _).symm, Nat.le_refl _, Nat.lt_succ_self _⟩
    (fun _ _ h => absurd h (Nat.not_lt_zero _)) (fun _ hi h => absurd hi (Nat.not_lt.2 h))

/-- no ordering assumption: indexing stays in bounds and `right - left` never underflows on any list -/
theorem binary_search_total {α : Type} (chunks : List α) (cmp : α → Res Ordering) (hc : ∀ c, cmp c ≠ .panic) :
    chunkBinarySearch chunks cmp ≠ .panic :=
  chunkBinarySearch_ne_panic chunks cmp hc

/-- the `Point::Specific` read on the chain as one list: refused when the chain is empty or starts after the
    slot (the search finds no chunk then, which is why `FuzzyFull` fails), `tillSpec` otherwise -/
def readSpec (db : List (List (Block H))) (slot : Nat) (hash : Option H) : Res (List (Item H)) :=
  match db.flatten with
  | [] => .err .cannotFind
  | b :: _ => if b.slot ≤ slot then mapRes (List.map Item.blk) (tillSpec slot hash db.flatten) else .err .cannotFind

theorem readSpec_cons (db : List (List (Block H))) (slot : Nat) (hash : Option H) (b : Block H) (rest : List (Block H))
    (hfl : db.flatten = b :: rest) :
    readSpec db slot hash =
      if b.slot ≤ slot then mapRes (List.map Item.blk) (tillSpec slot hash db.flatten) else .err .cannotFind := by
  unfold readSpec
  split
  · next hd => rw [hd] at hfl; cases hfl
  · next b' _ hd => rw [hd] at hfl; cases hfl; rfl

/-- on a sorted chain the specification may start at any block at or before the slot — so the read is
    right from *any* chunk that starts at or before it, and the minimality clause of `BsSpec` (the
    search returns the newest such chunk) is not needed below -/
theorem readSpec_of_split (db : List (List (Block H))) (hs : Sorted db.flatten) (slot : Nat) (hash : Option H)
    (pre : List (Block H)) (x : Block H) (rest : List (Block H)) (hfl : db.flatten = pre ++ x :: rest)
    (hx : x.slot ≤ slot) :
    readSpec db slot hash = mapRes (List.map Item.blk) (tillSpec slot hash (x :: rest)) := by
  have hbelow : ∀ b ∈ pre, b.slot < slot := fun b hb =>
    Nat.lt_of_lt_of_le ((List.pairwise_append.1 (hfl ▸ hs)).2.2 b hb x (List.mem_cons_self ..)) hx
  unfold readSpec
  rw [hfl, tillSpec_append_below slot hash pre _ hbelow]
  cases pre with
  | nil => exact if_pos hx
  | cons p ps => exact if_pos (Nat.le_of_lt (hbelow p (List.mem_cons_self ..)))

/-- binary search over the chunk stack, truncation of the stack, re-reading and the peek loop together
    compute `readSpec` -/
theorem read_from_point_eq (all : List (Chunk H)) (db : List (List (Block H))) (h : Intact all db)
    (slot : Nat) (hash : Option H) : readBlocksFromPoint all slot hash = readSpec db slot hash := by
  unfold readBlocksFromPoint
  -- the search runs on the block lists, under the comparator of their first slots
  simp only [stack_eq all db h, chunkBinarySearch_map toChunk db.reverse (chunkCmp slot) _ fun bs hbs =>
    chunkCmp_toChunk slot bs (h.nonempty bs (List.mem_reverse.1 hbs))]
  obtain ⟨r, hr, hspec⟩ := binary_search_picks_containing_chunk db.reverse firstSlot slot
    (by rw [List.map_reverse, List.pairwise_reverse]; exact firsts_ascending db h.nonempty h.sorted)
  rw [hr]
  cases r with
  | none =>
    -- every chunk starts after the slot, the oldest included
    have hall := bsSpec_none hspec
    unfold readSpec
    rcases db with _ | ⟨c, t⟩
    · rfl
    · obtain ⟨b, bs, rfl⟩ := List.exists_cons_of_ne_nil (h.nonempty c (List.mem_cons_self ..))
      exact (if_neg (Nat.not_le.2 (hall _ (List.mem_reverse.2 (List.mem_cons_self ..))))).symm
  | some k =>
    obtain ⟨pre, c, post, rfl, htake, hkey⟩ := bsSpec_split_reverse hspec
    obtain ⟨x, xs, rfl⟩ := List.exists_cons_of_ne_nil (h.nonempty c (by simp))
    simp only [← List.map_take, htake, readers_reverse]
    have hfl : (pre ++ (x :: xs) :: post).flatten = pre.flatten ++ x :: (xs ++ post.flatten) := by simp
    rw [readSpec_of_split _ h.sorted slot hash _ x _ hfl hkey]
    exact iterateTillPoint_eq_spec slot hash x _

theorem from_existing_point (all : List (Chunk H)) (db : List (List (Block H))) (h : Intact all db)
    (pre post : List (Block H)) (b : Block H) (hchain : db.flatten = pre ++ b :: post) :
    readBlocksFromPoint all b.slot (some b.hash) = .ok ((b :: post).map Item.blk) := by
  rw [read_from_point_eq all db h,
    readSpec_of_split db h.sorted b.slot (some b.hash) pre b post hchain (Nat.le_refl _),
    tillSpec_reached (Nat.lt_irrefl _)]
  simp [accepts, mapRes]

theorem from_fuzzy_slot (all : List (Chunk H)) (db : List (List (Block H))) (h : Intact all db)
    (slot : Nat) (b : Block H) (rest : List (Block H)) (hfl : db.flatten = b :: rest) (hb : b.slot ≤ slot) :
    readBlocksFromPoint all slot none =
      .ok ((db.flatten.dropWhile (fun x => decide (x.slot < slot))).map Item.blk) := by
  rw [read_from_point_eq all db h, readSpec_cons db slot none b rest hfl, if_pos hb, tillSpec_none]
  rfl

/-- wherever the slot lies: before the first block, between blocks, at a block with another hash, beyond the tip -/
theorem absent_exact_fails (all : List (Chunk H)) (db : List (List (Block H))) (h : Intact all db)
    (slot : Nat) (hash : H) (habs : ∀ b ∈ db.flatten, ¬ (b.slot = slot ∧ b.hash = hash)) :
    readBlocksFromPoint all slot (some hash) = .err .cannotFind := by
  rw [read_from_point_eq all db h]
  unfold readSpec
  split
  · rfl
  · rw [tillSpec_absent slot hash _ habs]
    split <;> rfl

/-- a real block's hash at a slot that is not its own (in a gap just below it, above it, anywhere)
    is an absent point -/
theorem right_hash_wrong_slot_fails (all : List (Chunk H)) (db : List (List (Block H))) (h : Intact all db)
    (b : Block H) (hb : b ∈ db.flatten) (slot : Nat) (hne : slot ≠ b.slot)
    (huniq : ∀ b' ∈ db.flatten, b'.hash = b.hash → b' = b) :
    readBlocksFromPoint all slot (some b.hash) = .err .cannotFind := by
  apply absent_exact_fails all db h
  intro b' hb' ⟨hs, hh⟩
  have := huniq b' hb' hh
  subst this
  exact hne hs.symm

theorem right_slot_wrong_hash_fails (all : List (Chunk H)) (db : List (List (Block H))) (h : Intact all db)
    (b : Block H) (hb : b ∈ db.flatten) (hash : H) (hne : hash ≠ b.hash) :
    readBlocksFromPoint all b.slot (some hash) = .err .cannotFind := by
  apply absent_exact_fails all db h
  intro b' hb' ⟨hs, hh⟩
  -- slots are strictly increasing along the chain, so the slot determines the block: `b'` is `b`
  have inj := List.Pairwise.forall_of_forall_of_flip (R := fun x y : Block H => x.slot = y.slot → x = y)
    (fun _ _ _ => rfl) (h.sorted.imp fun hlt e => absurd e (Nat.ne_of_lt hlt))
    (h.sorted.imp fun hlt e => absurd e.symm (Nat.ne_of_lt hlt))
  exact hne (inj hb' hb hs ▸ hh.symm)

theorem read_from_point_total (all : List (Chunk H)) (slot : Nat) (hash : Option H) :
    readBlocksFromPoint all slot hash ≠ .panic :=
  readBlocksFromPointF_some all slot hash ▸ readBlocksFromPointF_ne_panic _ slot hash

theorem getTip_ne_panic (all : List (Chunk H)) : getTip all ≠ .panic :=
  getTipF_some all ▸ getTipF_ne_panic _

/-- `build_stack_of_chunk_names` drops the newest chunk file whatever the count: with `n` chunk files
    exactly the `n − 1` older ones are immutable -/
theorem stack_length (all : List (Chunk H)) : (stack all).length = all.length - 1 := by
  simp [stack]

theorem no_chunk_db_is_empty (slot : Nat) (hash : Option H) :
    readBlocks ([] : List (Chunk H)) = [] ∧ getTip ([] : List (Chunk H)) = .ok none ∧
    readBlocksFromPoint ([] : List (Chunk H)) slot hash = .err .cannotFind := by
  refine ⟨rfl, rfl, ?_⟩
  simp [readBlocksFromPoint, stack, chunkBinarySearch, bsLoop]

/-- A directory with exactly one chunk file holds nothing immutable either — whatever that file
    contains: it is the newest file, still volatile, and is not read at all. -/
theorem single_chunk_db_is_empty (c : Chunk H) (slot : Nat) (hash : Option H) :
    readBlocks [c] = [] ∧ getTip [c] = .ok none ∧ readBlocksFromPoint [c] slot hash = .err .cannotFind ∧
    (∀ g, readBlocksFromOrigin g [c] = .ok []) := by
  refine ⟨rfl, rfl, ?_, fun g => rfl⟩
  simp [readBlocksFromPoint, stack, chunkBinarySearch, bsLoop]

theorem two_chunk_db_serves_the_older (c newest : Chunk H) : readBlocks [c, newest] = c := by
  simp [readBlocks, readers, stack]

theorem from_origin (isGenesis : Block H → Bool) (all : List (Chunk H)) (db : List (List (Block H))) (h : Intact all db) :
    readBlocksFromOrigin isGenesis all =
      (match db.flatten with
       | [] => .ok []
       | b :: rest => if isGenesis b then .ok ((b :: rest).map Item.blk) else .err .originMissing) := by
  unfold readBlocksFromOrigin
  rw [(read_all all db h).1]
  cases db.flatten with
  | nil => rfl
  | cons b rest => simp only [List.map_cons]

/-- the fuzzy clause as the property states it: for *every* slot -/
def FuzzyFull (all : List (Chunk H)) (db : List (List (Block H))) : Prop :=
  ∀ slot, readBlocksFromPoint all slot none =
    .ok ((db.flatten.dropWhile (fun x => decide (x.slot < slot))).map Item.blk)

theorem fuzzy_before_first_fails (all : List (Chunk H)) (db : List (List (Block H))) (h : Intact all db)
    (slot : Nat) (b : Block H) (rest : List (Block H)) (hfl : db.flatten = b :: rest) (hb : slot < b.slot) :
    readBlocksFromPoint all slot none = .err .cannotFind := by
  rw [read_from_point_eq all db h, readSpec_cons db slot none b rest hfl, if_neg (Nat.not_le.2 hb)]

def witnessAll : List (Chunk Nat) := [[.blk ⟨10, 1⟩, .blk ⟨12, 2⟩], [.blk ⟨20, 3⟩], [.blk ⟨30, 4⟩]]
def witnessDb : List (List (Block Nat)) := [[⟨10, 1⟩, ⟨12, 2⟩], [⟨20, 3⟩]]

theorem witness_intact : Intact witnessAll witnessDb :=
  ⟨by decide, by decide, by unfold Sorted; decide⟩

/-- the full fuzzy clause fails on a concrete intact database (slot 0, first block at slot 10) -/
theorem fuzzy_full_fails_at_witness : ¬ FuzzyFull witnessAll witnessDb := by
  intro hf
  have h1 := hf 0
  rw [fuzzy_before_first_fails witnessAll witnessDb witness_intact 0 ⟨10, 1⟩ [⟨12, 2⟩, ⟨20, 3⟩] rfl (by decide)] at h1
  cases h1

example : readBlocksFromPoint witnessAll 12 (some 2) = .ok [.blk ⟨12, 2⟩, .blk ⟨20, 3⟩] := by decide
example : readBlocksFromPoint witnessAll 13 none = .ok [.blk ⟨20, 3⟩] := by decide
example : readBlocksFromPoint witnessAll 25 none = .ok [] := by decide
example : readBlocksFromPoint witnessAll 25 (some 3) = .err .cannotFind := by decide
example : readBlocksFromPoint witnessAll 12 (some 9) = .err .cannotFind := by decide
-- a real block's hash at the empty slot just below it (gap 10 | 12), and in the gap before the next chunk
example : readBlocksFromPoint witnessAll 11 (some 2) = .err .cannotFind := by decide
example : readBlocksFromPoint witnessAll 19 (some 3) = .err .cannotFind := by decide
example : readBlocksFromPoint witnessAll 13 (some 2) = .err .cannotFind := by decide
example : getTip witnessAll = .ok (some ⟨20, 3⟩) := by decide
example : chunkBinarySearch [7, 4, 1] (fun c => .ok (cmpNat c 5)) = .ok (some 1) := by decide
example : chunkBinarySearch [7, 4, 1] (fun c => .ok (cmpNat c 0)) = .ok none := by decide

end PallasVerif.Props.C42
