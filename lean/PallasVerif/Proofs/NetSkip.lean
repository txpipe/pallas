import PallasVerif.Proofs.NetFuel
/-!
The items `Decoder::skip` (the counting loop of minicbor 0.26.5, `Model/NetCodec.skipLoop`) is proved exact on:
`skip` validates text, so text strings must be UTF-8 (`utf8Ok`). `skippable` (no indefinite array or map either) is a
special case: `utf8Ok_of_skippable`. `heads_pos`, with `heads_le_length` of `Proofs/Cbor.lean`: an encoding is not empty.

Then one round of the loop on the encoding of each kind of item, for an arbitrary loop state
(`nrounds`, `irounds`, stack): what the round consumes and which state it leaves (`step_*`, from the arm
equations of `Proofs/NetFuel.lean`). `Proofs/NetSkipFull.lean` puts the rounds together.
-/
namespace PallasVerif.NetCodec
open PallasVerif.Cbor

/-- the chunks of an indefinite string of major type `m` pass the text check: UTF-8 when `m = 3` -/
def chunkTextOk (m : Nat) : List (Head × Bytes) → Bool
  | [] => true
  | (_, bs) :: cs => (decide (m ≠ 3) || utf8Valid bs) && chunkTextOk m cs

mutual
/-- no indefinite array / map anywhere, text is UTF-8 -/
def skippable : Item → Bool
  | .atom _ => true
  | .str h bs => decide (h.major ≠ 3) || utf8Valid bs
  | .strIndef m cs => chunkTextOk m cs
  | .seq _ xs => skippableList xs
  | .seqIndef _ _ => false
  | .tag _ i => skippable i
def skippableList : List Item → Bool
  | [] => true
  | x :: xs => skippable x && skippableList xs
end

mutual
/-- text strings are UTF-8 everywhere (`skip` validates them) -/
def utf8Ok : Item → Bool
  | .atom _ => true
  | .str h bs => decide (h.major ≠ 3) || utf8Valid bs
  | .strIndef m cs => chunkTextOk m cs
  | .seq _ xs => utf8OkList xs
  | .seqIndef _ xs => utf8OkList xs
  | .tag _ i => utf8Ok i
def utf8OkList : List Item → Bool
  | [] => true
  | x :: xs => utf8Ok x && utf8OkList xs
end

mutual
theorem utf8Ok_of_skippable : ∀ i : Item, skippable i = true → utf8Ok i = true
  | .atom _, _ => rfl
  | .str _ _, h | .strIndef _ _, h => h
  | .seq _ xs, h => utf8OkList_of_skippable xs h
  | .seqIndef _ _, h => by simp [skippable] at h
  | .tag _ i, h => utf8Ok_of_skippable i h
theorem utf8OkList_of_skippable : ∀ xs : List Item, skippableList xs = true → utf8OkList xs = true
  | [], _ => rfl
  | x :: xs, h => by
    simp only [skippableList, Bool.and_eq_true] at h
    simp only [utf8OkList, utf8Ok_of_skippable x h.1, utf8OkList_of_skippable xs h.2, Bool.and_self]
end

theorem heads_pos (i : Item) : 1 ≤ heads i := by cases i <;> simp [heads]

/-- first byte of a well-formed definite head; with `h.major` known, the two facts place the byte in
    its arm of the loop (that is what the `by omega` after each `skipLoop_*` below uses) -/
theorem head_byte (h : Head) (hw : h.wf = true) (hai : h.ai ≠ 31) :
    (initByte h.major h.ai).toNat = h.major * 32 + h.ai ∧ h.ai ≤ 27 :=
  ⟨h.initByte_toNat hw, Head.ai_le_of_wf hw hai⟩

/-- the text check of `skip`, as the model writes it -/
theorem text_ok {m : Nat} {bs : Bytes} (ht : m ≠ 3 ∨ utf8Valid bs = true) : ¬ (m = 3 ∧ ¬ utf8Valid bs = true) :=
  fun h2 => ht.elim (fun h1 => h1 h2.1) h2.2

theorem skipStr_head {h : Head} (hw : h.wf = true) (hai : h.ai ≠ 31) (m : Nat) (bs : Bytes) (hl : bs.length = h.val)
    (ht : m ≠ 3 ∨ utf8Valid bs = true) (r : Bytes) : skipStr m (h.encode ++ (bs ++ r)) = .ok () r := by
  simp only [Head.encode, List.cons_append, skipStr, info_head hw, hai, if_false, unsignedArg_head h hw hai, Res.bind_ok]
  rw [← hl, readN_append, Res.bind_ok, if_neg (text_ok ht)]

theorem skipChunks_ok (m : Nat) (cs : List (Head × Bytes)) (r : Bytes) (fuel : Nat)
    (hw : chunksWf m cs = true) (ht : chunkTextOk m cs = true) (hf : cs.length < fuel) :
    skipChunks m fuel (encodeChunks cs ++ 0xff :: r) = .ok () r := by
  induction cs generalizing fuel with
  | nil =>
    cases fuel with
    | zero => omega
    | succ fuel => simp [skipChunks, encodeChunks]
  | cons c cs ih =>
    obtain ⟨h, bs⟩ := c
    cases fuel with
    | zero => omega
    | succ fuel =>
      simp only [chunksWf, chunkWf, Bool.and_eq_true, decide_eq_true_eq] at hw
      obtain ⟨⟨⟨⟨hhw, hmaj⟩, hai⟩, hlen⟩, hrest⟩ := hw
      simp only [chunkTextOk, Bool.and_eq_true, Bool.or_eq_true, decide_eq_true_eq] at ht
      have hne : initByte h.major h.ai ≠ 0xff := initByte_ne_break _ _ (Head.wf_lt hhw).1 (Head.wf_lt hhw).2 (by omega)
      have hds := defStr_head hhw hai bs hlen (encodeChunks cs ++ 0xff :: r)
      rw [hmaj] at hds
      simp only [encodeChunks, List.append_assoc]
      rw [Head.encode, List.cons_append, skipChunks, if_neg hne, ← List.cons_append, ← Head.encode, hds, Res.bind_ok, if_neg (text_ok ht.1)]
      exact ih fuel hrest ht.2 (by simpa using hf)

section
variable {nr ir : Nat} {st : List (Option Nat)} (hb : Busy nr ir st) (f : Nat) (rest : Bytes)
include hb

theorem step_atom (h : Head) (hw : (Item.atom h).wf = true) :
    skipLoop (f + 1) nr ir st ((Item.atom h).encode ++ rest) = resume f (skipTail nr ir st) rest := by
  obtain ⟨hhw, hmaj, hai⟩ := (Item.wf_atom_iff h).1 hw
  obtain ⟨hbyte, h27⟩ := head_byte h hhw hai
  rw [Item.encode, Head.encode, List.cons_append]
  by_cases hm : h.major = 0
  · rw [skipLoop_uint hb (by omega), ← List.cons_append, ← Head.encode, u64_head hhw hai hm]; rfl
  · rw [skipLoop_arg hb (by omega), info_head hhw, unsignedArg_head h hhw hai]; rfl

theorem step_str (h : Head) (bs : Bytes) (hw : (Item.str h bs).wf = true) (ht : h.major ≠ 3 ∨ utf8Valid bs = true) :
    skipLoop (f + 1) nr ir st ((Item.str h bs).encode ++ rest) = resume f (skipTail nr ir st) rest := by
  obtain ⟨hhw, hmaj, hai, hl⟩ := (Item.wf_str_iff h bs).1 hw
  obtain ⟨hbyte, h27⟩ := head_byte h hhw hai
  have hstr := skipStr_head hhw hai h.major bs hl ht rest
  rw [Item.encode, List.append_assoc]
  -- `at *`: the hypothesis about the head's bytes has to take the `b :: …` shape of the goal as well
  rw [Head.encode, List.cons_append] at *
  rw [skipLoop_str hb h.major hmaj (by omega), hstr]; rfl

theorem step_strIndef (m : Nat) (cs : List (Head × Bytes)) (hw : (Item.strIndef m cs).wf = true) (ht : chunkTextOk m cs = true) :
    skipLoop (f + 1) nr ir st ((Item.strIndef m cs).encode ++ rest) = resume f (skipTail nr ir st) rest := by
  obtain ⟨hmaj, hcw⟩ := (Item.wf_strIndef_iff m cs).1 hw
  have hbyte := initByte_toNat m 31 (by omega) (by omega)
  have hcl := encodeChunks_length cs
  have hstr : skipStr m (initByte m 31 :: (encodeChunks cs ++ 0xff :: rest)) = .ok () rest := by
    rw [skipStr, info_initByte m 31 (by omega) (by omega), if_pos rfl]
    exact skipChunks_ok m cs _ _ hcw ht (by simp only [List.length_append, List.length_cons]; omega)
  simp only [Item.encode, List.cons_append, List.append_assoc, List.nil_append]
  rw [skipLoop_str hb m hmaj (by omega), hstr]; rfl

theorem step_tag (h : Head) (i : Item) (hw : (Item.tag h i).wf = true) :
    skipLoop (f + 1) nr ir st ((Item.tag h i).encode ++ rest) = skipLoop f nr ir st (i.encode ++ rest) := by
  obtain ⟨hhw, hmaj, hai, _⟩ := (Item.wf_tag_iff h i).1 hw
  obtain ⟨hbyte, h27⟩ := head_byte h hhw hai
  rw [Item.encode, List.append_assoc, Head.encode, List.cons_append, skipLoop_tag hb (by omega), info_head hhw,
    unsignedArg_head h hhw hai]
  rfl

theorem step_seq (h : Head) (ys : List Item) (hw : (Item.seq h ys).wf = true) (hlen : ys.length ≤ U64MAX) :
    skipLoop (f + 1) nr ir st ((Item.seq h ys).encode ++ rest) =
      resume f (opened (some ys.length) nr ir st) (Cbor.encodeList ys ++ rest) := by
  obtain ⟨hhw, hmaj, hai, hcount, _⟩ := (Item.wf_seq_iff h ys).1 hw
  obtain ⟨hbyte, h27⟩ := head_byte h hhw hai
  have hcont := container_head hhw hai (Cbor.encodeList ys ++ rest)
  unfold seqCount at hcount
  rw [Item.encode, List.append_assoc] at *
  rw [Head.encode, List.cons_append] at *
  rcases hmaj with hm | hm
  · rw [skipLoop_array hb (by omega), array, ← hm, hcont, Res.bind_ok, hcount, if_pos hm]
  · rw [if_neg (by omega)] at hcount
    have hs2 : satMul2 h.val = ys.length := by unfold satMul2; unfold U64MAX at hlen ⊢; rw [if_neg (by omega)]; exact hcount.symm
    rw [skipLoop_map hb (by omega), map, ← hm, hcont, Res.bind_ok, Option.map_some, hs2]

theorem step_seqIndef (m : Nat) (ys : List Item) (hm : m = 4 ∨ m = 5) :
    skipLoop (f + 1) nr ir st ((Item.seqIndef m ys).encode ++ rest) =
      resume f (opened none nr ir st) (Cbor.encodeList ys ++ 0xff :: rest) := by
  have hbyte := initByte_toNat m 31 (by omega) (by omega)
  have hcont : container m (initByte m 31 :: (Cbor.encodeList ys ++ 0xff :: rest)) = .ok none (Cbor.encodeList ys ++ 0xff :: rest) := by
    rw [container, major_initByte m 31 (by omega) (by omega), info_initByte m 31 (by omega) (by omega), if_neg (fun hne => hne rfl),
      if_pos rfl]
  simp only [Item.encode, List.cons_append, List.append_assoc, List.nil_append]
  rcases hm with hm | hm <;> subst hm
  · rw [skipLoop_array hb (by omega), array, hcont]; rfl
  · rw [skipLoop_map hb (by omega), map, hcont]; rfl

end

end PallasVerif.NetCodec
