import PallasVerif.Proofs.NetFuel
import PallasVerif.Model.NetMsg
/-!
Every decoder that sits under an indefinite array / map in the message codecs consumes at least one
byte when it succeeds (`Progress`), so the element loops (`decBreak`) of the model never exhaust
their fuel (`Props/C09.message_element_loops_never_out_of_fuel`, `vec_*_never_out_of_fuel`).
The proof for each decoder follows its definition (the calculus of `Proofs/NetFuel.lean`).
-/
namespace PallasVerif.NetCodec

theorem noGrow_err {α : Type} : NoGrow (fun _ => (Res.err : Res α)) := by intro bs b r h; simp at h

theorem progress_anyCbor : Progress anyCbor := by
  intro bs a r h
  unfold anyCbor at h
  obtain ⟨_, r1, h1, h2⟩ := Res.bind_eq_ok h
  simp only [Res.ok.injEq] at h2
  rw [← h2.2]
  exact (skipLoop_le _ _ _ _ _ _ h1).2 (by simp [Busy])

theorem progress_uMax (m : Nat) : Progress (uMax m) := progress_bind progress_u64 fun _ => noGrow_guard _ _

theorem progress_bool : Progress NetCodec.bool :=
  progress_cons rfl fun b => noGrow_ite _ (noGrow_ok false) <| noGrow_ite _ (noGrow_ok true) (noGrow_of_ne_ok (mismatch_ne_ok b))

theorem progress_bytes : Progress bytes := progress_defStr 2

theorem progress_str : Progress str := progress_bind (progress_defStr 3) fun _ => noGrow_guard _ _

theorem progress_array : Progress array := progress_container 4

theorem progress_tag : Progress tag :=
  progress_cons rfl fun b => noGrow_ite _ (noGrow_of_ne_ok (mismatch_ne_ok b)) (noGrow_arg _)

theorem progress_labelled : Progress NetMsg.labelled :=
  progress_bind progress_array fun _ => (progress_uMax _).noGrow

theorem progress_vec {α : Type} {d : Dec α} (hd : NoGrow d) : Progress (vec d) :=
  progress_bind progress_array fun len =>
    match len with
    | some n => noGrow_decN hd n
    | none => fun r a r' h => noGrow_decBreak hd _ r a r' h

open PallasVerif.NetMsg

theorem progress_point : Progress Point.dec := by
  refine progress_bind progress_array fun size bs a r h => ?_
  split at h
  · cases h; exact Nat.le_refl _
  · exact (noGrow_bind progress_u64.noGrow fun _ => noGrow_bind progress_bytes.noGrow fun _ => noGrow_ok _) bs a r h
  · cases h

theorem progress_eraTxId : Progress EraTxId.dec :=
  progress_bind progress_array fun _ => noGrow_bind (progress_uMax _).noGrow fun _ =>
    noGrow_bind progress_bytes.noGrow fun _ => noGrow_ok _

theorem progress_eraTx : Progress EraTx.dec :=
  progress_bind progress_array fun _ => noGrow_bind (progress_uMax _).noGrow fun _ =>
    noGrow_bind progress_tag.noGrow fun _ => noGrow_ite _ (noGrow_of_ne_ok (by simp)) <|
    noGrow_bind progress_bytes.noGrow fun _ => noGrow_ok _

theorem progress_txIdAndSize : Progress TxIdAndSize.dec :=
  progress_bind progress_array fun _ => noGrow_bind progress_eraTxId.noGrow fun _ =>
    noGrow_bind (progress_uMax _).noGrow fun _ => noGrow_ok _

theorem progress_peerAddress (portMax : Nat) : Progress (PeerAddress.dec portMax) := by
  refine progress_bind progress_labelled fun label => ?_
  intro bs a r h
  split at h
  · exact (noGrow_bind (progress_uMax _).noGrow fun _ => noGrow_bind (progress_uMax _).noGrow fun _ => noGrow_ok _) bs a r h
  · exact (noGrow_bind (progress_uMax _).noGrow fun _ => noGrow_bind (progress_uMax _).noGrow fun _ =>
      noGrow_bind (progress_uMax _).noGrow fun _ => noGrow_bind (progress_uMax _).noGrow fun _ =>
      noGrow_bind (progress_uMax _).noGrow fun _ => noGrow_ok _) bs a r h
  · simp at h

theorem progress_dmqPayload : Progress DmqPayload.dec :=
  progress_bind progress_array fun _ => noGrow_bind progress_bytes.noGrow fun _ =>
    noGrow_bind progress_u64.noGrow fun _ => noGrow_bind (progress_uMax _).noGrow fun _ => noGrow_ok _

theorem progress_dmqOpCert : Progress DmqOpCert.dec :=
  progress_bind progress_array fun _ => noGrow_bind progress_bytes.noGrow fun _ =>
    noGrow_bind progress_u64.noGrow fun _ => noGrow_bind progress_u64.noGrow fun _ =>
    noGrow_bind progress_bytes.noGrow fun _ => noGrow_ok _

theorem progress_dmqMsg : Progress DmqMsg.dec :=
  progress_bind progress_array fun _ => noGrow_bind progress_bytes.noGrow fun _ =>
    noGrow_bind progress_dmqPayload.noGrow fun _ => noGrow_bind progress_bytes.noGrow fun _ =>
    noGrow_bind progress_dmqOpCert.noGrow fun _ => noGrow_bind progress_bytes.noGrow fun _ => noGrow_ok _

theorem progress_pair {α β : Type} {da : Dec α} {db : Dec β} (ha : Progress da) (hb : NoGrow db) : Progress (pair da db) :=
  progress_bind ha fun _ => noGrow_bind hb fun _ => noGrow_ok _

end PallasVerif.NetCodec
