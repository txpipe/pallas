import PallasVerif.Model.RefMath
import PallasVerif.Proofs.Decimal
/-! The fixed-point Taylor terms both loops of `math_dashu.rs` compute (core Lean only): `tterm x i`
    `≈ x^(i+1)/(i+1)!` as `ref_exp_cmp` and `mp_exp_taylor` compute it (floor `scale`, truncating `div`),
    the partial sums `psum`, and the divisor `(n+1)·10^34` both loops step. (The C15/C16 theorems name them
    `Proofs.ExpCmp.tterm`, `Proofs.ExpCmp.psum`; hence the namespace.) -/
namespace PallasVerif.Proofs.ExpCmp
open PallasVerif.Decimal PallasVerif.RefMath PallasVerif.Proofs.Decimal

/-- `ref_exp_cmp`'s `error` variable after `i` iterations, in the shape the loop body has once its two-step
    `div` is read as one truncating division (`div_eq_tdiv`); `tterm_succ` cancels the `10^34` -/
def tterm (x : Int) : Nat → Int
  | 0 => x
  | i + 1 => (scale (tterm x i * x) * P).tdiv (((i : Int) + 2) * P)

/-- the `rop` variable after `n` iterations: `1 + Σ_{i<n} tterm x i` -/
def psum (x : Int) : Nat → Int
  | 0 => ONE
  | n + 1 => psum x n + tterm x n

theorem tterm_succ (x : Int) (i : Nat) :
    tterm x (i + 1) = (scale (tterm x i * x)).tdiv ((i : Int) + 2) :=
  Int.mul_tdiv_mul_of_pos_left _ _ P_pos

theorem absLt_EPS_iff {t : Int} (ht : 0 ≤ t) : absLt t EPS = true ↔ t < EPS := by
  have : (0 : Int) ≤ EPS := by decide
  simp only [absLt, decide_eq_true_eq]; omega

theorem tterm_nonneg (x : Int) (hx : 0 ≤ x) (i : Nat) : 0 ≤ tterm x i := by
  induction i with
  | zero => exact hx
  | succ i ih =>
    rw [tterm_succ]
    exact Int.tdiv_nonneg (scale_nonneg _ (Int.mul_nonneg ih hx)) (by omega)

theorem psum_ge_one (x : Int) (hx : 0 ≤ x) (n : Nat) : ONE ≤ psum x n := by
  induction n with
  | zero => exact Int.le_refl _
  | succ n ih => have := tterm_nonneg x hx n; simp only [psum]; omega

theorem psum_pos (x : Int) (hx : 0 ≤ x) (n : Nat) : 0 < psum x n :=
  Int.lt_of_lt_of_le P_pos (psum_ge_one x hx n)

theorem divisor_ne (k : Int) (hk : 0 < k) : k * P ≠ 0 := Int.ne_of_gt (Int.mul_pos hk P_pos)

/-- `divisor += ONE` in either Taylor loop -/
theorem divisor_step (n : Nat) : ((n : Int) + 1) * P + ONE = (((n + 1 : Nat) : Int) + 1) * P := by
  rw [Int.natCast_succ, Int.add_mul ((n : Int) + 1) 1 P, Int.one_mul, ONE]

end PallasVerif.Proofs.ExpCmp
