import PallasVerif.Model.Rollback
/-!
# C26 — Rollback buffer behaves like a chain-suffix model

`Model/Rollback.lean` transcribes the deque operations (index based: `position`,
`truncate(x+1)`, `checked_sub`, `drain(0..ready)`). Here a *specification* on the chain suffix as a list
is given: roll-back without indices (`specUpTo`, by recursion on the list), popping as `take`/`drop` at
`length - d` without the `checked_sub` case split. The model is shown to refine it for every operation
(`step_eq_spec`), hence for every history (`buffer_refines_spec`).
-/
namespace PallasVerif.Props.C26
open PallasVerif.Rollback

-- `pop_spec` and `latest_after_fwd` carry `[DecidableEq α]` without needing it
set_option linter.unusedSectionVars false
variable {α : Type} [DecidableEq α]

def specUpTo (p : α) : List α → List α
  | [] => []
  | x :: xs => if x = p then [x] else x :: specUpTo p xs

def specBack (b : List α) (p : α) : Effect × List α :=
  if p ∈ b then (.handled, specUpTo p b) else (.outOfScope, [])

/-- the `d` newest points stay, the rest (oldest first) is returned -/
def specPop (b : List α) (d : Nat) : List α × List α :=
  (b.take (b.length - d), b.drop (b.length - d))

def specStep (b : List α) : Op α → List α × Out α
  | .fwd p => (b ++ [p], .unit)
  | .back p => let r := specBack b p; (r.2, .effect r.1)
  | .pop d => let r := specPop b d; (r.2, .popped r.1)

theorem findIdx?_of_not_mem {l : List α} {p : α} (h : p ∉ l) : l.findIdx? (· = p) = none :=
  List.findIdx?_eq_none_iff.mpr fun _ hx => decide_eq_false fun e => h (e ▸ hx)

/-- On a buffer split at the first occurrence of `p` (`split_first`) the specification and the model
    (`rollBack_append`) both keep `pre ++ [p]`. -/
theorem specUpTo_append {p : α} {pre : List α} (rest : List α) (h : p ∉ pre) :
    specUpTo p (pre ++ p :: rest) = pre ++ [p] := by
  induction pre with
  | nil => simp [specUpTo]
  | cons x xs ih =>
    have hx : x ≠ p := fun e => h (e ▸ List.mem_cons_self ..)
    simp [specUpTo, hx, ih (fun hm => h (List.mem_cons_of_mem _ hm))]

/-- core's `List.eq_append_cons_of_mem` is this statement, but its proof rests on `Classical.choice`, which the theorems of
    this property are free of -/
theorem split_first {p : α} : ∀ {b : List α}, p ∈ b → ∃ pre rest, b = pre ++ p :: rest ∧ p ∉ pre
  | x :: xs, h => by
    by_cases hx : x = p
    · exact ⟨[], xs, hx ▸ rfl, List.not_mem_nil⟩
    · obtain ⟨pre, rest, rfl, hp⟩ := split_first ((List.mem_cons.mp h).resolve_left (Ne.symm hx))
      exact ⟨x :: pre, rest, rfl, fun hm => (List.mem_cons.mp hm).elim (hx ·.symm) hp⟩

theorem rollBack_append {p : α} {pre : List α} (rest : List α) (h : p ∉ pre) :
    rollBack (pre ++ p :: rest) p = (.handled, pre ++ [p]) := by
  -- nothing in `pre` matches, so `position` is `pre.length` and `truncate(x + 1)` keeps `pre ++ [p]`
  simp [rollBack, position, findIdx?_of_not_mem h, List.findIdx?_cons, List.take_append, List.take_of_length_le (Nat.le_succ pre.length)]

/-- roll-back to a buffered point keeps everything up to (and including) it -/
theorem rollback_found (b : Buf α) (p : α) (h : p ∈ b) :
    rollBack b p = (.handled, specUpTo p b) := by
  obtain ⟨pre, rest, rfl, hp⟩ := split_first h
  rw [rollBack_append rest hp, specUpTo_append rest hp]

/-- roll-back to an unknown point empties the buffer and reports out-of-scope -/
theorem rollback_missing (b : Buf α) (p : α) (h : p ∉ b) :
    rollBack b p = (.outOfScope, []) := by
  simp [rollBack, position, findIdx?_of_not_mem h]

theorem rollBack_eq_spec (b : Buf α) (p : α) : rollBack b p = specBack b p := by
  unfold specBack
  by_cases h : p ∈ b
  · rw [if_pos h, rollback_found b p h]
  · rw [if_neg h, rollback_missing b p h]

/-- popping returns the oldest points beyond the requested depth, in order -/
theorem pop_spec (b : Buf α) (d : Nat) : popWithDepth b d = specPop b d := by
  unfold popWithDepth specPop
  split
  · rfl
  · next h => rw [Nat.sub_eq_zero_of_le (Nat.le_of_not_le h)]; rfl

theorem pop_partition (b : Buf α) (d : Nat) :
    (popWithDepth b d).1 ++ (popWithDepth b d).2 = b ∧
    (popWithDepth b d).2.length = min d b.length := by
  rw [pop_spec]
  exact ⟨List.take_append_drop .., List.length_drop.trans ((Nat.sub_sub_eq_min ..).trans (Nat.min_comm ..))⟩

theorem step_eq_spec (b : Buf α) (op : Op α) : step b op = specStep b op := by
  cases op with
  | fwd p => rfl
  | back p => simp only [step, specStep, rollBack_eq_spec]
  | pop d => simp only [step, specStep, pop_spec]

def specRun (b : List α) (ops : List (Op α)) : List α :=
  ops.foldl (fun b op => (specStep b op).1) b

/-- For every operation history the buffer holds exactly the points the list
    specification holds. -/
theorem buffer_refines_spec (b : Buf α) (ops : List (Op α)) : run b ops = specRun b ops := by
  simp only [run, specRun, step_eq_spec]

/-! ## History-level chain view: confirmed output is never retracted

`runOut` also collects what `pop_with_depth` returned over a whole history. The followed
chain is `popped ++ buffer`; the theorems below say that roll-forward extends it, popping
leaves it unchanged (it only moves the confirmed/volatile boundary), and a roll-back — found
or not — never touches what has already been popped. -/

def runOut (b : Buf α) (acc : List α) : List (Op α) → List α × Buf α
  | [] => (acc, b)
  | .fwd p :: ops => runOut (rollForward b p) acc ops
  | .back p :: ops => runOut (rollBack b p).2 acc ops
  | .pop d :: ops => runOut (popWithDepth b d).2 (acc ++ (popWithDepth b d).1) ops

/-- The accumulator is only ever extended, and the buffer does not depend on it. -/
theorem runOut_eq (b : Buf α) (acc : List α) (ops : List (Op α)) :
    runOut b acc ops = (acc ++ (runOut b [] ops).1, run b ops) := by
  induction ops generalizing b acc with
  | nil => simp [runOut, run]
  | cons op ops ih =>
    cases op with
    | fwd p | back p => exact ih _ _
    | pop d =>
      -- the hypothesis on both sides: at `acc ++ popped` on the left, at `popped` on the right
      simp only [runOut, List.nil_append]
      rw [ih _ (acc ++ _), ih _ (popWithDepth b d).1, List.append_assoc]
      rfl

/-- popped output only ever grows: what was confirmed before a history is a prefix of what
    is confirmed after it, whatever roll-backs the history contains -/
theorem popped_monotone (b : Buf α) (acc : List α) (ops : List (Op α)) :
    ∃ more, (runOut b acc ops).1 = acc ++ more :=
  ⟨_, congrArg Prod.fst (runOut_eq b acc ops)⟩

/-- a roll-back keeps a prefix of the buffer (nothing is invented or reordered) -/
theorem rollBack_prefix (b : Buf α) (p : α) : ∃ rest, b = (rollBack b p).2 ++ rest := by
  by_cases h : p ∈ b
  · obtain ⟨pre, rest, rfl, hp⟩ := split_first h
    exact ⟨rest, by rw [rollBack_append rest hp, List.append_assoc]; rfl⟩
  · exact ⟨b, by rw [rollback_missing b p h]; rfl⟩

def forwarded : List (Op α) → List α
  | [] => []
  | .fwd p :: ops => p :: forwarded ops
  | _ :: ops => forwarded ops

def noBack : List (Op α) → Bool
  | [] => true
  | .back _ :: _ => false
  | _ :: ops => noBack ops

/-- without roll-backs the followed chain `popped ++ buffer` is exactly the start chain
    extended by the forwarded points, in order: nothing is lost, duplicated or reordered,
    for any interleaving of `roll_forward` and `pop_with_depth` at any depths -/
theorem chain_conserved (b : Buf α) (acc : List α) (ops : List (Op α)) (h : noBack ops = true) :
    (runOut b acc ops).1 ++ (runOut b acc ops).2 = acc ++ b ++ forwarded ops := by
  induction ops generalizing b acc with
  | nil => simp [runOut, forwarded]
  | cons op ops ih =>
    cases op with
    | fwd p => exact (ih (rollForward b p) acc h).trans (by simp [rollForward, forwarded])
    | back p => cases h
    | pop d =>
      refine (ih _ _ h).trans ?_
      rw [List.append_assoc acc, (pop_partition b d).1]
      rfl

/-- in general (roll-backs included) the followed chain after a history is the confirmed
    part, which extends what was confirmed before, followed by the buffer -/
theorem chain_after_history (b : Buf α) (acc : List α) (ops : List (Op α)) :
    ∃ more, (runOut b acc ops).1 ++ (runOut b acc ops).2 = acc ++ more ++ run b ops :=
  ⟨_, by rw [runOut_eq]⟩

theorem latest_after_rollback (b : Buf α) (p : α) (h : p ∈ b) :
    latest (rollBack b p).2 = some p := by
  obtain ⟨pre, rest, rfl, hp⟩ := split_first h
  rw [rollBack_append rest hp]
  exact List.getLast?_concat

theorem rollBack_idem (b : Buf α) (p : α) (h : p ∈ b) :
    rollBack (rollBack b p).2 p = rollBack b p := by
  obtain ⟨pre, rest, rfl, hp⟩ := split_first h
  rw [rollBack_append rest hp]
  exact rollBack_append [] hp

theorem latest_after_fwd (b : Buf α) (p : α) : latest (rollForward b p) = some p := by
  simp [latest, rollForward]

example : runOut [1, 2] [] [.fwd 3, .pop 1, .back 3, .fwd 4, .pop 0] = ([1, 2, 3, 4], ([] : List Nat)) := by
  decide
example : noBack ([.fwd 3, .pop 1, .fwd 4] : List (Op Nat)) = true := by decide
example : rollBack [1, 2, 3, 2, 4] 2 = (.handled, [1, 2]) := by decide
example : rollBack [1, 2, 3] 7 = (.outOfScope, ([] : List Nat)) := by decide
example : popWithDepth [1, 2, 3, 4, 5] 2 = ([1, 2, 3], [4, 5]) := by decide
example : popWithDepth [1, 2] 5 = ([], [1, 2]) := by decide

end PallasVerif.Props.C26
