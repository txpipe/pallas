import PallasVerif.Model.P2PProto
import PallasVerif.Gen.FsmN2
/-! Tie A for the protocol machines of the P2P behaviour models: the hand transcription
    `Model/P2PProto.lean` (`*.apply`) agrees, for every state and every message, with the table
    `Gen/FsmN2.lean` that `lib/translate_fsm.py` regenerates from the `State::apply` functions of
    `pallas-network2/src/protocol/*` on every run — same acceptance, same successor state class.
    A changed arm in the Rust changes the generated table and breaks these theorems (fail closed). -/
namespace PallasVerif.P2P
open PallasVerif.Fsm PallasVerif.Gen

def HsSt.cls : HsSt → String
  | .propose => "Propose" | .confirm _ => "Confirm" | _ => "Done"
def HsMsg.kind : HsMsg → String
  | .propose _ => "Propose" | .accept _ _ => "Accept" | .refuse => "Refuse" | .queryReply => "QueryReply"

def KaSt.cls : KaSt → String
  | .client _ => "Client" | .server _ => "Server" | .done => "Done"
def KaMsg.kind : KaMsg → String
  | .keepAlive _ => "KeepAlive" | .response _ => "ResponseKeepAlive" | .done => "Done"

def PsSt.cls : PsSt → String
  | .idle _ => "Idle" | .busy _ => "Busy" | .done => "Done"
def PsMsg.kind : PsMsg → String
  | .shareRequest _ => "ShareRequest" | .sharePeers _ => "SharePeers" | .done => "Done"

def BfSt.cls : BfSt → String
  | .idle => "Idle" | .busy _ => "Busy" | .streaming _ => "Streaming" | .done => "Done"
def BfMsg.kind : BfMsg → String
  | .requestRange _ => "RequestRange" | .clientDone => "ClientDone" | .startBatch => "StartBatch"
  | .noBlocks => "NoBlocks" | .block _ => "Block" | .batchDone => "BatchDone"

def CsSt.cls : CsSt → String
  | .idle _ => "Idle" | .canAwait => "CanAwait" | .mustReply => "MustReply" | .intersect => "Intersect" | .done => "Done"
def CsMsg.kind : CsMsg → String
  | .requestNext => "RequestNext" | .awaitReply => "AwaitReply" | .rollForward _ => "RollForward"
  | .rollBackward _ => "RollBackward" | .findIntersect => "FindIntersect" | .intersectFound _ => "IntersectFound"
  | .intersectNotFound => "IntersectNotFound" | .done => "Done"

def TxSt.cls : TxSt → String
  | .init => "Init" | .idle => "Idle" | .txIdsNonBlocking => "TxIdsNonBlocking" | .txIdsBlocking => "TxIdsBlocking"
  | .txs _ => "Txs" | .done => "Done"
def TxMsg.kind : TxMsg → String
  | .init => "Init" | .requestTxIds true => "RequestTxIds(true)" | .requestTxIds false => "RequestTxIds(false)"
  | .replyTxIds => "ReplyTxIds" | .requestTxs => "RequestTxs" | .replyTxs _ => "ReplyTxs" | .done => "Done"

def LnSt.cls : LnSt → String
  | .idle _ => "Idle" | .busy => "Busy" | .done => "Done"
def LnMsg.kind : LnMsg → String
  | .requestNext => "RequestNext" | .blockAnnouncement => "BlockAnnouncement" | .blockOffer => "BlockOffer"
  | .blockTxsOffer => "BlockTxsOffer" | .votes => "Votes" | .done => "Done"

def LfSt.cls : LfSt → String
  | .idle _ => "Idle" | .awaitingBlock _ => "AwaitingBlock" | .awaitingBlockTxs _ => "AwaitingBlockTxs" | .done => "Done"
def LfMsg.kind : LfMsg → String
  | .blockRequest _ => "BlockRequest" | .block => "Block" | .blockTxsRequest _ => "BlockTxsRequest"
  | .blockTxs => "BlockTxs" | .done => "Done"

/-! Each case is a closed table lookup once `cls`, `kind` and `apply` are reduced; `decide` evaluates it. -/

theorem hs_matches_source (s : HsSt) (m : HsMsg) :
    (FsmN2.handshake.step s.cls m.kind).next? = (s.apply m).map HsSt.cls := by
  cases s <;> cases m <;> simp only [HsSt.cls, HsMsg.kind, HsSt.apply, Option.map] <;> decide

theorem ka_matches_source (s : KaSt) (m : KaMsg) :
    (FsmN2.keepalive.step s.cls m.kind).next? = (s.apply m).map KaSt.cls := by
  cases s <;> cases m <;> simp only [KaSt.cls, KaMsg.kind, KaSt.apply, Option.map] <;> decide

theorem ps_matches_source (s : PsSt) (m : PsMsg) :
    (FsmN2.peersharing.step s.cls m.kind).next? = (s.apply m).map PsSt.cls := by
  cases s <;> cases m <;> simp only [PsSt.cls, PsMsg.kind, PsSt.apply, Option.map] <;> decide

theorem bf_matches_source (s : BfSt) (m : BfMsg) :
    (FsmN2.blockfetch.step s.cls m.kind).next? = (s.apply m).map BfSt.cls := by
  cases s <;> cases m <;> simp only [BfSt.cls, BfMsg.kind, BfSt.apply, Option.map] <;> decide

theorem cs_matches_source (s : CsSt) (m : CsMsg) :
    (FsmN2.chainsync.step s.cls m.kind).next? = (s.apply m).map CsSt.cls := by
  cases s <;> cases m <;> simp only [CsSt.cls, CsMsg.kind, CsSt.apply, Option.map] <;> decide

theorem tx_matches_source (s : TxSt) (m : TxMsg) :
    (FsmN2.txsubmission.step s.cls m.kind).next? = (s.apply m).map TxSt.cls := by
  cases m with
  | requestTxIds b => cases b <;> cases s <;> simp only [TxSt.cls, TxMsg.kind, TxSt.apply, Option.map] <;> decide
  | _ => cases s <;> simp only [TxSt.cls, TxMsg.kind, TxSt.apply, Option.map] <;> decide

theorem ln_matches_source (s : LnSt) (m : LnMsg) :
    (FsmN2.leiosnotify.step s.cls m.kind).next? = (s.apply m).map LnSt.cls := by
  cases s <;> cases m <;> simp only [LnSt.cls, LnMsg.kind, LnSt.apply, Option.map] <;> decide

theorem lf_matches_source (s : LfSt) (m : LfMsg) :
    (FsmN2.leiosfetch.step s.cls m.kind).next? = (s.apply m).map LfSt.cls := by
  cases s <;> cases m <;> simp only [LfSt.cls, LfMsg.kind, LfSt.apply, Option.map] <;> decide

end PallasVerif.P2P
