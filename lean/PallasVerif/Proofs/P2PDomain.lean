import PallasVerif.Proofs.P2PLinks
/-! The domain of C28's theorem on the general schedule semantics: (a) no step queues a `Send` of protocol X for a
    connection that still has an unconfirmed `Send` of X (`EmitOK`; the complement is the known finding), (b) a reply
    of protocol X is not delivered before the `Sent` of the pending X request, (c) no housekeeping order names a peer
    twice (`StepOK`, `InDomain`). Then: lock-step runs (`syncRun`) are runs on schedules in the domain
    (`lockstep_schedule`), because between two lock-step steps nothing is unconfirmed (`Queues`). -/
namespace PallasVerif.P2P

def EmitOK (y : Sys) (outs : List Out) : Prop :=
  ∀ p l, y.links p = .up l → ∀ m, m ∈ sendsTo p outs → ∀ m', m' ∈ l.unconfirmed → m'.proto ≠ m.proto

def FeedOK (y : Sys) (e : Ev) : Prop := ∀ f, step y.st e = some f → EmitOK y f.out

/-- the side conditions of the domain, per schedule step -/
def StepOK (y : Sys) : Sched → Prop
  | .ev e => (SStep.cmd e).ok ∧ FeedOK y e
  | .connect p => FeedOK { y with links := setLink y.links p (.up {}) } (.connected p)
  | .fail p => FeedOK y (.error p)
  | .deliver p n => ∀ l, y.links p = .up l → ∀ m, m ∈ l.toInit.take (n + 1) → ∀ m', m' ∈ l.unconfirmed → m'.proto ≠ m.proto
  | _ => True

def InDomain : Sys → List Sched → Prop
  | _, [] => True
  | y, a :: as => StepOK y a ∧ ∀ y1, sysStep y a = some y1 → InDomain y1 as

/-! ### lock-step schedules lie in the domain

  The `confirm`/`arrive` steps that follow a step carry no side condition. -/

/-- while the `Send`s of `outs` are being settled, both queues of a live link hold those still to come and nothing else;
    `Queues y []` is the state between two lock-step steps -/
def Queues (y : Sys) (outs : List Out) : Prop :=
  ∀ p l, y.links p = .up l → l.unconfirmed = sendsTo p outs ∧ l.toResp = sendsTo p outs

theorem Queues.set {y : Sys} (hq : Queues y []) (p : Nat) {lp : LinkSt}
    (h : ∀ l, lp = .up l → l.unconfirmed = [] ∧ l.toResp = []) :
    Queues { y with links := setLink y.links p lp } [] := by
  intro q l hl
  have hl' : setLink y.links p lp q = .up l := hl
  by_cases e : q = p
  · subst e; rw [setLink_same] at hl'; exact h l hl'
  · rw [setLink_other _ _ e] at hl'; exact hq q l hl'

theorem feed_queues {y y1 : Sys} {e : Ev} (hq : Queues y []) (h : feed y e = some y1) : Queues y1 y1.st.out := by
  obtain ⟨f, -, rfl⟩ := feed_some h
  intro p l1 h1
  have h1' : absorb y.links f.out p = .up l1 := h1
  cases hl : y.links p with
  | up l =>
    rw [absorb_apply, hl] at h1'
    cases h1'
    obtain ⟨hu, ht⟩ := hq p l hl
    exact ⟨by rw [hu]; rfl, by rw [ht]; rfl⟩
  | pending => rw [absorb_apply, hl] at h1'; cases h1'
  | down =>
    simp only [absorb_apply, hl] at h1'
    split at h1' <;> cases h1'

/-- the head `send p m` of `outs` is the head of both queues of `p`'s link, so `confirm p; arrive p` pops exactly that one
    (`sysStep_confirm`, `sysStep_arrive`) and leaves `Queues` for the rest; with no live link both steps skip -/
theorem settle_queues : ∀ (outs : List Out) {y y' : Sys}, Queues y outs → sysRun y (settleOf outs) = some y' →
    Queues y' [] := by
  intro outs
  induction outs with
  | nil => intro y y' hq h; cases h; exact hq
  | cons o os ih =>
    intro y y' hq h
    cases o with
    | connect q | disconnect q | event ev => exact ih hq h
    | send p m =>
      have others : ∀ q l, q ≠ p → y.links q = .up l → l.unconfirmed = sendsTo q os ∧ l.toResp = sendsTo q os :=
        fun q l e hl => by have := hq q l hl; rwa [sendsTo_cons_other m os e] at this
      cases hl : y.links p with
      | up l =>
        obtain ⟨hu, ht⟩ := hq p l hl
        rw [sendsTo_cons_same] at hu ht
        simp only [settleOf, sysRun, sysStep_confirm hl hu] at h
        split at h
        · cases h
        · rename_i y2 h2
          obtain ⟨l2, hlinks, hu2, ht2⟩ := sysStep_arrive (l := { l with unconfirmed := sendsTo p os }) (setLink_same y.links p _) ht h2
          refine ih (fun q lq hq' => ?_) h
          rw [hlinks] at hq'
          dsimp only at hq'
          by_cases e : q = p
          · subst e; rw [setLink_same] at hq'; cases hq'; exact ⟨hu2, ht2⟩
          · rw [setLink_other _ _ e, setLink_other _ _ e] at hq'; exact others q lq e hq'
      | _ =>
        simp only [settleOf, sysRun, sysStep, hl] at h
        exact ih (fun q lq hq' => others q lq (fun e => by subst e; rw [hl] at hq'; cases hq') hq') h

/-- an event fed and settled at once, from `y0` (`y` with the link prepared): as a schedule, and nothing is left unconfirmed -/
theorem feedSettle_sched {y : Sys} (y0 : Sys) (e : Ev) (h0 : Queues y [] → Queues y0 []) :
    ∃ outs : List Out, (feed y0 e).bind (fun y1 => sysRun y1 (settleOf outs)) = feedSettle y0 e ∧
      (Queues y [] → ∀ y', feedSettle y0 e = some y' → Queues y' []) := by
  unfold feedSettle
  cases hf : feed y0 e with
  | none => exact ⟨[], rfl, fun _ _ h => nomatch h⟩
  | some y1 => exact ⟨y1.st.out, rfl, fun hq y' h => settle_queues _ (feed_queues (h0 hq) hf) h⟩

/-- each lock-step step is the corresponding general step followed by `confirm`/`arrive` steps:
    where the general step feeds an event, the lock-step one settles what it queued (`outs` is then the
    queue of the state reached, `[]` if the initiator panics); elsewhere they agree (`outs = []`).
    Either way nothing is unconfirmed afterwards if nothing was before -/
theorem syncStep_is_schedule (y : Sys) (a : SStep) : ∃ outs : List Out,
    sysRun y (a.toSched :: settleOf outs) = syncStep y a ∧ (Queues y [] → ∀ y', syncStep y a = some y' → Queues y' []) := by
  simp only [sysRun_cons]
  -- the arms as `syncStep` lists them: cmd 1 2, connect 3 4, reply 5, deliver 6 7 8, drop 9 10, fail 11 12; an event is
  -- fed and settled in 1, 3, 7, 10, 12
  fun_cases syncStep y a
  case case5 p x k =>
    refine ⟨[], by simp only [SStep.toSched]; cases sysStep y (.reply p x k) <;> rfl, fun hq y' h => ?_⟩
    generalize ha : Sched.reply p x k = a at h
    revert h
    fun_cases sysStep y a <;> intro h <;> cases ha <;> cases h
    -- of `sysStep`'s reply arms (12 to 15) only 13 changes the state: the reply is emitted, `unconfirmed` and `toResp` stay
    case case13 l _ _ _ hl _ _ _ => exact hq.set p (fun l' hl' => by cases hl'; exact hq p l hl)
    all_goals exact hq
  all_goals simp only [SStep.toSched, sysStep, *, if_true, if_false, Bool.false_eq_true]
  case case1 | case12 => exact feedSettle_sched _ _ id
  case case3 p _ => exact feedSettle_sched _ _ (·.set p (fun l hl => by cases hl; exact ⟨rfl, rfl⟩))
  case case7 p _ l hl _ => exact feedSettle_sched _ _ (fun hq => hq.set p (fun l' hl' => by cases hl'; exact hq p l hl))
  case case10 p _ => exact feedSettle_sched _ _ (·.set p (fun l hl => by cases hl))
  -- elsewhere both steps leave the state as it is
  all_goals exact ⟨[], rfl, fun hq _ h => Option.some.inj h ▸ hq⟩

theorem stepOK_of_queues {y : Sys} {a : SStep} (hq : Queues y []) (hok : a.ok) : StepOK y a.toSched := by
  have emit : ∀ {y : Sys} (outs : List Out), Queues y [] → EmitOK y outs :=
    fun _ hq p l hl m _ m' hm' => by rw [(hq p l hl).1] at hm'; cases hm'
  cases a with
  | cmd e => exact ⟨hok, fun f _ => emit f.out hq⟩
  | connect p => exact fun f _ => emit f.out (hq.set p (fun l hl => by cases hl; exact ⟨rfl, rfl⟩))
  | reply p x k | drop p => trivial
  | deliver p n => intro l hl m _ m' hm'; rw [(hq p l hl).1] at hm'; cases hm'
  | fail p => exact fun f _ => emit f.out hq

theorem inDomain_settleOf (outs : List Out) (y : Sys) : InDomain y (settleOf outs) := by
  fun_induction settleOf outs generalizing y with
  | case1 => trivial
  | case2 p m os ih => exact ⟨trivial, fun y1 _ => ⟨trivial, fun y2 _ => ih y2⟩⟩
  | case3 o os _ ih => exact ih y

theorem inDomain_append : ∀ (a : List Sched) {b : List Sched} {y : Sys}, InDomain y a →
    (∀ y', sysRun y a = some y' → InDomain y' b) → InDomain y (a ++ b) := by
  intro a
  induction a with
  | nil => intro b y _ h2; exact h2 y rfl
  | cons x xs ih =>
    intro b y h1 h2
    exact ⟨h1.1, fun y1 hy1 => ih (h1.2 y1 hy1) (fun y' hr => h2 y' (by simp only [sysRun, hy1]; exact hr))⟩

/-- conformance on lock-step schedules is read off conformance on the domain through this -/
theorem lockstep_schedule (ss : List SStep) (y : Sys) : ∃ sched : List Sched, sysRun y sched = syncRun y ss ∧
    (Queues y [] → (∀ a, a ∈ ss → a.ok) → InDomain y sched) := by
  have hdom : ∀ {y a} outs, Queues y [] → a.ok → InDomain y (SStep.toSched a :: settleOf outs) :=
    fun outs hq hok => ⟨stepOK_of_queues hq hok, fun y1 _ => inDomain_settleOf outs y1⟩
  fun_induction syncRun y ss with
  | case1 y => exact ⟨[], rfl, fun _ _ => trivial⟩
  | case2 y a as hs =>
    -- the step panics, and so does its schedule
    obtain ⟨outs, ht, -⟩ := syncStep_is_schedule y a
    exact ⟨a.toSched :: settleOf outs, ht.trans hs, fun hq hok => hdom outs hq (hok a (List.mem_cons_self ..))⟩
  | case3 y a as y1 hs ih =>
    obtain ⟨outs, ht, hq'⟩ := syncStep_is_schedule y a
    obtain ⟨sched', hs', hd'⟩ := ih
    refine ⟨(a.toSched :: settleOf outs) ++ sched', by rw [sysRun_append, ht, hs]; exact hs', fun hq hok => ?_⟩
    refine inDomain_append _ (hdom outs hq (hok a (List.mem_cons_self ..))) (fun y' hr => ?_)
    cases (ht.trans hs).symm.trans hr
    exact hd' (hq' hq y1 hs) (fun b hb => hok b (List.mem_cons_of_mem _ hb))

end PallasVerif.P2P
