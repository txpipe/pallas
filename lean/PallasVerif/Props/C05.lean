import PallasVerif.Model.IdHash
import PallasVerif.Proofs.Cbor
import PallasVerif.Proofs.Slices
/-!
# C05 — identity hashes are taken over the original on-wire bytes (partial)

`Model/IdHash.lean` defines the identifiers (tx id, header / block hash with the Byron prefixes,
datum hash, native-script hash) as BLAKE2b of a span delimited by the strict generic parser —
no typed decoder and no encoder of ledger values occurs in the definitions. Proved here, for
all byte strings: the span hashed for a transaction id or a block hash is a contiguous slice of the wire bytes and
exactly one well-formed item, that of a witness-set datum or native script a contiguous slice (the inline datums of
`inlineDatumSpans` have no theorem here: the stream compares them);
two different encodings are different hash inputs, so an identifier computed from a normalising
re-encoding cannot agree with these on both (up to BLAKE2b collisions, which are not claimed impossible);
CBOR is prefix-free, so a `KeepRaw` whose inner decoder stops before the end of the item keeps bytes that
are not one item — exactly what the stream's oracle (span of the strict parser) compares against.

NOT proved (why this is `partial`): that pallas' typed era decoders satisfy `ConsumesItem` and
that `MultiEraTx::hash` etc. read the `KeepRaw` of the right element — this is compared, not
proved: stream `idhash` checks pallas against these definitions on every corpus tx / block /
header and on structural CBOR mutants.
-/
namespace PallasVerif.Props.C05
open PallasVerif.Cbor PallasVerif.IdHash

theorem encodeList_split (xs : List Item) (k : Nat) (hk : k < xs.length) :
    encodeList xs = encodeList (xs.take k) ++ (xs[k].encode ++ encodeList (xs.drop (k + 1))) := by
  have h : xs = xs.take k ++ xs[k] :: xs.drop (k + 1) := by
    rw [List.getElem_cons_drop hk, List.take_append_drop]
  conv => lhs; rw [h]
  rw [encodeList_append]; simp [encodeList]

def containerHead : Item → Bytes
  | .seq h _ => h.encode
  | .seqIndef m _ => [initByte m 31]
  | _ => []

theorem array_encode (top : Item) (xs : List Item) (h : top.arrayItems? = some xs) :
    ∃ tail, top.encode = containerHead top ++ (encodeList xs ++ tail) := by
  rcases Traverse.Slices.isSeqOf_arrayItems h with ⟨hd, rfl⟩ | ⟨m, rfl⟩
  · exact ⟨[], by simp [Item.encode, containerHead]⟩
  · exact ⟨[0xff], by simp [Item.encode, containerHead]⟩

/-- **the span of element `k` is a contiguous slice of the wire bytes**, positioned after the
    container head and the spans of elements `0 .. k-1`, and is one well-formed item -/
theorem elemSpan_is_slice (k : Nat) (bs span : Bytes) (h : elemSpan k bs = some span) :
    ∃ (top : Item) (xs : List Item) (post : Bytes) (hk : k < xs.length),
      top.arrayItems? = some xs ∧ top.wf = true ∧
      bs = (containerHead top ++ encodeList (xs.take k)) ++ span ++ post ∧
      span = xs[k].encode ∧ xs[k].wf = true ∧ isSingleItem span = true := by
  revert h
  fun_cases elemSpan k bs with
  | case1 top r hp xs ha =>
    intro h
    obtain ⟨x, hx, rfl⟩ := Option.map_eq_some_iff.1 h
    obtain ⟨hk, hxk⟩ := List.getElem?_eq_some_iff.mp hx
    obtain ⟨e, wtop⟩ := parseItem_sound bs top r hp
    obtain ⟨tail, ht⟩ := array_encode top xs ha
    have wx : xs[k].wf = true := Traverse.Slices.wf_of_arrayItems wtop ha _ (List.getElem_mem hk)
    refine ⟨top, xs, encodeList (xs.drop (k + 1)) ++ (tail ++ r), hk, ha, wtop, ?_, by rw [hxk], wx, ?_⟩
    · rw [e, ht, encodeList_split xs k hk, ← hxk]; simp [List.append_assoc]
    · rw [← hxk]; exact isSingleItem_encode _ wx
  | _ => exact nofun

/-- the transaction id is BLAKE2b-256 of a slice of the wire bytes that starts right after the
    outer array head (element 0), and that slice is exactly one well-formed item -/
theorem txId_is_hash_of_slice (bs d : Bytes) (h : txId bs = some d) :
    ∃ (pre span post : Bytes), bs = pre ++ span ++ post ∧ d = Blake2b.blake2b256 span ∧
      isSingleItem span = true ∧ 1 ≤ pre.length ∧ pre.length ≤ 9 := by
  simp only [txId, Option.map_eq_some_iff] at h
  obtain ⟨span, hs, rfl⟩ := h
  obtain ⟨top, xs, post, hk, ha, wtop, hb, _, _, hsingle⟩ := elemSpan_is_slice 0 bs span hs
  refine ⟨containerHead top, span, post, by simpa [encodeList] using hb, rfl, hsingle, ?_⟩
  rcases Traverse.Slices.isSeqOf_arrayItems ha with ⟨hd, rfl⟩ | ⟨m, rfl⟩
  · simp only [Item.wf, Bool.and_eq_true] at wtop
    have := head_encode_length_le hd wtop.1.1.1.1
    simp only [Head.encode, List.length_cons] at this
    simp [containerHead, Head.encode]; omega
  · simp [containerHead]

open PallasVerif.TxView PallasVerif.Traverse.Slices in
/-- the block hash is BLAKE2b-256 of (the Byron prefix and) a contiguous slice of the block bytes -/
theorem blockHash_is_hash_of_slice (bs d : Bytes) (h : blockHash bs = some d) :
    ∃ (tag : Nat) (span : Bytes), Slice span bs ∧ isSingleItem span = true ∧ d = headerHash tag span := by
  revert h
  fun_cases blockHash bs with
  | case1 v hv =>
    rintro ⟨⟩
    obtain ⟨top, rfl, wtop, hvi⟩ := viewBlock_some hv
    obtain ⟨hh, _, _, _, _, hwf⟩ := view_parts_are_slices top v hvi
    exact ⟨v.tag, v.header.encode, hh, isSingleItem_encode _ (hwf wtop), rfl⟩
  | case2 => exact nofun

open PallasVerif.TxView PallasVerif.Traverse.Slices in
theorem slice_untag258 (v : Item) : Slice (untag258 v).encode v.encode := by
  fun_cases untag258 v with
  | case1 h i => exact ⟨h.encode, [], by simp [Item.encode]⟩ -- tag 258: the item under it
  | _ => exact Slice.refl _

open PallasVerif.TxView PallasVerif.Traverse.Slices in
/-- every datum / native-script span that is hashed is a contiguous slice of the witness-set bytes -/
theorem itemsOfKey_slices (set : Bool) (k : Nat) (m x : Item) (hx : x ∈ itemsOfKey set k m) :
    Slice x.encode m.encode := by
  revert hx
  fun_cases itemsOfKey set k m with
  | case1 es hm v hg =>
    cases ha : (if set then untag258 v else v).arrayItems? with
    | none => exact nofun
    | some xs =>
      intro hx
      have h1 : Slice x.encode (if set then untag258 v else v).encode := slice_arr ha hx
      have h2 : Slice (if set then untag258 v else v).encode v.encode := by
        cases set
        · simpa using Slice.refl _
        · simpa using slice_untag258 v
      exact (h1.trans h2).trans (slice_mapGet hm hg)
  | _ => exact nofun

/-- **CBOR is prefix-free**: the well-formed item a byte string starts with is unique (the strict parser reads it back,
    whatever follows) -/
theorem encode_append_inj {i j : Item} {r s : Bytes} (wi : i.wf = true) (wj : j.wf = true)
    (h : i.encode ++ r = j.encode ++ s) : i = j ∧ r = s := by
  have a := parseItem_encode i r wi
  rw [h, parseItem_encode j s wj] at a
  cases a; exact ⟨rfl, rfl⟩

theorem encode_injective (i j : Item) (wi : i.wf = true) (wj : j.wf = true) (h : i.encode = j.encode) : i = j :=
  (encode_append_inj (r := []) (s := []) wi wj (by rw [h])).1

/-- **any two different encodings are different hash inputs** — whatever value-level
    normalisation `canon` identifies them (definite vs indefinite, head widths, entry order,
    chunking): an identifier computed from `canon` would feed BLAKE2b the same bytes for both,
    the identifiers defined here feed it different bytes -/
theorem id_input_changes_with_encoding {V : Type} (canon : Item → V) (i j : Item)
    (wi : i.wf = true) (wj : j.wf = true) (_same : canon i = canon j) (hne : i ≠ j) :
    i.encode ≠ j.encode :=
  fun h => hne (encode_injective i j wi wj h)

/-- the Byron header hash input `82 <tag> <original header bytes>` is the encoding of the array
    `[tag, header]` with the header's own (original) encoding as second element -/
theorem byron_prefix (tag : Nat) (_ht : tag < 24) (hdr : Item) :
    byronPrefixed (UInt8.ofNat tag) hdr.encode = (Item.seq ⟨4, 2, []⟩ [.atom ⟨0, tag, []⟩, hdr]).encode := by
  simp [byronPrefixed, Item.encode, encodeList, Head.encode, initByte]

theorem headerHash_cases (span : Bytes) :
    headerHash 0 span = Blake2b.blake2b256 (0x82 :: 0x00 :: span) ∧
    headerHash 1 span = Blake2b.blake2b256 (0x82 :: 0x01 :: span) ∧
    ∀ t, 2 ≤ t → headerHash t span = Blake2b.blake2b256 span := by
  refine ⟨by simp [headerHash, byronPrefixed], by simp [headerHash, byronPrefixed], ?_⟩
  intro t ht
  have h0 : t ≠ 0 := by omega
  have h1 : t ≠ 1 := by omega
  simp [headerHash, h0, h1]

/-- `MultiEraHeader::decode(tag, subtag, ·).hash()` in the model: which prefix each entry point uses -/
theorem headerHashN2N_cases (span : Bytes) :
    headerHashN2N 0 (some 0) span = Blake2b.blake2b256 (0x82 :: 0x00 :: span) ∧
    (∀ st, st ≠ some 0 → headerHashN2N 0 st span = Blake2b.blake2b256 (0x82 :: 0x01 :: span)) ∧
    (∀ t st, 1 ≤ t → headerHashN2N t st span = Blake2b.blake2b256 span) := by
  refine ⟨by simp [headerHashN2N, byronPrefixed], ?_, ?_⟩
  · intro st hst; simp [headerHashN2N, byronPrefixed, hst]
  · intro t st ht
    have : t ≠ 0 := by omega
    simp [headerHashN2N, this]

/-- `KeepRaw::decode`: run the inner decoder from `start`, keep `all[start..end]` -/
def keepRawDecode {α} (inner : Bytes → Nat → Option (α × Nat)) (all : Bytes) (start : Nat) :
    Option ((α × Bytes) × Nat) :=
  match inner all start with
  | some (a, e) => some ((a, (all.drop start).take (e - start)), e)
  | none => none

/-- the inner decoder stops exactly where the first generic item ends -/
def ConsumesItem {α} (inner : Bytes → Nat → Option (α × Nat)) (all : Bytes) (start : Nat) : Prop :=
  ∀ a e, inner all start = some (a, e) →
    ∃ span, firstSpan (all.drop start) = some span ∧ e = start + span.length

theorem keepRawDecode_some {α} {inner : Bytes → Nat → Option (α × Nat)} {all : Bytes} {start : Nat}
    {a : α} {raw : Bytes} {e : Nat} (h : keepRawDecode inner all start = some ((a, raw), e)) :
    inner all start = some (a, e) ∧ (all.drop start).take (e - start) = raw := by
  revert h
  fun_cases keepRawDecode inner all start with
  | case1 a' e' hi => rintro ⟨⟩; exact ⟨hi, rfl⟩
  | case2 => exact nofun

/-- the span the oracle hashes (the first item of the input, as delimited by the strict generic
    parser) is always exactly one well-formed item -/
theorem decoded_span_is_one_item (bs span : Bytes) (h : firstSpan bs = some span) :
    isSingleItem span = true ∧ ∃ rest, bs = span ++ rest := by
  cases hp : parseItem bs with
  | none => simp [firstSpan, hp] at h
  | some p =>
    obtain ⟨e, wi⟩ := parseItem_sound bs p.1 p.2 hp
    rw [firstSpan_eq bs p.1 p.2 hp] at h
    cases h
    exact ⟨isSingleItem_encode p.1 wi, p.2, e⟩

/-- `KeepRaw` keeps exactly the span of the first item whenever the inner decoder consumes exactly that
    item (`ConsumesItem`) -/
theorem keepraw_span {α} (inner : Bytes → Nat → Option (α × Nat)) (all : Bytes) (start : Nat)
    (hc : ConsumesItem inner all start) (a : α) (raw : Bytes) (e : Nat)
    (h : keepRawDecode inner all start = some ((a, raw), e)) :
    firstSpan (all.drop start) = some raw := by
  obtain ⟨hi, hraw⟩ := keepRawDecode_some h
  obtain ⟨span, hs, he⟩ := hc a e hi
  obtain ⟨_, rest, hall⟩ := decoded_span_is_one_item _ span hs
  rw [hs, ← hraw, he, hall]
  simp

theorem prefix_item_iff (bs span : Bytes) (h : firstSpan bs = some span) (n : Nat) :
    isSingleItem (bs.take n) = true ↔ bs.take n = span := by
  obtain ⟨hone, rest, rfl⟩ := decoded_span_is_one_item bs span h
  refine ⟨fun hr => ?_, fun e => by rw [e]; exact hone⟩
  obtain ⟨i, wi, rfl⟩ := (isSingleItem_iff _).mp hone
  obtain ⟨j, wj, hj⟩ := (isSingleItem_iff _).mp hr
  rw [hj, (encode_append_inj wj wi (by rw [← hj, List.take_append_drop])).1]

theorem proper_prefix_not_item (i : Item) (wi : i.wf = true) (raw suf : Bytes)
    (h : i.encode = raw ++ suf) (hs : suf ≠ []) : isSingleItem raw = false := by
  rw [Bool.eq_false_iff]; intro hr
  obtain ⟨j, wj, rfl⟩ := (isSingleItem_iff _).mp hr
  exact hs (encode_append_inj wj wi (s := []) (by rw [← h, List.append_nil])).2

/-- **the general fact behind a left-over break byte**: if the inner decoder of a `KeepRaw` stops
    before the end of the item (`e < start + |span|`, e.g. it never reads the `ff` that closes an
    indefinite-length container, or ignores trailing array elements), the bytes `KeepRaw` keeps are
    NOT one well-formed item and differ from the wire item — whatever is hashed is not the item
    that appeared on the wire -/
theorem underconsuming_decoder_span_not_item {α} (inner : Bytes → Nat → Option (α × Nat)) (all : Bytes)
    (start : Nat) (a : α) (raw : Bytes) (e : Nat)
    (h : keepRawDecode inner all start = some ((a, raw), e))
    (span : Bytes) (hspan : firstSpan (all.drop start) = some span)
    (hlt : e < start + span.length) :
    isSingleItem raw = false ∧ raw ≠ span := by
  obtain ⟨_, rfl⟩ := keepRawDecode_some h
  -- what is kept is shorter than the span
  have hne : (all.drop start).take (e - start) ≠ span := fun heq => by
    obtain ⟨i, _, rfl⟩ := (isSingleItem_iff span).mp (decoded_span_is_one_item _ span hspan).1
    have := congrArg List.length heq
    have := size_le i
    simp only [List.length_take] at *
    omega
  exact ⟨Bool.eq_false_iff.mpr (mt (prefix_item_iff _ _ hspan _).mp hne), hne⟩

/-! ## Non-vacuity: the same array `[[1], 2]` with a definite and an indefinite element 0 -/

example : elemSpan 0 [0x82, 0x81, 0x01, 0x02] = some [0x81, 0x01] := by decide
example : elemSpan 0 [0x82, 0x9f, 0x01, 0xff, 0x02] = some [0x9f, 0x01, 0xff] := by decide
example : elemSpan 0 [0x82, 0x81, 0x18, 0x01, 0x02] = some [0x81, 0x18, 0x01] := by decide
example : elemSpan 1 [0x9f, 0x81, 0x01, 0x02, 0xff] = some [0x02] := by decide
example : elemSpan 0 [0x82, 0x81, 0x01] = none := by decide
example : byronPrefixed 1 [0x85, 0x00] = [0x82, 0x01, 0x85, 0x00] := by decide
-- `[{_ }]` with an indefinite empty map: the full item is one item, the bytes without the break are not
example : isSingleItem [0x81, 0xbf, 0xff] = true ∧ isSingleItem [0x81, 0xbf] = false := by decide

end PallasVerif.Props.C05
