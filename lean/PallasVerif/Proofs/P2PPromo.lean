import PallasVerif.Proofs.P2PSets
/-! Invariant of the promotion bookkeeping (C27, `Inv`) and its preservation by the primitive
    operations of `promotion.rs`; what each of them guarantees is `Prim`. -/
namespace PallasVerif.P2P

structure SetsOK (s : St) : Prop where
  ndC : s.cold.Nodup
  ndW : s.warm.Nodup
  ndH : s.hot.Nodup
  ndB : s.banned.Nodup
  dCW : ∀ x, x ∈ s.cold → x ∉ s.warm
  dCH : ∀ x, x ∈ s.cold → x ∉ s.hot
  dCB : ∀ x, x ∈ s.cold → x ∉ s.banned
  dWH : ∀ x, x ∈ s.warm → x ∉ s.hot
  dWB : ∀ x, x ∈ s.warm → x ∉ s.banned
  dHB : ∀ x, x ∈ s.hot → x ∉ s.banned
  limW : s.warm.length ≤ s.cfg.maxWarm
  limH : s.hot.length ≤ s.cfg.maxHot
  limT : s.cold.length + s.warm.length + s.hot.length ≤ s.cfg.maxPeers

/-- a tag under which `needs_connection` can answer yes -/
def WH (t : Tag) : Prop := t = .warm ∨ t = .hot

theorem not_WH_cold : ¬ WH .cold := fun h => by rcases h with e | e <;> cases e

theorem not_WH_banned : ¬ WH .banned := fun h => by rcases h with e | e <;> cases e

def TagOK (s : St) : Prop := ∀ p st, s.peers p = some st → p ∈ s.banned → ¬ WH st.tag

structure Inv (s : St) : Prop where
  sets : SetsOK s
  tags : TagOK s

/-- what a primitive promotion operation guarantees. The handlers take the record of `p` out of the map, run the
    primitive on the state and the detached record `st`, and store the result back; so `peers` is untouched here and
    the tag is a fact about `st'`, not about the map -/
structure Prim (s : St) (p : Nat) (st : Peer) (s' : St) (st' : Peer) : Prop where
  sets : SetsOK s → SetsOK s'
  cfg : s'.cfg = s.cfg
  peers : s'.peers = s.peers
  out : s'.out = s.out
  bmono : ∀ q, q ∈ s.banned → q ∈ s'.banned
  bnew : ∀ q, q ∈ s'.banned → q ∈ s.banned ∨ q = p
  /-- `SetsOK s` is for the two promotions: they retag to Warm/Hot a peer taken from `cold`/`warm`, which
      is not banned because the sets are disjoint -/
  tag : SetsOK s → (p ∈ s.banned → ¬ WH st.tag) → (p ∈ s'.banned → ¬ WH st'.tag)

theorem Prim.refl (s : St) (p : Nat) (st : Peer) : Prim s p st s st :=
  ⟨id, rfl, rfl, rfl, fun _ h => h, fun _ h => Or.inl h, fun _ h => h⟩

theorem disj_remove_left {a b : List Nat} (p : Nat) (h : ∀ x, x ∈ a → x ∉ b) : ∀ x, x ∈ sremove p a → x ∉ b :=
  fun x hx => h x (mem_sremove.mp hx).1

theorem disj_remove_right {a b : List Nat} (p : Nat) (h : ∀ x, x ∈ a → x ∉ b) : ∀ x, x ∈ a → x ∉ sremove p b :=
  fun x hx hy => h x hx (mem_sremove.mp hy).1

theorem disj_insert_left {a b : List Nat} {p : Nat} (h : ∀ x, x ∈ a → x ∉ b) (hp : p ∉ b) :
    ∀ x, x ∈ sinsert p a → x ∉ b := by
  intro x hx
  rcases mem_sinsert.mp hx with e | e
  · rw [e]; exact hp
  · exact h x e

theorem disj_insert_right {a b : List Nat} {p : Nat} (h : ∀ x, x ∈ a → x ∉ b) (hp : p ∉ a) :
    ∀ x, x ∈ a → x ∉ sinsert p b := by
  intro x hx hy
  rcases mem_sinsert.mp hy with e | e
  · exact hp (e ▸ hx)
  · exact h x hx e

theorem disj_move {a b : List Nat} (p : Nat) (h : ∀ x, x ∈ a → x ∉ b) : ∀ x, x ∈ sremove p a → x ∉ sinsert p b := by
  intro x hx hy
  rcases mem_sinsert.mp hy with e | e
  · exact (mem_sremove.mp hx).2 e
  · exact h x (mem_sremove.mp hx).1 e

theorem prim_banPeer (s : St) (p : Nat) (st : Peer) :
    Prim s p st (banPeer s p st).1 (banPeer s p st).2 := by
  refine ⟨fun h => ?_, rfl, rfl, rfl, fun q hq => mem_sinsert.mpr (Or.inr hq), fun q hq => (mem_sinsert.mp hq).symm, ?_⟩
  · exact {
      ndC := nodup_sremove h.ndC, ndW := nodup_sremove h.ndW, ndH := nodup_sremove h.ndH, ndB := nodup_sinsert h.ndB
      dCW := disj_remove_left p (disj_remove_right p h.dCW)
      dCH := disj_remove_left p (disj_remove_right p h.dCH)
      dCB := disj_move p h.dCB
      dWH := disj_remove_left p (disj_remove_right p h.dWH)
      dWB := disj_move p h.dWB
      dHB := disj_move p h.dHB
      limW := Nat.le_trans (length_sremove_le p s.warm) h.limW
      limH := Nat.le_trans (length_sremove_le p s.hot) h.limH
      limT := Nat.le_trans (Nat.add_le_add (Nat.add_le_add (length_sremove_le p s.cold) (length_sremove_le p s.warm))
        (length_sremove_le p s.hot)) h.limT }
  · exact fun _ _ _ => not_WH_banned

theorem prim_promoteCold (s : St) (p : Nat) (st : Peer) (hw : s.warm.length < s.cfg.maxWarm) :
    Prim s p st (promoteCold s p st).1 (promoteCold s p st).2 := by
  unfold promoteCold
  by_cases hp : p ∈ s.cold
  · simp only [hp, if_true]
    refine ⟨fun h => ?_, rfl, rfl, rfl, fun _ h => h, fun _ h => Or.inl h, fun h _ hb => absurd hb (h.dCB p hp)⟩
    have l1 := length_sremove p s.cold
    have := List.count_pos_iff.mpr hp
    have l2 := length_sinsert_le p s.warm
    have := h.limT
    exact {
      ndC := nodup_sremove h.ndC, ndW := nodup_sinsert h.ndW, ndH := h.ndH, ndB := h.ndB
      dCW := disj_move p h.dCW
      dCH := disj_remove_left p h.dCH
      dCB := disj_remove_left p h.dCB
      dWH := disj_insert_left h.dWH (h.dCH p hp)
      dWB := disj_insert_left h.dWB (h.dCB p hp)
      dHB := h.dHB
      limW := Nat.le_trans (length_sinsert_le p s.warm) hw
      limH := h.limH
      limT := by
        show (sremove p s.cold).length + (sinsert p s.warm).length + s.hot.length ≤ s.cfg.maxPeers
        omega }
  · simp only [hp, if_false]; exact Prim.refl s p st

theorem prim_promoteWarm (s : St) (p : Nat) (st : Peer) (hh : s.hot.length < s.cfg.maxHot) :
    Prim s p st (promoteWarm s p st).1 (promoteWarm s p st).2 := by
  unfold promoteWarm
  by_cases hp : p ∈ s.warm
  · simp only [hp, if_true]
    refine ⟨fun h => ?_, rfl, rfl, rfl, fun _ h => h, fun _ h => Or.inl h, fun h _ hb => absurd hb (h.dWB p hp)⟩
    have l1 := length_sremove p s.warm
    have := List.count_pos_iff.mpr hp
    have l2 := length_sinsert_le p s.hot
    have := h.limT
    exact {
      ndC := h.ndC, ndW := nodup_sremove h.ndW, ndH := nodup_sinsert h.ndH, ndB := h.ndB
      dCW := disj_remove_right p h.dCW
      dCH := disj_insert_right h.dCH (fun hc => h.dCW p hc hp)
      dCB := h.dCB
      dWH := disj_move p h.dWH
      dWB := disj_remove_left p h.dWB
      dHB := disj_insert_left h.dHB (h.dWB p hp)
      limW := Nat.le_trans (length_sremove_le p s.warm) h.limW
      limH := Nat.le_trans (length_sinsert_le p s.hot) hh
      limT := by
        show s.cold.length + (sremove p s.warm).length + (sinsert p s.hot).length ≤ s.cfg.maxPeers
        omega }
  · simp only [hp, if_false]; exact Prim.refl s p st

def Retag (st st' : Peer) : Prop := ∃ t, st' = { st with tag := t }

theorem categorize_cases {s : St} {p : Nat} {st : Peer} {r : St × Peer} (h : categorize s p st = some r) :
    r = banPeer s p st ∨ (s.warm.length < s.cfg.maxWarm ∧ r = promoteCold s p st) ∨
      (s.hot.length < s.cfg.maxHot ∧ r = promoteWarm s p st) ∨ r = (s, st) := by
  revert h
  -- the arms in the order of `categorize_peer`: ban on violation, ban on error count, `required_warm_peers` underflows,
  -- promote from cold, `required_hot_peers` underflows, promote from warm, unchanged
  fun_cases categorize s p st <;> intro h
  · exact Or.inl (Option.some.inj h).symm
  · exact Or.inl (Option.some.inj h).symm
  · cases h
  · rename_i hw c; obtain ⟨_, rfl⟩ := usub_eq_some hw
    exact Or.inr (Or.inl ⟨by omega, (Option.some.inj h).symm⟩)
  · cases h
  · rename_i hh c; obtain ⟨_, rfl⟩ := usub_eq_some hh
    exact Or.inr (Or.inr (Or.inl ⟨by omega, (Option.some.inj h).symm⟩))
  · exact Or.inr (Or.inr (Or.inr (Option.some.inj h).symm))

theorem categorize_spec {s : St} {p : Nat} {st : Peer} {r : St × Peer} (h : categorize s p st = some r) :
    Prim s p st r.1 r.2 ∧ Retag st r.2 := by
  rcases categorize_cases h with rfl | ⟨hw, rfl⟩ | ⟨hh, rfl⟩ | rfl
  · exact ⟨prim_banPeer s p st, _, rfl⟩
  · exact ⟨prim_promoteCold s p st hw, by unfold promoteCold; split <;> exact ⟨_, rfl⟩⟩
  · exact ⟨prim_promoteWarm s p st hh, by unfold promoteWarm; split <;> exact ⟨_, rfl⟩⟩
  · exact ⟨Prim.refl s p st, _, rfl⟩

/-- `categorize_peer` never underflows on a state within its limits -/
theorem categorize_prim (s : St) (p : Nat) (st : Peer) (h : SetsOK s) :
    ∃ s' st', categorize s p st = some (s', st') ∧ Prim s p st s' st' := by
  have hs : ∃ r, categorize s p st = some r := by
    -- the two arms that panic are the two subtractions
    fun_cases categorize s p st
    case case3 hu => rw [usub_some h.limW] at hu; cases hu
    case case5 hu => rw [usub_some h.limH] at hu; cases hu
    all_goals exact ⟨_, rfl⟩
  obtain ⟨r, hr⟩ := hs
  exact ⟨r.1, r.2, hr, (categorize_spec hr).1⟩

theorem onPeerDiscovered_prim (s : St) (p : Nat) (st : Peer) (h : SetsOK s) :
    ∃ s' st', onPeerDiscovered s p st = some (s', st') ∧ Prim s p st s' st' ∧
      (¬ WH st.tag → ¬ WH st'.tag) := by
  fun_cases onPeerDiscovered s p st
  case case1 c1 =>  -- `p` is banned: only the tag is set
    exact ⟨_, _, rfl, ⟨id, rfl, rfl, rfl, fun _ h => h, fun _ h => Or.inl h, fun _ _ _ => not_WH_banned⟩,
      fun _ => not_WH_banned⟩
  case case3 hu => rw [usub_some (show s.total ≤ _ from h.limT)] at hu; cases hu  -- `max_peers - total_peers()` underflows
  case case4 c1 c2 r hu c3 =>  -- neither banned nor warm or hot, and room left: `p` goes to `cold`
    obtain ⟨_, rfl⟩ := usub_eq_some hu
    refine ⟨_, _, rfl, ⟨fun _ => ?_, rfl, rfl, rfl, fun _ h => h, fun _ h => Or.inl h, fun _ _ _ => not_WH_cold⟩,
      fun _ => not_WH_cold⟩
    have l := length_sinsert_le p s.cold
    have ht' : s.cold.length + s.warm.length + s.hot.length < s.cfg.maxPeers := by
      unfold St.total at c3; omega
    exact {
      ndC := nodup_sinsert h.ndC, ndW := h.ndW, ndH := h.ndH, ndB := h.ndB
      dCW := disj_insert_left h.dCW (fun hw => c2 (Or.inl hw))
      dCH := disj_insert_left h.dCH (fun hh => c2 (Or.inr hh))
      dCB := disj_insert_left h.dCB c1
      dWH := h.dWH, dWB := h.dWB, dHB := h.dHB
      limW := h.limW, limH := h.limH
      limT := by
        show (sinsert p s.cold).length + s.warm.length + s.hot.length ≤ s.cfg.maxPeers
        omega }
  all_goals exact ⟨_, _, rfl, Prim.refl s p st, id⟩  -- already warm or hot, or no room: unchanged

end PallasVerif.P2P
