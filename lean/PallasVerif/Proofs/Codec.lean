import PallasVerif.Model.Reassembly
/-! Helper lemmas for C21: a small calculus for the position-passing parsers of `Model/Reassembly.lean`
    (`Parses`), closed under `P.bind`; the CBOR head primitives satisfy it for the
    shortest-form heads minicbor's encoder writes; hence the block-fetch and chain-sync decoders do, on
    the messages within the wire format's size limits (`WFMsg`, `WFCS`), and so does the keep-alive decoder (namespace
    `Proofs.Keepalive` at the end: the model writes `kDec` without a `P`, so it is read through the parser `pKeepAlive`
    it is equal to). What C21 needs of a codec (`Good`) follows from `Parses` there. -/
namespace PallasVerif.Proofs.Codec
open PallasVerif.Reassembly

/-- a parser's outcome as a message decoder's: the `match` that `bfDec` and `csDec` write out over the outcome of their
    `P` (`bfDec_eq`, `csDec_eq`); `kDec` has no `P` in the model and is given one below (`Keepalive.kDec_eq`) -/
def _root_.PallasVerif.Reassembly.Prim.toDecRes {M : Type} : Prim M → DecRes M
  | .ok m n => .ok m n
  | .eoi => .eoi
  | .fail => .fail

/-- `p` reads exactly `e` as `a` whatever follows (`.1`), and asks for more on every proper prefix of `e` (`.2`):
    C21's `Good.rt` / `Good.pfx` for one value -/
def Parses {α : Type} (p : P α) (a : α) (e : Bytes) : Prop :=
  (∀ r, p (e ++ r) = .ok a e.length) ∧ (∀ q, q <+: e → q.length < e.length → p q = .eoi)

theorem parses_pure {α : Type} (a : α) : Parses (P.pure a) a [] :=
  ⟨fun _ => rfl, fun _ _ hl => absurd hl (Nat.not_lt_zero _)⟩

theorem prefix_append_cases {q a b : Bytes} (h : q <+: a ++ b) :
    (q <+: a ∧ q.length < a.length) ∨ ∃ q', q = a ++ q' ∧ q' <+: b := by
  by_cases hl : q.length < a.length
  · exact Or.inl ⟨List.prefix_of_prefix_length_le h (List.prefix_append a b) (Nat.le_of_lt hl), hl⟩
  · obtain ⟨q', rfl⟩ := List.prefix_of_prefix_length_le (List.prefix_append a b) h (Nat.le_of_not_lt hl)
    exact Or.inr ⟨q', rfl, (List.prefix_append_right_inj a).1 h⟩

theorem prefix_length_lt {q e : Bytes} (h : q <+: e) (hne : q ≠ e) : q.length < e.length :=
  Nat.lt_of_le_of_ne h.length_le fun hl => hne (h.eq_of_length hl)

theorem parses_bind {α β : Type} {p : P α} {f : α → P β} {a : α} {b : β} {ea eb : Bytes}
    (h1 : Parses p a ea) (h2 : Parses (f a) b eb) : Parses (P.bind p f) b (ea ++ eb) := by
  refine ⟨?_, ?_⟩
  · intro r
    have e1 := h1.1 (eb ++ r)
    have e2 := h2.1 r
    simp only [P.bind, List.append_assoc, e1, List.drop_left' rfl, e2, List.length_append]
  · intro q hq hl
    rcases prefix_append_cases hq with ⟨hp, hpl⟩ | ⟨q', rfl, hq'⟩
    · simp only [P.bind, h1.2 q hp hpl]
    · simp only [List.length_append, Nat.add_lt_add_iff_left] at hl
      simp only [P.bind, h1.1 q', List.drop_left' rfl, h2.2 q' hq' hl]

/-- the last read of a chain, then the constructor -/
theorem parses_map {α β : Type} {p : P α} {a : α} {e : Bytes} (f : α → β) (h : Parses p a e) :
    Parses (P.bind p fun x => P.pure (f x)) (f a) e := by
  simpa using parses_bind (f := fun x => P.pure (f x)) h (parses_pure (f a))

theorem headArg_short (ai : Nat) (args t : Bytes) (hl : t.length < args.length)
    (h : (ai = 24 ∧ args.length = 1) ∨ (ai = 25 ∧ args.length = 2) ∨ (ai = 26 ∧ args.length = 4) ∨
      (ai = 27 ∧ args.length = 8)) : headArg ai t = none := by
  rcases h with ⟨rfl, h⟩ | ⟨rfl, h⟩ | ⟨rfl, h⟩ | ⟨rfl, h⟩
  · rcases t with _ | ⟨a, t⟩ <;> simp [headArg] at hl ⊢ <;> omega
  · rcases t with _ | ⟨a, _ | ⟨b, t⟩⟩ <;> simp [headArg] at hl ⊢ <;> omega
  · rcases t with _ | ⟨a, _ | ⟨b, _ | ⟨c, _ | ⟨d, t⟩⟩⟩⟩ <;> simp [headArg] at hl ⊢ <;> omega
  · rcases t with _ | ⟨a, _ | ⟨b, _ | ⟨c, _ | ⟨d, _ | ⟨e, _ | ⟨f, _ | ⟨g, _ | ⟨i, t⟩⟩⟩⟩⟩⟩⟩⟩ <;>
      simp [headArg] at hl ⊢ <;> omega

/-- one step of reading a big-endian number: the next byte appended to the digits read so far. `b` is a
    variable so that `simp only` meets the literals of `encHead` (65536, 16777216 …) as they are written. -/
theorem be_step (n a b : Nat) (h : b = a * 256) : n / b * 256 + n / a % 256 = n / a := by
  subst h
  rw [← Nat.div_div_eq_div_mul]
  exact Nat.div_add_mod' _ _

/-- the shortest-form head minicbor writes. The bound is `2^64`, spelt out here and below as in the domains `WF*`,
    whose conjuncts are passed to these lemmas as they are. -/
theorem encHead_spec (major n : Nat) (hn : n < 18446744073709551616) :
    ∃ ai args, ai < 28 ∧ encHead major n = UInt8.ofNat (major * 32 + ai) :: args ∧
      (∀ r, headArg ai (args ++ r) = some (n, args.length)) ∧
      ∀ t, t.length < args.length → headArg ai t = none := by
  unfold encHead
  by_cases h1 : n < 24
  · rw [if_pos h1]
    exact ⟨n, [], by omega, rfl, fun r => by simp [headArg, h1], fun t hl => absurd hl (Nat.not_lt_zero _)⟩
  rw [if_neg h1]
  by_cases h2 : n < 256
  · rw [if_pos h2]
    refine ⟨24, _, by omega, rfl, fun r => ?_, fun t hl => headArg_short 24 _ t hl (Or.inl ⟨rfl, rfl⟩)⟩
    simp only [headArg, List.cons_append, UInt8.toNat_ofNat', Nat.mod_eq_of_lt h2]
    rfl
  rw [if_neg h2]
  by_cases h3 : n < 65536
  · rw [if_pos h3]
    refine ⟨25, _, by omega, rfl, fun r => ?_, fun t hl => headArg_short 25 _ t hl (Or.inr (Or.inl ⟨rfl, rfl⟩))⟩
    have h0 : n / 256 < 256 := by omega
    simp only [headArg, List.cons_append, UInt8.toNat_ofNat', Nat.mod_eq_of_lt h0, Nat.div_add_mod' n 256]
    rfl
  rw [if_neg h3]
  by_cases h4 : n < 4294967296
  · rw [if_pos h4]
    refine ⟨26, _, by omega, rfl, fun r => ?_, fun t hl => headArg_short 26 _ t hl (Or.inr (Or.inr (Or.inl ⟨rfl, rfl⟩)))⟩
    have h0 : n / 16777216 < 256 := by omega
    simp only [headArg, List.cons_append, UInt8.toNat_ofNat', Nat.mod_eq_of_lt h0, be_step n 65536 16777216 rfl, be_step n 256 65536 rfl,
      Nat.div_add_mod' n 256]
    rfl
  · rw [if_neg h4]
    refine ⟨27, _, by omega, rfl, fun r => ?_, fun t hl => headArg_short 27 _ t hl (Or.inr (Or.inr (Or.inr ⟨rfl, rfl⟩)))⟩
    have h0 : n / 72057594037927936 < 256 := by omega
    simp only [headArg, List.cons_append, UInt8.toNat_ofNat', Nat.mod_eq_of_lt h0, be_step n 281474976710656 72057594037927936 rfl,
      be_step n 1099511627776 281474976710656 rfl, be_step n 4294967296 1099511627776 rfl,
      be_step n 16777216 4294967296 rfl, be_step n 65536 16777216 rfl, be_step n 256 65536 rfl, Nat.div_add_mod' n 256]
    rfl

/-- what `primHead`, `primArray`, `primU8`, `primU16` have in common (`hnil`, `hshape`) is enough to parse a
    shortest-form head -/
theorem parses_of_head_shape {α : Type} (g : P α) (a : α) (major : Nat) (n : Nat)
    (hnil : g [] = .eoi)
    (hshape : ∀ (b : UInt8) rest, b.toNat / 32 = major → ¬ b.toNat % 32 ≥ 28 →
      (headArg (b.toNat % 32) rest = none → g (b :: rest) = .eoi) ∧
      (∀ used, headArg (b.toNat % 32) rest = some (n, used) → g (b :: rest) = .ok a (1 + used)))
    (hm : major < 8) (hn : n < 18446744073709551616) : Parses g a (encHead major n) := by
  obtain ⟨ai, args, hai, he, hok, hshort⟩ := encHead_spec major n hn
  have hb : (UInt8.ofNat (major * 32 + ai)).toNat = major * 32 + ai := by rw [UInt8.toNat_ofNat']; omega
  have hs := fun rest => hshape (UInt8.ofNat (major * 32 + ai)) rest (by omega) (by omega)
  rw [show (UInt8.ofNat (major * 32 + ai)).toNat % 32 = ai by omega] at hs
  rw [he]
  refine ⟨fun r => ?_, fun q hq hl => ?_⟩
  · rw [List.cons_append, (hs _).2 _ (hok r), List.length_cons, Nat.add_comm]
  · rcases List.prefix_cons_iff.1 hq with rfl | ⟨t, rfl, _⟩
    · exact hnil
    · exact (hs t).1 (hshort t (Nat.lt_of_succ_lt_succ hl))

theorem parses_primHead (major : Nat) (hm : major < 8) (n : Nat) (hn : n < 18446744073709551616) :
    Parses (primHead major) n (encHead major n) := by
  refine parses_of_head_shape _ n major n rfl (fun b rest f1 f2 => ?_) hm hn
  simp only [primHead, f1, ne_eq, not_true_eq_false, if_false, f2]
  exact ⟨fun h0 => by rw [h0], fun used h0 => by rw [h0]⟩

theorem parses_primArray (k : Nat) (hk : k < 18446744073709551616) :
    Parses primArray (some k) (encHead 4 k) := by
  refine parses_of_head_shape _ (some k) 4 k rfl (fun b rest f1 f2 => ?_) (by decide) hk
  have a : ¬ b.toNat % 32 = 31 := by omega
  simp only [primArray, f1, ne_eq, not_true_eq_false, if_false, a, f2]
  exact ⟨fun h0 => by rw [h0], fun used h0 => by rw [h0]⟩

theorem parses_primU8 (n : Nat) (hn : n < 256) : Parses primU8 n (encHead 0 n) := by
  refine parses_of_head_shape _ n 0 n rfl (fun b rest f1 f2 => ?_) (by decide) (by omega)
  simp only [primU8, f1, ne_eq, not_true_eq_false, if_false, f2]
  exact ⟨fun h0 => by rw [h0], fun used h0 => by simp only [h0, hn, if_true]⟩

theorem parses_primU16 (n : Nat) (hn : n < 65536) : Parses primU16 (UInt16.ofNat n) (encHead 0 n) := by
  refine parses_of_head_shape _ _ 0 n rfl (fun b rest f1 f2 => ?_) (by decide) (by omega)
  simp only [primU16, f1, ne_eq, not_true_eq_false, if_false, f2]
  exact ⟨fun h0 => by rw [h0], fun used h0 => by simp only [h0, hn, if_true]⟩

/-- the second half of `primBytes` (`read_slice(n)`), spelt as the model spells it -/
theorem parses_take (body : Bytes) :
    Parses (fun bs => if bs.length < body.length then Prim.eoi else .ok (bs.take body.length) body.length)
      body body := by
  refine ⟨?_, ?_⟩
  · intro r
    have : ¬ (body ++ r).length < body.length := by simp [List.length_append]
    simp only [this, if_false, List.take_left' rfl]
  · exact fun q _ hl => if_pos hl

theorem parses_primBytes (body : Bytes) (h : body.length < 18446744073709551616) :
    Parses primBytes body (encHead 2 body.length ++ body) :=
  parses_bind (parses_primHead 2 (by decide) body.length h) (parses_take body)

theorem parses_tag24 : Parses primTag 24 [0xd8, 0x18] := by
  have := parses_primHead 6 (by decide) 24 (by decide)
  simpa [encHead, primTag] using this

def WFPt : Pt → Prop
  | .origin => True
  | .specific slot hash => slot < 18446744073709551616 ∧ hash.length < 18446744073709551616

def WFMsg : BFMsg → Prop
  | .requestRange p1 p2 => WFPt p1 ∧ WFPt p2
  | .block body => body.length < 18446744073709551616
  | _ => True

/-- a label below 24 is its own shortest head -/
theorem parses_label (l : UInt8) (hl : l.toNat < 24) :
    Parses primU16 (UInt16.ofNat l.toNat) [l] := by
  simpa [encHead, hl] using parses_primU16 l.toNat (by omega)

/-- so is the head of an array of fewer than 24 items -/
theorem parses_arr (b : UInt8) (k : Nat) (hb : b.toNat = 128 + k) (hk : k < 24) :
    Parses primArray (some k) [b] := by
  have e : UInt8.ofNat (128 + k) = b := by rw [← hb]; simp
  simpa [encHead, hk, e] using parses_primArray k (by omega)

theorem parses_pPoint (p : Pt) (h : WFPt p) : Parses pPoint p (ptEnc p) := by
  cases p with
  | origin => exact parses_bind (ea := [0x80]) (eb := []) (parses_arr 0x80 0 rfl (by decide)) (parses_pure _)
  | specific slot hash =>
    -- `ptEnc` is written left-nested, `parses_bind` wants the bytes of each read as a right-nested append
    have e : ptEnc (.specific slot hash) = [0x82] ++ (encHead 0 slot ++ (encHead 2 hash.length ++ hash)) := by
      simp [ptEnc]
    rw [e]
    exact parses_bind (parses_arr 0x82 2 rfl (by decide))
      (parses_bind (parses_primHead 0 (by decide) slot h.1) (parses_map _ (parses_primBytes hash h.2)))

theorem parses_msg {β : Type} (b l : UInt8) (k : Nat) (hb : b.toNat = 128 + k) (hk : k < 24) (hl : l.toNat < 24)
    {g : UInt16 → P β} {m : β} {e : Bytes} (h : Parses (g (UInt16.ofNat l.toNat)) m e) :
    Parses (P.bind primArray fun _ => P.bind primU16 g) m ([b, l] ++ e) :=
  parses_bind (ea := [b]) (parses_arr b k hb hk) (parses_bind (parses_label l hl) h)

theorem parses_msg0 {β : Type} (l : UInt8) (hl : l.toNat < 24) {g : UInt16 → P β} {m : β}
    (h : g (UInt16.ofNat l.toNat) = P.pure m) :
    Parses (P.bind primArray fun _ => P.bind primU16 g) m [0x81, l] :=
  parses_msg 0x81 l 1 rfl (by decide) hl (e := []) (h ▸ parses_pure m)

theorem parses_blockfetch (m : BFMsg) (h : WFMsg m) : Parses pBlockFetch m (bfEnc m) := by
  cases m with
  | requestRange p1 p2 =>
    refine parses_msg 0x83 0x00 3 rfl (by decide) (by decide) ?_
    exact parses_bind (parses_pPoint p1 h.1) (parses_map _ (parses_pPoint p2 h.2))
  | block body =>
    refine parses_msg 0x82 0x04 2 rfl (by decide) (by decide) ?_
    exact parses_bind parses_tag24 (parses_map _ (parses_primBytes body h))
  | clientDone => exact parses_msg0 0x01 (by decide) rfl
  | startBatch => exact parses_msg0 0x02 (by decide) rfl
  | noBlocks => exact parses_msg0 0x03 (by decide) rfl
  | batchDone => exact parses_msg0 0x05 (by decide) rfl

def WFTip (t : Tip) : Prop := WFPt t.point ∧ t.blockNo < 18446744073709551616

/-- what `HeaderContent` values can be sent and received: the Byron prefix is present exactly for
    variant 0 (the encoder fails without it and drops it otherwise) -/
def WFHdr (h : Header) : Prop :=
  h.variant < 256 ∧ h.cbor.length < 18446744073709551616 ∧
  (h.variant = 0 → ∃ a b, h.byronPrefix = some (a, b) ∧ a < 256 ∧ b < 18446744073709551616) ∧
  (h.variant ≠ 0 → h.byronPrefix = none)

def WFCS : CSMsg → Prop
  | .rollForward c t => WFHdr c ∧ WFTip t
  | .rollBackward p t => WFPt p ∧ WFTip t
  | .findIntersect ps => ps.length < 18446744073709551616 ∧ ∀ p ∈ ps, WFPt p
  | .intersectFound p t => WFPt p ∧ WFTip t
  | .intersectNotFound t => WFTip t
  | _ => True

theorem parses_pTip (t : Tip) (h : WFTip t) : Parses pTip t (tipEnc t) :=
  parses_bind (parses_arr 0x82 2 rfl (by decide))
    (parses_bind (parses_pPoint t.point h.1) (parses_map _ (parses_primHead 0 (by decide) t.blockNo h.2)))

theorem parses_pPrefix (a b : Nat) (ha : a < 256) (hb : b < 18446744073709551616) :
    Parses pPrefix (a, b) ([0x82] ++ (encHead 0 a ++ encHead 0 b)) :=
  parses_bind (parses_arr 0x82 2 rfl (by decide))
    (parses_bind (parses_primU8 a ha) (parses_map _ (parses_primHead 0 (by decide) b hb)))

theorem parses_pHeader (h : Header) (hw : WFHdr h) : Parses pHeader h (hdrEnc h) := by
  obtain ⟨variant, pre, cbor⟩ := h
  obtain ⟨hv, hc, h0, hn0⟩ := hw
  simp only at hv hc h0 hn0
  have body : ∀ pre, Parses (P.bind primTag fun _ => P.bind primBytes fun bytes => P.pure (Header.mk variant pre bytes))
      (Header.mk variant pre cbor) ([0xd8, 0x18] ++ (encHead 2 cbor.length ++ cbor)) :=
    fun pre => parses_bind parses_tag24 (parses_map (Header.mk variant pre) (parses_primBytes cbor hc))
  refine parses_bind (parses_arr 0x82 2 rfl (by decide)) (parses_bind (parses_primU8 variant hv) ?_)
  by_cases hz : variant = 0
  · obtain ⟨a, b, hp, ha, hb⟩ := h0 hz
    subst hp
    simp only [hz, if_true]
    exact parses_bind (parses_arr 0x82 2 rfl (by decide)) (parses_bind (parses_pPrefix a b ha hb) (hz ▸ body _))
  · rw [hn0 hz]
    simp only [hz, if_false]
    exact body none

theorem parses_pRepeat {α : Type} (p : P α) (e : α → Bytes) :
    ∀ xs : List α, (∀ x ∈ xs, Parses p x (e x)) → Parses (pRepeat p xs.length) xs ((xs.map e).flatten)
  | [], _ => parses_pure _
  | x :: xs, h => by
    rw [List.map_cons, List.flatten_cons]
    exact parses_bind (h x (List.mem_cons_self ..))
      (parses_map _ (parses_pRepeat p e xs fun y hy => h y (List.mem_cons_of_mem _ hy)))

theorem parses_pVec {α : Type} (p : P α) (e : α → Bytes) (xs : List α)
    (hl : xs.length < 18446744073709551616) (h : ∀ x ∈ xs, Parses p x (e x)) :
    Parses (pVec p) xs (encHead 4 xs.length ++ (xs.map e).flatten) := by
  have key : ∀ fuel : Nat, Parses (P.bind primArray fun n =>
      match n with
      | some k => pRepeat p k
      | none => pUntilBreak p fuel) xs (encHead 4 xs.length ++ (xs.map e).flatten) :=
    fun fuel => parses_bind (parses_primArray xs.length hl) (parses_pRepeat p e xs h)
  -- `pVec` passes its input's length as fuel for the indefinite case, which is not taken here
  exact ⟨fun r => (key _).1 r, fun q hq hl => (key _).2 q hq hl⟩

theorem parses_chainsync (m : CSMsg) (h : WFCS m) : Parses pChainSync m (csEnc m) := by
  cases m with
  | requestNext => exact parses_msg0 0x00 (by decide) rfl
  | awaitReply => exact parses_msg0 0x01 (by decide) rfl
  | rollForward c t =>
    refine parses_msg 0x83 0x02 3 rfl (by decide) (by decide) ?_
    exact parses_bind (parses_pHeader c h.1) (parses_map _ (parses_pTip t h.2))
  | rollBackward p t =>
    refine parses_msg 0x83 0x03 3 rfl (by decide) (by decide) ?_
    exact parses_bind (parses_pPoint p h.1) (parses_map _ (parses_pTip t h.2))
  | findIntersect ps =>
    refine parses_msg 0x82 0x04 2 rfl (by decide) (by decide) ?_
    exact parses_map CSMsg.findIntersect (parses_pVec pPoint ptEnc ps h.1 fun p hp => parses_pPoint p (h.2 p hp))
  | intersectFound p t =>
    refine parses_msg 0x83 0x05 3 rfl (by decide) (by decide) ?_
    exact parses_bind (parses_pPoint p h.1) (parses_map _ (parses_pTip t h.2))
  | intersectNotFound t =>
    refine parses_msg 0x82 0x06 2 rfl (by decide) (by decide) ?_
    exact parses_map CSMsg.intersectNotFound (parses_pTip t h)
  | done => exact parses_msg0 0x07 (by decide) rfl

theorem bfDec_eq (bs : Bytes) : bfDec bs = (pBlockFetch bs).toDecRes := by
  unfold bfDec; cases pBlockFetch bs <;> rfl

theorem csDec_eq (bs : Bytes) : csDec bs = (pChainSync bs).toDecRes := by
  unfold csDec; cases pChainSync bs <;> rfl

end PallasVerif.Proofs.Codec

namespace PallasVerif.Proofs.Keepalive
open PallasVerif.Reassembly PallasVerif.Proofs.Codec

/-- `kDec` as a sequence of reads (the model writes `kDec` out with explicit matches and offsets,
    where `bfDec` and `csDec` are defined from their `P`) -/
def pKeepAlive : P KMsg := P.bind primArray fun _ => P.bind primU16 fun label =>
  if label = 0 then P.bind primU16 fun c => P.pure (.keepAlive c)
  else if label = 1 then P.bind primU16 fun c => P.pure (.response c)
  else if label = 2 then P.pure .done else P.fail

theorem kDec_eq (bs : Bytes) : kDec bs = (pKeepAlive bs).toDecRes := by
  simp only [kDec, pKeepAlive, P.bind, Prim.toDecRes]
  cases primArray bs with
  | eoi => rfl
  | fail => rfl
  | ok _ n1 =>
    simp only [List.drop_drop]
    cases primU16 (bs.drop n1) with
    | eoi => rfl
    | fail => rfl
    | ok label n2 =>
      simp only []
      split
      · simp only [P.bind, P.pure]
        cases primU16 (bs.drop (n1 + n2)) <;> simp [Nat.add_assoc]
      · split
        · simp only [P.bind, P.pure]
          cases primU16 (bs.drop (n1 + n2)) <;> simp [Nat.add_assoc]
        · split <;> simp [P.pure, P.fail]

theorem encU16_eq (n : Nat) (hn : n < 65536) : encU16 n = encHead 0 n := by
  unfold encU16 encHead
  simp only [hn, if_true, Nat.zero_mul, Nat.zero_add]
  rfl

theorem parses_pKeepAlive (m : KMsg) : Parses pKeepAlive m (kEnc m) := by
  cases m with
  | keepAlive c | response c =>
    refine parses_msg 0x82 _ 2 rfl (by decide) (by decide) ?_
    rw [encU16_eq _ c.toNat_lt]
    simpa using parses_map _ (parses_primU16 c.toNat c.toNat_lt)
  | done => exact parses_msg0 0x02 (by decide) rfl

theorem encU16_ne_nil (n : Nat) : encU16 n ≠ [] := by
  unfold encU16; split <;> (try split) <;> simp

end PallasVerif.Proofs.Keepalive
