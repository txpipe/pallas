import PallasVerif.Gen.FsmN2
import PallasVerif.Model.FsmSpecN2
import PallasVerif.Proofs.Fsm
/-!
# C24 — P2P stack protocol state machines implement the specification

`Gen/FsmN2.lean` is regenerated on every run from the `State::apply` functions under
`pallas-network2/src/protocol` (one row per state class × message class, Rust's first-match-wins
resolved by the translator; `unknowns` lists anything it could not classify).
`Model/FsmSpecN2.lean` holds the specification tables, written by hand from DESIGN Appendix A.

`FullStatement`, the property at full strength (every extracted table conforms to its specification,
`Fsm.Table`), is **false** on the current tree: `C24_full_fails_at_witness` (tx-submission
`Txs + ReplyTxs` ends in `Txs`, the specification says `Idle`; known finding). What is proved is
conformance to the specification amended in that one row (`asImplemented`, `conforms_partial`), and its
lifting through Proofs/Fsm to every concrete state, message payload and message history.
-/
namespace PallasVerif.Props.C24
open PallasVerif.Fsm PallasVerif.Gen PallasVerif.FsmSpecN2

/-- the translator classified every construct of every `apply` -/
theorem unknowns_nil : FsmN2.unknowns = [] := by decide

/-- the code's state machines and the specified protocols are the same eight, each once -/
theorem protocols_covered :
    (∀ p ∈ FsmN2.protos, p.name ∈ specs.map (·.name)) ∧ (∀ sp ∈ specs, sp.name ∈ FsmN2.protos.map (·.name)) ∧
    (FsmN2.protos.map (·.name)).Nodup ∧ (specs.map (·.name)).Nodup := by decide +kernel

def FullStatement : Prop :=
  ∀ p ∈ FsmN2.protos, ∀ sp ∈ specs, p.name = sp.name → Table p sp

/-- the one (protocol, state, message) at which the extracted table and the specification disagree —
    see known_findings.d/C24.json -/
def knownDeviation (proto st msg : String) : Prop :=
  proto = "txsubmission" ∧ st = "Txs" ∧ msg = "ReplyTxs"

instance (a b c : String) : Decidable (knownDeviation a b c) := by unfold knownDeviation; infer_instance

theorem C24_full_fails_at_witness : ¬ FullStatement := by
  intro h
  have ht := h FsmN2.txsubmission (by simp [FsmN2.protos]) txsubmission (by simp [specs]) (by decide)
  have := ht.step_eq "Txs" (by decide) "ReplyTxs" (by decide)
  revert this
  decide

/-- the specification each protocol is shown to conform to: the specification itself, except for
    tx-submission's recorded row -/
def asImplemented (sp : Spec) : Spec :=
  if sp.name = "txsubmission" then txsubmissionAsImplemented else sp

theorem asImplemented_eq (sp : Spec) (h : sp.name ≠ "txsubmission") : asImplemented sp = sp := by
  simp [asImplemented, h]

/-- Stated for any `sp ∈ specs` of that name, not for `txsubmission`, because `asImplemented_step` meets a generic
    `sp` and `Spec` has no decidable equality to identify it. -/
theorem amended_row? : ∀ sp ∈ specs, sp.name = "txsubmission" →
    ∀ s ∈ txsubmissionAsImplemented.stateNames, ∀ m ∈ txsubmissionAsImplemented.msgs,
      ¬ knownDeviation sp.name s m → txsubmissionAsImplemented.row? s m = sp.row? s m := by decide +kernel

/-- the amendment is minimal -/
theorem asImplemented_differs_only_at_known :
    ∀ s ∈ txsubmission.stateNames, ∀ m ∈ txsubmission.msgs, ¬ knownDeviation "txsubmission" s m →
      txsubmissionAsImplemented.row? s m = txsubmission.row? s m :=
  amended_row? txsubmission (by simp [specs]) rfl

theorem asImplemented_step {sp : Spec} (hsp : sp ∈ specs) {s m : String}
    (hs : s ∈ (asImplemented sp).stateNames) (hm : m ∈ (asImplemented sp).msgs)
    (hk : ¬ knownDeviation sp.name s m) : (asImplemented sp).step s m = sp.step s m := by
  by_cases h : sp.name = "txsubmission"
  · unfold asImplemented at hs hm ⊢
    rw [if_pos h] at hs hm ⊢
    exact congrArg (Option.map (·.next)) (amended_row? sp hsp h s hs m hm hk)
  · rw [asImplemented_eq sp h]

/-- full table conformance (classes, initial state, transitions, carried data) of all eight
    protocols — seven against the specification itself -/
theorem conforms_partial :
    ∀ p ∈ FsmN2.protos, ∀ sp ∈ specs, p.name = sp.name → Table p (asImplemented sp) := by decide +kernel

/-- every transition of every protocol agrees with the specification, except the recorded one -/
theorem apply_eq_spec_partial :
    ∀ p ∈ FsmN2.protos, ∀ sp ∈ specs, p.name = sp.name →
      ∀ s ∈ p.stateNames, ∀ m ∈ p.msgNames, ¬ knownDeviation p.name s m →
        (p.step s m).next? = sp.step s m := by
  intro p hp sp hsp hn s hs m hm hk
  have ht := conforms_partial p hp sp hsp hn
  rw [ht.step_eq s hs m hm]
  exact asImplemented_step hsp (ht.states_sub s hs) (ht.msgs_sub m hm) (hn ▸ hk)

/-- For every protocol, every concrete state and message (any payload): `apply` succeeds exactly
    when the specification permits the message in the state, and yields the prescribed class. -/
theorem apply_refines_spec (p : Proto) (hp : p ∈ FsmN2.protos) (sp : Spec) (hsp : sp ∈ specs)
    (hn : p.name = sp.name) (s : CState) (m : CMsg)
    (hs : s.cls ∈ p.stateNames) (hm : m.cls ∈ p.msgNames) :
    (match apply p s m with | .ok s' => some s'.cls | .error _ => none) = (asImplemented sp).step s.cls m.cls :=
  apply_refines (conforms_partial p hp sp hsp hn) s m hs hm

/-- For every message history of any length, starting in any state: the verdict on every message and
    the final state class are those of the specification's run. -/
theorem history_refines_spec (p : Proto) (hp : p ∈ FsmN2.protos) (sp : Spec) (hsp : sp ∈ specs)
    (hn : p.name = sp.name) (ms : List CMsg) (s : CState)
    (hs : s.cls ∈ p.stateNames) (hms : ∀ m ∈ ms, m.cls ∈ p.msgNames) :
    ((run p s ms).1.cls, (run p s ms).2) = (asImplemented sp).run s.cls (ms.map (·.cls)) :=
  run_refines (conforms_partial p hp sp hsp hn) ms s hs hms

/-- With this `history_refines_spec` applies to histories from the initial state. Evaluated on its own: `Table.init`
    compares with the amended specification, and `Table` has no clause that the initial class is declared. -/
theorem initial_state_eq_spec (p : Proto) (hp : p ∈ FsmN2.protos) (sp : Spec) (hsp : sp ∈ specs)
    (hn : p.name = sp.name) : p.initState.cls = sp.init ∧ p.initState.cls ∈ p.stateNames := by
  revert p sp; decide +kernel

/-- An accepted message's data is carried by the successor state: every field the specification
    marks as carried occurs in the payload of the new state (for any payload values). -/
theorem apply_carries_data (p : Proto) (hp : p ∈ FsmN2.protos) (sp : Spec) (hsp : sp ∈ specs)
    (hn : p.name = sp.name) (s s' : CState) (m : CMsg) (h : apply p s m = .ok s')
    (r : SpecRow) (hr : (asImplemented sp).row? s.cls m.cls = some r)
    (i : Nat) (hi : i ∈ r.carried) (hlen : i < m.args.length) :
    m.args[i] ∈ Val.subtermsL s'.data :=
  apply_carries (conforms_partial p hp sp hsp hn) s s' m h r hr i hi hlen

/-- `apply` accepts only in states where somebody holds agency: nothing is accepted in `Done`. (The tables have no
    sender, so which side sent the message is not part of the statement.) -/
theorem accepts_only_under_agency (p : Proto) (hp : p ∈ FsmN2.protos) (sp : Spec) (hsp : sp ∈ specs)
    (hn : p.name = sp.name) (s s' : CState) (m : CMsg)
    (hs : s.cls ∈ p.stateNames) (hm : m.cls ∈ p.msgNames) (h : apply p s m = .ok s') :
    (asImplemented sp).agency s.cls ≠ .nobody := by
  have ht := conforms_partial p hp sp hsp hn
  obtain ⟨r, hr, _⟩ := Option.map_eq_some_iff.mp (apply_ok_step ht hs hm h)
  obtain ⟨hmem, hst, _⟩ := Spec.row?_mem hr
  exact hst ▸ ht.agency_ne r hmem

/-- A refused message leaves the state untouched (`apply` is pure; the history semantics keeps the
    old state), so the rest of the history is judged from the same state. -/
theorem rejected_leaves_state (p : Proto) (s : CState) (m : CMsg) (ms : List CMsg) (k : String)
    (h : apply p s m = .error k) : run p s (m :: ms) = ((run p s ms).1, false :: (run p s ms).2) := by
  simp [run, h]

example : FsmN2.protos.length = 8 ∧ (FsmN2.protos.map (fun p => p.rows.length)).sum ≥ 150 := by decide

/-- a concrete history (the third message is refused), with data arriving in the state -/
example :
    let s0 := FsmN2.chainsync.initState
    let ms : List CMsg := [⟨"RequestNext", []⟩, ⟨"AwaitReply", []⟩, ⟨"Done", []⟩,
                           ⟨"RollForward", [.atom "hdr", .atom "tip"]⟩]
    (run FsmN2.chainsync s0 ms).2 = [true, true, false, true] ∧
    (run FsmN2.chainsync s0 ms).1.render = "Idle(Content(hdr,tip))" := by decide +kernel

/-- the hypotheses of the lifted theorems are inhabited -/
example : FsmN2.blockfetch ∈ FsmN2.protos ∧ blockfetch ∈ specs ∧ FsmN2.blockfetch.name = blockfetch.name ∧
    "Streaming" ∈ FsmN2.blockfetch.stateNames ∧ "Block" ∈ FsmN2.blockfetch.msgNames ∧
    (∃ r, (asImplemented blockfetch).row? "Streaming" "Block" = some r ∧ 0 ∈ r.carried) := by
  refine ⟨by simp [FsmN2.protos], by simp [specs], by decide, by decide, by decide, ⟨_, rfl, by decide⟩⟩

end PallasVerif.Props.C24
