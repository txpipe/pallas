import Mathlib.Analysis.Complex.Exponential
import PallasVerif.Model.RefMath
import PallasVerif.Proofs.ExpCmp
import PallasVerif.Proofs.TaylorReal
/-!
# C16 — Bounded exp comparison never reaches a wrong conclusion

Model: `refExpCmp` in `Model/RefMath.lean` (transcription of `ref_exp_cmp`, loop on fuel `max_n`).
`toReal z = z / 10^34`. `tterm x i` / `psum x n` are the fixed-point Taylor terms / partial sums
exactly as the code computes them (`Proofs/TaylorTerms.lean`). `bound` is the argument `bound_x`, a plain integer
multiplier of the error term, not a fixed-point number: hence `(bound : ℝ)` beside `toReal x`, `toReal cmp`.

**Full statement** (`SoundFull`): whenever `bound ≥ e^|x|`, `GT → e^x < compare` and
`LT → compare < e^x`.

What is proved, for ALL `max_n`, `x`, `bound`, `compare` (unbounded integers):
* `never_panics`, `iterations_le_maxN`, `approx_eq_taylor_prefix`, `verdict_spec`,
  `unknown_otherwise` — exact description of the result (which partial sum, which inequality
  triggered, why it stopped);
* `lt_sound` — for `0 ≤ x` (the leader-check domain) `LT` is right in the reals, with NO assumption
  on `bound`: every Taylor term is rounded down (`scale` floors, `div` truncates non-negatives),
  so the approximation is `≤ Real.exp x` (`Real.sum_le_exp_of_nonneg`), and the error term is a magnitude;
* `sound_slack_partial` — for `-1 ≤ x ≤ 1` and `bound ≥ 2` BOTH verdicts are right up to an explicit
  slack of `(3·iterations + 3·bound)·10^-34`;
* `gt_sound_partial` — its `GT` half on `0 ≤ x ≤ 1`; `sound_partial` — that together with `lt_sound`.
**The full statement is FALSE for the reference algorithm itself** (a recorded known finding, not
repairable without leaving the reference): `soundFull_fails_at_witness` — `x = 7.798…e-12`,
`bound = 3`, `compare = 1.0000000000077982159505194176045364` gives `GT` after 2 iterations while
`e^x = 1.00000000000779821595051941760453640966…`: the rounded-down upper bound lies 1.0966 ulp
below `e^x`, so the grid point between them is misjudged. `sound_slack_partial` shows such a window is
never wider than the stated slack, for either sign of `x`. Not proved: exact soundness
for negative `x`, and anything for `|x| > 1` beyond `lt_sound`; those are checked on the implementation
by the harness oracle (rigorous 90-digit enclosure of `e^x`) on sampled inputs only.

**Recorded deviation (repaired)**: the unrepaired tree used the SIGNED product `error * bound_x` as
error term, so for negative `x` `upper < lower` at every other step and `GT` was returned for
values far below `e^x`: `origSoundFull_fails_at_witness` (`x = -1`, `bound = 4`, `compare = 0.1`).
-/
namespace PallasVerif.Props.C16
open PallasVerif.Decimal PallasVerif.RefMath PallasVerif.Proofs.ExpCmp

/-- the full property for an `exp_cmp` implementation `f` -/
def SoundFor (f : Nat → Int → Int → Int → Option CmpRes) : Prop :=
  ∀ (maxN : Nat) (x bound cmp : Int) (r : CmpRes),
    Real.exp |toReal x| ≤ (bound : ℝ) → f maxN x bound cmp = some r →
    (r.estimation = .gt → Real.exp (toReal x) < toReal cmp) ∧
    (r.estimation = .lt → toReal cmp < Real.exp (toReal x))

def SoundFull : Prop := SoundFor refExpCmp

/-- the divisor `(n+2)·10^34` is never zero -/
theorem never_panics (maxN : Nat) (x bound cmp : Int) : ∃ r, refExpCmp maxN x bound cmp = some r :=
  let ⟨r, h, _⟩ := refExpCmp_spec maxN x bound cmp; ⟨r, h⟩

theorem iterations_le_maxN (maxN : Nat) (x bound cmp : Int) (r : CmpRes)
    (h : refExpCmp maxN x bound cmp = some r) : r.iterations ≤ maxN := by
  have := (refExpCmp_post h).hi; omega

theorem approx_eq_taylor_prefix (maxN : Nat) (x bound cmp : Int) (r : CmpRes)
    (h : refExpCmp maxN x bound cmp = some r) : r.approx = psum x r.iterations :=
  (refExpCmp_post h).approx

theorem verdict_spec (maxN : Nat) (x bound cmp : Int) (r : CmpRes)
    (h : refExpCmp maxN x bound cmp = some r) :
    (r.estimation = .gt → 0 < r.iterations ∧
      cmp > r.approx + ((tterm x r.iterations * bound).natAbs : Int)) ∧
    (r.estimation = .lt → 0 < r.iterations ∧
      cmp < r.approx - ((tterm x r.iterations * bound).natAbs : Int) ∧
      ¬ cmp > r.approx + ((tterm x r.iterations * bound).natAbs : Int)) :=
  have post := refExpCmp_post h
  ⟨fun e => ⟨(post.gt e).1, (post.gt e).2.1⟩, fun e => ⟨(post.lt e).1, (post.lt e).2.1, (post.lt e).2.2.1⟩⟩

/-- UNKNOWN is answered only when the iteration budget is used up or the next term is below
    `EPS = 10^-24` -/
theorem unknown_otherwise (maxN : Nat) (x bound cmp : Int) (r : CmpRes)
    (h : refExpCmp maxN x bound cmp = some r) (hu : r.estimation = .unknown) :
    r.iterations = maxN ∨ (tterm x r.iterations).natAbs < EPS.natAbs :=
  ((refExpCmp_post h).unknown hu).imp (by omega) (by simp [absLt])

/-- the two inequalities of `verdict_spec` on `psum`, the form the real-number theorems use -/
theorem verdict_psum {maxN : Nat} {x bound cmp : Int} {r : CmpRes}
    (h : refExpCmp maxN x bound cmp = some r) :
    (r.estimation = .gt → cmp > psum x r.iterations + ((tterm x r.iterations * bound).natAbs : Int)) ∧
    (r.estimation = .lt → cmp < psum x r.iterations - ((tterm x r.iterations * bound).natAbs : Int)) := by
  obtain ⟨vg, vl⟩ := verdict_spec maxN x bound cmp r h
  rw [approx_eq_taylor_prefix maxN x bound cmp r h] at vg vl
  exact ⟨fun e => (vg e).2, fun e => (vl e).2.1⟩

/-- each fixed-point term is within 3 ulp of the true one; remainder of the series by Mathlib's `Real.exp_bound` -/
theorem sound_slack_partial (maxN : Nat) (x bound cmp : Int) (r : CmpRes) (hx : -P ≤ x) (hx1 : x ≤ P)
    (hb : 2 ≤ bound) (h : refExpCmp maxN x bound cmp = some r) :
    (r.estimation = .gt → Real.exp (toReal x) <
      toReal cmp + (3 * (r.iterations : ℝ) + 3 * (bound : ℝ)) / (P : ℝ)) ∧
    (r.estimation = .lt →
      toReal cmp - (3 * (r.iterations : ℝ) + 3 * (bound : ℝ)) / (P : ℝ) < Real.exp (toReal x)) := by
  obtain ⟨vg, vl⟩ := verdict_psum h
  obtain ⟨sg, sl⟩ := verdict_slack x bound cmp (abs_toReal_le_one hx hx1) hb r.iterations
  exact ⟨fun hgt => sg (vg hgt), fun hlt => sl (vl hlt)⟩

theorem lt_sound (maxN : Nat) (x bound cmp : Int) (r : CmpRes) (hx : 0 ≤ x)
    (h : refExpCmp maxN x bound cmp = some r) (hlt : r.estimation = .lt) :
    toReal cmp < Real.exp (toReal x) := by
  have hc := (verdict_psum h).2 hlt
  exact (toReal_lt (show cmp < psum x r.iterations by omega)).trans_le (psum_le_exp x hx r.iterations)

theorem gt_sound_partial (maxN : Nat) (x bound cmp : Int) (r : CmpRes) (hx : 0 ≤ x) (hx1 : x ≤ P)
    (hb : 2 ≤ bound) (h : refExpCmp maxN x bound cmp = some r) (hgt : r.estimation = .gt) :
    Real.exp (toReal x) <
      toReal cmp + (3 * (r.iterations : ℝ) + 3 * (bound : ℝ)) / (P : ℝ) :=
  (sound_slack_partial maxN x bound cmp r (by have := Proofs.Decimal.P_pos; omega) hx1 hb h).1 hgt

/-- `2 ≤ bound` is what `SoundFull`'s `e^|x| ≤ bound` implies for an integer `bound` unless `x = 0` -/
theorem sound_partial (maxN : Nat) (x bound cmp : Int) (r : CmpRes) (hx : 0 ≤ x) (hx1 : x ≤ P)
    (hb : 2 ≤ bound) (h : refExpCmp maxN x bound cmp = some r) :
    (r.estimation = .lt → toReal cmp < Real.exp (toReal x)) ∧
    (r.estimation = .gt → Real.exp (toReal x) <
      toReal cmp + (3 * (r.iterations : ℝ) + 3 * (bound : ℝ)) / (P : ℝ)) :=
  ⟨lt_sound maxN x bound cmp r hx h, gt_sound_partial maxN x bound cmp r hx hx1 hb h⟩

/-- the witness argument `x = 7.798…e-12` -/
def wx : Int := 77982159504890115185311
/-- the witness compare value, one grid point above the computed upper bound and below `e^x` -/
def wc : Int := 10000000000077982159505194176045364

theorem gt_window_witness_run :
    refExpCmp 1000 wx 3 wc = some ⟨2, .gt, 10000000000077982159505194176045363⟩ := by
  decide +kernel

theorem gt_window_witness_below : toReal wc < Real.exp (toReal wx) := by
  have h := Real.sum_le_exp_of_nonneg (toReal_nonneg (show 0 ≤ wx by decide)) 4
  simp only [Finset.sum_range_succ, Finset.sum_range_zero, Nat.factorial] at h
  refine lt_of_lt_of_le ?_ h
  simp only [toReal, wx, wc, P]
  norm_num

/-- `bound = 3` dominates `e^|x|` at the witness, the verdict is `GT`, and `compare < e^x` -/
theorem soundFull_fails_at_witness : ¬ SoundFull := by
  intro hs
  have hx0 : (0 : ℝ) ≤ toReal wx := toReal_nonneg (by decide)
  have hx1 : toReal wx ≤ 1 / 2 := by simp only [toReal, wx, P]; norm_num
  -- `e^x ≤ 1/(1-x) ≤ 2` for `0 ≤ x ≤ 1/2`
  have hb : Real.exp |toReal wx| ≤ ((3 : Int) : ℝ) := by
    rw [abs_of_nonneg hx0]
    refine (Real.exp_bound_div_one_sub_of_interval hx0 (by linarith)).trans ?_
    rw [div_le_iff₀ (by linarith)]
    push_cast
    linarith
  have := (hs 1000 wx 3 wc _ hb gt_window_witness_run).1 rfl
  exact absurd gt_window_witness_below (not_lt.mpr this.le)

theorem orig_witness_run :
    refExpCmpOrig 1000 (-P) 4 (P / 10) = some ⟨2, .gt, P / 2⟩ ∧
    (refExpCmp 1000 (-P) 4 (P / 10)).map (·.estimation) = some .lt := by
  constructor <;> decide +kernel

/-- the unrepaired `ref_exp_cmp` violates the full statement: `x = -1`, `bound = 4 ≥ e`,
    `compare = 0.1 < 1/4 ≤ e^-1`, verdict `GT` -/
theorem origSoundFull_fails_at_witness : ¬ SoundFor refExpCmpOrig := by
  intro hs
  have hx : toReal (-P) = -1 := by rw [toReal_neg]; exact congrArg _ toReal_ONE
  -- `1/4 = (1 - 1/2)^2 ≤ e^-1`, hence also `e ≤ 4`
  have h3 : (1 : ℝ) / 4 ≤ Real.exp (-1) := by
    have := Real.one_sub_div_pow_le_exp_neg (n := 2) (t := 1) (by norm_num)
    norm_num at this
    exact this
  have hb : Real.exp |toReal (-P)| ≤ ((4 : Int) : ℝ) := by
    rw [hx, abs_neg, abs_one]
    rw [Real.exp_neg, ← one_div, le_div_iff₀ (Real.exp_pos 1)] at h3
    push_cast
    linarith
  have := (hs 1000 (-P) 4 (P / 10) _ hb orig_witness_run.1).1 rfl
  have hc : toReal (P / 10) = 1 / 10 := by simp only [toReal, P]; norm_num
  rw [hx, hc] at this
  linarith

/-! ## non-vacuity: all three verdicts occur, the hypotheses are inhabited -/
example : refExpCmp 1000 P 3 (2 * P) = some ⟨2, .lt, 25000000000000000000000000000000000⟩ := by decide +kernel
example : (refExpCmp 1000 P 3 (3 * P)).map (·.estimation) = some .gt := by decide +kernel
example : (refExpCmp 1000 P 3 E).map (·.estimation) = some .unknown := by decide +kernel
example : (refExpCmp 3 P 3 E).map (·.iterations) = some 3 := by decide +kernel

end PallasVerif.Props.C16
