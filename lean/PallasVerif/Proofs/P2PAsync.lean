import PallasVerif.Proofs.P2PDomain
import PallasVerif.Model.P2PDomain
/-! C28 on the general schedule semantics (`sysRun`): `Sent` confirmations, arrivals at the responder, replies and
    deliveries may be delayed arbitrarily, as long as the schedule is in `InDomain` (`Proofs/P2PDomain.lean`). The
    invariant is `GenInv` ("general", as opposed to lock-step): per live connection the diagram `GLink` between the
    initiator's tracked view, the responder's view and what is in flight; `gen_step` keeps it, arm by arm of `sysStep`. -/
namespace PallasVerif.P2P

/-- the invariant of one live connection, for the record `st` of its peer. `ex` is a diagram: `V1` is
    the initiator's view once its unconfirmed `Send`s are confirmed, and `V2` is the common future
    reached both from `V1` by the replies still to be delivered (`toInit`) and from the responder's view
    `w` by the requests still on the wire (`toResp`). -/
structure GLink (st : Peer) (l : Link) : Prop where
  ex : ∃ V1 V2, advClient (viewOf st) l.unconfirmed = some V1 ∧ advServer V1 l.toInit = some V2 ∧
    advClient l.w l.toResp = some V2
  emittable : ∀ m, m ∈ l.unconfirmed → Emittable m
  dist : Distinct l.unconfirmed
  /-- `viewPs` maps `.done` and `.idle (some _)` to `.idle` too, so equality of views does not pin
      `st.ps`; an unconfirmed `ShareRequest` was emitted from `.idle none` (`Permits`) and that state
      must still be there when its `Sent` is applied -/
  ps : (∃ m, m ∈ l.unconfirmed ∧ m.proto = .ps) → st.ps = .idle none

theorem GLink.congr {st st' : Peer} {l : Link} (g : GLink st l) (hv : viewOf st' = viewOf st) (hp : st'.ps = st.ps) :
    GLink st' l :=
  ⟨by rw [hv]; exact g.ex, g.emittable, g.dist, by rw [hp]; exact g.ps⟩

/-- `Permits` speaks of the tracked view, the diagram needs `m` permitted after the unconfirmed `Send`s (in `V1`): it
    moves past them because none is of its protocol, which is what `hd` adds to `g.dist` (`EmitOK` of the domain) -/
theorem GLink.emit {st : Peer} {l : Link} {m : Msg} (g : GLink st l) (hp : Permits st m)
    (hd : Distinct (l.unconfirmed ++ [m])) :
    GLink st { l with unconfirmed := l.unconfirmed ++ [m], toResp := l.toResp ++ [m] } := by
  obtain ⟨V1, V2, h1, h2, h3⟩ := g.ex
  obtain ⟨V0, h0⟩ := Option.isSome_iff_exists.mp hp.2.1
  obtain ⟨V1', hc1⟩ := client_after_clients l.unconfirmed h1 h0
    (fun m' hm' => (List.pairwise_append.mp hd).2.2 m' hm' m (List.mem_singleton_self m))
  obtain ⟨V2', hw, ha⟩ := client_past_servers l.toInit hc1 h2
  refine ⟨⟨V1', V2', ?_, ha, ?_⟩, ?_, hd, ?_⟩
  · show advClient (viewOf st) (l.unconfirmed ++ [m]) = some V1'
    rw [advClient_append, h1]; simp only [Option.bind, advClient, hc1]
  · show advClient l.w (l.toResp ++ [m]) = some V2'
    rw [advClient_append, h3]; simp only [Option.bind, advClient, hw]
  · intro m' hm'
    simp only [List.mem_append, List.mem_singleton] at hm'
    rcases hm' with h | rfl
    · exact g.emittable m' h
    · exact hp.1
  · intro ⟨m', hm', hps⟩
    simp only [List.mem_append, List.mem_singleton] at hm'
    rcases hm' with h | rfl
    · exact g.ps ⟨m', h, hps⟩
    · exact hp.2.2.2 hps

theorem GLink.emitAll : ∀ (ms : List Msg) {st : Peer} {l : Link}, GLink st l → (∀ m, m ∈ ms → Permits st m) →
    Distinct (l.unconfirmed ++ ms) → GLink st { l with unconfirmed := l.unconfirmed ++ ms, toResp := l.toResp ++ ms } := by
  intro ms
  induction ms with
  | nil => intro st l g _ _; simpa using g
  | cons m ms ih =>
    intro st l g hp hd
    rw [List.append_cons] at hd
    have g1 := g.emit (hp m (List.mem_cons_self ..)) (List.pairwise_append.mp hd).1
    simpa [List.append_assoc] using ih g1 (fun m' hm' => hp m' (List.mem_cons_of_mem _ hm')) hd

theorem GLink.confirm {st : Peer} {l : Link} {m : Msg} {u : List Msg} (g : GLink st l) (hu : l.unconfirmed = m :: u) :
    GLink (st.applyMsg m) { l with unconfirmed := u } := by
  obtain ⟨V1, V2, h1, h2, h3⟩ := g.ex
  rw [hu] at h1
  obtain ⟨v1, hc, h1⟩ := advClient_cons.mp h1
  have hmem : m ∈ l.unconfirmed := by rw [hu]; exact List.mem_cons_self ..
  have hdist := g.dist; rw [hu] at hdist
  obtain ⟨hhead, htail⟩ := List.pairwise_cons.mp hdist
  have hps : m.proto = .ps → st.ps ≠ .done := fun hp => by rw [g.ps ⟨m, hmem, hp⟩]; exact fun e => by cases e
  have hview := applyMsg_view (Or.inl ⟨hc, g.emittable m hmem, hps⟩)
  refine ⟨⟨V1, V2, by rw [hview]; exact h1, h2, h3⟩, ?_, htail, ?_⟩
  · intro m' hm'; exact g.emittable m' (by rw [hu]; exact List.mem_cons_of_mem _ hm')
  · intro ⟨m', hm', hp'⟩
    have hne : m.proto ≠ .ps := fun e => hhead m' hm' (e.trans hp'.symm)
    rw [applyMsg_ps_other hne]
    exact g.ps ⟨m', by rw [hu]; exact List.mem_cons_of_mem _ hm', hp'⟩

/-- the oldest message on the wire reaches the responder: permitted, no violation observed; `∀ c`: `GLink` does not
    read `cookie` -/
theorem GLink.arrive {st : Peer} {l : Link} {m : Msg} {a : List Msg} (g : GLink st l) (ha : l.toResp = m :: a) :
    ∃ w', clientStep l.w m = some w' ∧ ∀ c, GLink st { l with toResp := a, w := w', cookie := c } := by
  obtain ⟨V1, V2, h1, h2, h3⟩ := g.ex
  rw [ha] at h3
  obtain ⟨w', hc, h3⟩ := advClient_cons.mp h3
  exact ⟨w', hc, fun c => ⟨⟨V1, V2, h1, h2, h3⟩, g.emittable, g.dist, g.ps⟩⟩

theorem GLink.reply {st : Peer} {l : Link} {m : Msg} {w' : Wire} (g : GLink st l) (hs : serverStep l.w m = some w') :
    GLink st { l with w := w', toInit := l.toInit ++ [m] } := by
  obtain ⟨V1, V2, h1, h2, h3⟩ := g.ex
  obtain ⟨V2', hs2, ha2⟩ := server_past_clients l.toResp hs h3
  refine ⟨⟨V1, V2', h1, ?_, ha2⟩, g.emittable, g.dist, g.ps⟩
  show advServer V1 (l.toInit ++ [m]) = some V2'
  rw [advServer_append, h2]; simp only [Option.bind, advServer, hs2]

/-- the new record `st'` is quantified inside: the caller learns it only after `inboundAll_recv` -/
theorem GLink.deliver {st : Peer} {l : Link} {ms rest : List Msg} (g : GLink st l) (hq : l.toInit = ms ++ rest)
    (hdom : ∀ m, m ∈ ms → ∀ m', m' ∈ l.unconfirmed → m'.proto ≠ m.proto) :
    ∃ v', advServer (viewOf st) ms = some v' ∧
      ∀ st', viewOf st' = v' → ((∃ m, m ∈ l.unconfirmed ∧ m.proto = .ps) → st'.ps = .idle none) →
        GLink st' { l with toInit := rest } := by
  obtain ⟨V1, V2, h1, h2, h3⟩ := g.ex
  rw [hq, advServer_append] at h2
  cases hb : advServer V1 ms with
  | none => rw [hb] at h2; cases h2
  | some V1b =>
    rw [hb] at h2
    obtain ⟨v', hs, ha⟩ := servers_before_clients ms h1 hb hdom
    exact ⟨v', hs, fun st' hv hps => ⟨⟨V1b, V2, by rw [hv]; exact ha, h2, h3⟩, g.emittable, g.dist, hps⟩⟩

/-- a record without a live connection has the initial view, so that a fresh connection starts in step with it -/
def LinkOK : LinkSt → Option Peer → Prop
  | .up l, r => ∃ st, r = some st ∧ GLink st l
  | .pending, r => ∃ st, r = some st ∧ viewOf st = {}
  | .down, r => ∀ st, r = some st → viewOf st = {}

structure GenInv (y : Sys) : Prop where
  ok : ∀ p, LinkOK (y.links p) (y.st.peers p)
  obs : y.observed = []

theorem GenInv.up {y : Sys} (hs : GenInv y) {p : Nat} {l : Link} (hl : y.links p = .up l) :
    ∃ st, y.st.peers p = some st ∧ GLink st l := by
  have := hs.ok p
  rwa [hl] at this

/-- the arms of `gen_step` whose event may queue a `Send` or a `Connect` (a command, `Connected`, `Error`) go through
    this; `Sent`, `Recv` and `Disconnected` queue neither -/
theorem genInv_feed {y y' : Sys} {e : Ev} (hs : GenInv y) (cf : ∀ f, step y.st e = some f → CmdFacts y.st f)
    (hok : FeedOK y e) (h : feed y e = some y') : GenInv y' := by
  obtain ⟨f, hst, rfl⟩ := feed_some h
  have cf := cf f hst
  have hok := hok f hst
  refine ⟨fun p => ?_, hs.obs⟩
  show LinkOK (absorb y.links f.out p) (f.peers p)
  have old := hs.ok p
  rw [absorb_apply]
  cases hl : y.links p with
  | up l =>
    rw [hl] at old
    obtain ⟨st0, hst0, g0⟩ := old
    obtain ⟨st, hst, hpe⟩ := cf.fwd p st0 hst0
    obtain ⟨hperm, hdist⟩ := cf.chain p st0 hst0
    exact ⟨st, hst, (g0.congr hpe.view hpe.ps).emitAll _ (fun m hm => hpe.symm.permits (hperm m hm))
      (List.pairwise_append.mpr ⟨g0.dist, hdist, fun a ha b hb => hok p l hl b hb a ha⟩)⟩
  | pending =>
    rw [hl] at old
    obtain ⟨st0, hst0, hv⟩ := old
    obtain ⟨st, hst, hpe⟩ := cf.fwd p st0 hst0
    exact ⟨st, hst, hpe.view.trans hv⟩
  | down =>
    rw [hl] at old
    have initial : ∀ st, f.peers p = some st → viewOf st = {} := by
      intro st hst
      cases h : y.st.peers p with
      | none => exact cf.new p st hst h
      | some st0 =>
        obtain ⟨st1, hst1, hpe⟩ := cf.fwd p st0 h
        rw [hst] at hst1; cases hst1
        rw [hpe.view]; exact old st0 h
    show LinkOK (if Out.connect p ∈ f.out then .pending else .down) (f.peers p)
    split
    · cases hf : f.peers p with
      | none => exact absurd hf (cf.conn p ‹_›)
      | some st => exact ⟨st, rfl, initial st hf⟩
    · exact initial

theorem genInv_setLink {y : Sys} {p : Nat} {f : St} {lp : LinkSt} (hs : GenInv y)
    (hfr : ∀ q, q ≠ p → f.peers q = y.st.peers q) (hnew : LinkOK lp (f.peers p)) :
    GenInv { st := f, links := setLink y.links p lp, observed := y.observed } := by
  refine ⟨fun q => ?_, hs.obs⟩
  show LinkOK (setLink y.links p lp q) (f.peers q)
  by_cases e : q = p
  · subst e; rw [setLink_same]; exact hnew
  · rw [setLink_other _ _ e, hfr q e]; exact hs.ok q

theorem gen_step {y y' : Sys} {a : Sched} (hs : GenInv y) (hok : StepOK y a) (h : sysStep y a = some y') : GenInv y' := by
  have h0 := h
  revert h
  -- the arms of `sysStep` in which the step applies: command 1, connect 3, confirm 5, arrive 8 (a violation: 9), reply 13,
  -- deliver 17, drop 20, fail 22
  fun_cases sysStep y a <;> intro h
  case case1 hc => exact genInv_feed hs (fun f hf' => cmd_facts hc hok.1 hf') hok.2 h
  case case3 p hl =>
    obtain ⟨st, hp, hv⟩ : LinkOK .pending (y.st.peers p) := hl ▸ hs.ok p
    -- the fresh connection: nothing in flight, and the record still has the initial view
    have g0 : GLink st {} := by
      refine ⟨⟨viewOf st, viewOf st, rfl, rfl, ?_⟩, fun m hm => (nomatch hm), List.Pairwise.nil,
        fun ⟨m, hm, _⟩ => (nomatch hm)⟩
      show advClient {} [] = some (viewOf st)
      rw [hv]; rfl
    exact genInv_feed (genInv_setLink (lp := .up {}) hs (fun _ _ => rfl) ⟨st, hp, g0⟩) (fun f hf' => connected_facts hf') hok h
  case case5 p l hl m u hu =>
    cases (sysStep_confirm hl hu).symm.trans h0
    obtain ⟨st, hst, g⟩ := hs.up hl
    exact genInv_setLink hs (fun q hq => outboundMsg_other { y.st with out := [] } m hq)
      ⟨_, outboundMsg_peer (s := { y.st with out := [] }) m hst, g.confirm hu⟩
  case case8 p l hl m a ha w' hw =>
    cases h
    obtain ⟨st, hst, g⟩ := hs.up hl
    obtain ⟨w2, hw2, hg⟩ := g.arrive ha
    cases hw.symm.trans hw2
    exact genInv_setLink hs (fun _ _ => rfl) ⟨st, hst, hg _⟩
  case case9 p l hl m a ha hn =>
    -- the invariant says the responder's table permits the oldest message on the wire
    obtain ⟨st, hst, g⟩ := hs.up hl
    obtain ⟨w', hw', -⟩ := g.arrive ha
    cases hn.symm.trans hw'
  case case13 p x k l hl c cs _ m w' hsv =>
    cases h
    obtain ⟨st, hst, g⟩ := hs.up hl
    exact genInv_setLink hs (fun _ _ => rfl) ⟨st, hst, g.reply hsv⟩
  case case17 p n l hl _ =>
    obtain ⟨st, hst, g⟩ := hs.up hl
    have hdom := hok l hl
    obtain ⟨v', hv', hg⟩ := g.deliver (List.take_append_drop (n + 1) l.toInit).symm hdom
    obtain ⟨f, hf, rfl⟩ := feed_some h
    rw [step_recv] at hf
    obtain ⟨⟨st', hst', hview, hps'⟩, hfr⟩ := inboundAll_recv (s := { y.st with out := [] }) _ hst hv' hf
    -- only events are queued, so the links stay as they are
    dsimp only
    rw [absorb_quiet _ (inboundAll_quiet (s := { y.st with out := [] }) _ hf quiet_nil)]
    refine genInv_setLink hs hfr ⟨st', hst', hg st' hview ?_⟩
    intro ⟨mu, hmu, hps⟩
    exact hps' (g.ps ⟨mu, hmu, hps⟩) (fun m hm e => hdom m hm mu hmu (hps.trans e.symm))
  case case20 p _ =>
    obtain ⟨hout, hfr0, hview⟩ := onDisconnected_spec { y.st with out := [] } p
    obtain ⟨f, hf, rfl⟩ := feed_some h
    rw [step_disconnected] at hf; cases hf
    dsimp only
    rw [hout]
    exact genInv_setLink hs hfr0 hview
  case case22 => exact genInv_feed hs (fun f hf' => error_facts hf') hok h
  -- in every other arm the step does not apply
  all_goals cases h; exact hs

theorem gen_init (cfg : Cfg) : GenInv (Sys.init cfg) :=
  ⟨fun _ _ h => (nomatch h), rfl⟩

theorem gen_run (sched : List Sched) {y y' : Sys} (hs : GenInv y) (hd : InDomain y sched) (h : sysRun y sched = some y') :
    GenInv y' := by
  fun_induction sysRun y sched with
  | case1 y => cases h; exact hs
  | case2 y a as h1 => cases h  -- the step panics
  | case3 y a as y1 h1 ih => exact ih (gen_step hs hd.1 h1) (hd.2 y1 h1) h

/-! ### a computable domain check (for examples and for classifying schedules) -/

theorem emitOKb_sound {y : Sys} {outs : List Out} (h : emitOKb y outs = true) : EmitOK y outs := by
  intro p l hl m hm m' hm'
  have hmem := mem_sendsTo.mp hm
  unfold emitOKb at h
  rw [List.all_eq_true] at h
  have := h _ hmem
  simp only [hl, protoFree, List.all_eq_true, decide_eq_true_eq] at this
  exact this m' hm'

theorem feedOKb_sound {y : Sys} {e : Ev} (h : feedOKb y e = true) : FeedOK y e := by
  intro f hf
  unfold feedOKb at h
  rw [hf] at h
  exact emitOKb_sound h

theorem stepOKb_sound {y : Sys} {a : Sched} (h : stepOKb y a = true) : StepOK y a := by
  cases a with
  | ev e =>
    simp only [stepOKb, Bool.and_eq_true] at h
    refine ⟨?_, feedOKb_sound h.2⟩
    cases e <;> simp only [SStep.ok] <;> first | trivial | (simpa [ordOKb] using h.1)
  | connect p | fail p => exact feedOKb_sound h
  | deliver p n =>
    intro l hl m hm m' hm'
    simp only [stepOKb, hl, List.all_eq_true, protoFree, decide_eq_true_eq] at h
    exact h m hm m' hm'
  | confirm p | arrive p | reply p x k | drop p => trivial

theorem inDomainB_sound : ∀ (sched : List Sched) (y : Sys), inDomainB y sched = true → InDomain y sched := by
  intro sched
  induction sched with
  | nil => intro y _; trivial
  | cons a as ih =>
    intro y h
    simp only [inDomainB, Bool.and_eq_true] at h
    refine ⟨stepOKb_sound h.1, ?_⟩
    intro y1 h1
    have := h.2
    rw [h1] at this
    exact ih y1 this

end PallasVerif.P2P
