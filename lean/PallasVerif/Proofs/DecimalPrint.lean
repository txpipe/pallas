import PallasVerif.Model.Decimal
/-! Printing side of C17: the reader `parseDecimal`, in whose terms exactness of `Display` is stated, and
    the digit-list lemmas behind `toString_exact`. Core Lean only. -/
namespace PallasVerif.Proofs.Decimal
open PallasVerif.Decimal

def notDot (c : Char) : Bool := !(c == '.')

/-- reading back a printed decimal: `-`? digits `.` digits ↦ (negative, integer part, fraction
    digits as a number, number of fraction digits) -/
def parseDecimal (cs : List Char) : Option (Bool × Nat × Nat × Nat) :=
  let neg := cs.head? == some '-'
  let rest := if neg then cs.drop 1 else cs
  let ip := rest.takeWhile notDot
  match rest.dropWhile notDot with
  | '.' :: fp =>
    if ip ≠ [] ∧ fp ≠ [] ∧ ip.all Char.isDigit ∧ fp.all Char.isDigit then
      some (neg, Nat.ofDigitChars 10 ip 0, Nat.ofDigitChars 10 fp 0, fp.length)
    else none
  | _ => none

theorem digits_isDigit (n : Nat) : ∀ c ∈ Nat.toDigits 10 n, c.isDigit = true :=
  fun _ hc => Nat.isDigit_of_mem_toDigits (by decide) (by decide) hc

theorem isDigit_ne {c d : Char} (h : c.isDigit = true) (hd : d.isDigit = false) : c ≠ d := by
  intro e; rw [e, hd] at h; exact Bool.noConfusion h

theorem takeWhile_dot (ds fp : List Char) (h : ∀ c ∈ ds, c.isDigit = true) :
    (ds ++ '.' :: fp).takeWhile notDot = ds ∧ (ds ++ '.' :: fp).dropWhile notDot = '.' :: fp := by
  have hp : ∀ c ∈ ds, notDot c = true := fun c hc => by
    have : c ≠ '.' := isDigit_ne (h c hc) (by decide)
    simp [notDot, this]
  rw [List.takeWhile_append_of_pos hp, List.dropWhile_append_of_pos hp]
  simp [notDot]

theorem pad_all_digits (n w : Nat) : ∀ c ∈ padDigits n w, c.isDigit = true := by
  intro c hc
  simp only [padDigits, List.mem_append, List.mem_replicate] at hc
  rcases hc with ⟨_, rfl⟩ | hc
  · decide
  · exact digits_isDigit n c hc

theorem pad_ne_nil (n w : Nat) : padDigits n w ≠ [] :=
  List.append_ne_nil_of_right_ne_nil _ Nat.toDigits_ne_nil

theorem pad_value (n w : Nat) : Nat.ofDigitChars 10 (padDigits n w) 0 = n := by
  simp only [padDigits]
  rw [Nat.ofDigitChars_append, Nat.ofDigitChars_replicate_zero, Nat.mul_zero, Nat.ofDigitChars_ten_toDigits]

theorem pad_zero_width (n : Nat) (hn : n = 0) : padDigits n 0 = ['0'] := by
  subst hn; simp [padDigits, Nat.toDigits_zero]

/-- at precision 0 the fraction is 0 and prints as one `0` -/
theorem pad_length_frac (n p : Nat) (hn : n < 10 ^ p) :
    (padDigits n p).length = if p = 0 then 1 else p := by
  split
  · rename_i hp
    subst hp
    rw [pad_zero_width n (by omega)]; rfl
  · rename_i hp
    have := (Nat.length_toDigits_le_iff (b := 10) (n := n) (by decide) (Nat.pos_of_ne_zero hp)).mpr hn
    simp only [padDigits, List.length_append, List.length_replicate]
    omega

theorem parse_shape (neg : Bool) (ds fp : List Char) (hds : ds ≠ []) (hfp : fp ≠ [])
    (h1 : ∀ c ∈ ds, c.isDigit = true) (h2 : ∀ c ∈ fp, c.isDigit = true) :
    parseDecimal ((if neg then ['-'] else []) ++ ds ++ '.' :: fp) =
      some (neg, Nat.ofDigitChars 10 ds 0, Nat.ofDigitChars 10 fp 0, fp.length) := by
  obtain ⟨t1, t2⟩ := takeWhile_dot ds fp h1
  have ha1 : ds.all Char.isDigit = true := List.all_eq_true.mpr h1
  have ha2 : fp.all Char.isDigit = true := List.all_eq_true.mpr h2
  cases neg with
  | true =>
    simp only [parseDecimal, if_true, List.cons_append, List.nil_append, List.head?_cons, beq_self_eq_true,
      List.drop_succ_cons, List.drop_zero, t1, t2]
    simp [hds, hfp, ha1, ha2]
  | false =>
    cases ds with
    | nil => exact absurd rfl hds
    | cons d ds' =>
      have hd : d ≠ '-' := isDigit_ne (h1 d (by simp)) (by decide)
      have hh : ((d :: ds' ++ '.' :: fp).head? == some '-') = false := by
        simp [hd]
      simp only [parseDecimal, Bool.false_eq_true, if_false, List.nil_append, hh, t1, t2]
      simp [hfp, ha1, ha2]

/-- reading back what `Display` writes for sign `neg`, integer part `q` and remainder `r < 10^p` -/
theorem parse_print (neg : Bool) (q r p : Nat) (hr : r < 10 ^ p) :
    parseDecimal ((if neg then ['-'] else []) ++ Nat.toDigits 10 q ++ '.' :: padDigits r p) =
      some (neg, q, r, if p = 0 then 1 else p) := by
  rw [parse_shape neg _ _ Nat.toDigits_ne_nil (pad_ne_nil _ _) (digits_isDigit _) (pad_all_digits _ _),
    Nat.ofDigitChars_ten_toDigits, pad_value, pad_length_frac r p hr]

end PallasVerif.Proofs.Decimal
