import PallasVerif.Proofs.DecTotal
import PallasVerif.Model.Byron
/-!
C09, model side of the Byron address decoders (`Model/Byron.lean`): the derived field loops of
`ByronAddress` and `AddressPayload` carry fuel; they never exhaust it (`byronAddress_nd`,
`addressPayload_nd`), so `ByronAddress::from_bytes` / `decode` as modelled are total with the
implementation's outcome classes only.
-/
namespace PallasVerif.Byron
open PallasVerif.Cbor PallasVerif.Minicbor PallasVerif.Wrappers

theorem shorter {cur r c : Bytes} (hne : c ≠ []) (h : cur = c ++ r) : r.length + 1 ≤ cur.length := by
  have := congrArg List.length h
  simp only [List.length_append] at this
  have : 0 < c.length := List.length_pos_iff.mpr hne
  omega

section
variable {α β γ : Type} (p0 : P α) (p1 : P β) (p2 : P γ) (h0 : ∀ cur, (p0 cur).Takes 1 cur)
  (h1 : ∀ cur, (p1 cur).Takes 1 cur) (h2 : ∀ cur, (p2 cur).Takes 1 cur)
include h0 h1

theorem fieldsDef_takes : ∀ (fuel i len : Nat) (a : Option α) (b : Option β) (cur : Bytes), cur.length + 1 ≤ fuel →
    (fieldsDef p0 p1 fuel i len a b cur).Takes 0 cur
  | 0, _, _, _, _, _, hf => absurd hf (Nat.not_succ_le_zero _)
  | f + 1, i, len, _, _, cur, hf =>
    have ih := fun a b r (hr : r.length + 1 ≤ cur.length) =>
      fieldsDef_takes f (i + 1) len a b r (by omega)
    .ite (.ok _) (.ite (.weaken (.andThen_shorter (h0 cur) fun _ => ih _ _))
      (.ite (.weaken (.andThen_shorter (h1 cur) fun _ => ih _ _))
        (.weaken (.andThen_shorter (skip_takes cur) fun _ => ih _ _))))

theorem fieldsIndef_takes : ∀ (fuel i : Nat) (a : Option α) (b : Option β) (cur : Bytes), cur.length + 1 ≤ fuel →
    (fieldsIndef p0 p1 fuel i a b cur).Takes 0 cur
  | 0, _, _, _, _, hf => absurd hf (Nat.not_succ_le_zero _)
  | f + 1, i, a, b, cur, hf =>
    have ih := fun a b r (hr : r.length + 1 ≤ cur.length) =>
      fieldsIndef_takes f (i + 1) a b r (by omega)
    .datatype fun _ => .ite (.weaken (.map _ (skip_takes cur))) (.ite (.weaken (.andThen_shorter (h0 cur) fun _ => ih _ _))
      (.ite (.weaken (.andThen_shorter (h1 cur) fun _ => ih _ _))
        (.weaken (.andThen_shorter (skip_takes cur) fun _ => ih _ _))))

theorem structArray2_takes (cur : Bytes) : (structArray2 p0 p1 cur).Takes 1 cur := by
  -- the field loop and the final test take nothing for certain: `Takes 0` for both
  refine .andThen (seqHead_takes 4 cur) fun len r => .andThen (k := 0) (j := 0) ?_ fun ab r' => ?_
  · cases len with
    | some n => exact fieldsDef_takes p0 p1 h0 h1 _ _ _ _ _ r (Nat.le_refl _)
    | none => exact fieldsIndef_takes p0 p1 h0 h1 _ _ _ _ r (Nat.le_refl _)
  · split
    · exact .ok _
    · exact .err nofun

include h2

theorem fields3Def_takes : ∀ (fuel i len : Nat) (a : Option α) (b : Option β) (c : Option γ) (cur : Bytes),
    cur.length + 1 ≤ fuel → (fields3Def p0 p1 p2 fuel i len a b c cur).Takes 0 cur
  | 0, _, _, _, _, _, _, hf => absurd hf (Nat.not_succ_le_zero _)
  | f + 1, i, len, _, _, _, cur, hf =>
    have ih := fun a b c r (hr : r.length + 1 ≤ cur.length) =>
      fields3Def_takes f (i + 1) len a b c r (by omega)
    .ite (.ok _) (.ite (.weaken (.andThen_shorter (h0 cur) fun _ => ih _ _ _))
      (.ite (.weaken (.andThen_shorter (h1 cur) fun _ => ih _ _ _))
        (.ite (.weaken (.andThen_shorter (h2 cur) fun _ => ih _ _ _))
          (.weaken (.andThen_shorter (skip_takes cur) fun _ => ih _ _ _)))))

theorem fields3Indef_takes : ∀ (fuel i : Nat) (a : Option α) (b : Option β) (c : Option γ) (cur : Bytes),
    cur.length + 1 ≤ fuel → (fields3Indef p0 p1 p2 fuel i a b c cur).Takes 0 cur
  | 0, _, _, _, _, _, hf => absurd hf (Nat.not_succ_le_zero _)
  | f + 1, i, a, b, c, cur, hf =>
    have ih := fun a b c r (hr : r.length + 1 ≤ cur.length) =>
      fields3Indef_takes f (i + 1) a b c r (by omega)
    .datatype fun _ => .ite (.weaken (.map _ (skip_takes cur))) (.ite (.weaken (.andThen_shorter (h0 cur) fun _ => ih _ _ _))
      (.ite (.weaken (.andThen_shorter (h1 cur) fun _ => ih _ _ _))
        (.ite (.weaken (.andThen_shorter (h2 cur) fun _ => ih _ _ _))
          (.weaken (.andThen_shorter (skip_takes cur) fun _ => ih _ _ _)))))

theorem structArray3_takes (cur : Bytes) : (structArray3 p0 p1 p2 cur).Takes 1 cur := by
  refine .andThen (seqHead_takes 4 cur) fun len r => .andThen (k := 0) (j := 0) ?_ fun abc r' => ?_
  · cases len with
    | some n => exact fields3Def_takes p0 p1 p2 h0 h1 h2 _ _ _ _ _ _ r (Nat.le_refl _)
    | none => exact fields3Indef_takes p0 p1 p2 h0 h1 h2 _ _ _ _ _ r (Nat.le_refl _)
  · split
    · exact .ok _
    · exact .err nofun

end

theorem byronAddress_nd : NoDiverge ByronAddress.dec :=
  .of_takes fun cur => .map _ (structArray2_takes _ _ (tagWrap_takes cBytes bytes_takes) (uintN_takes 32) cur)

theorem hash28_takes (cur : Bytes) : (hash28 cur).Takes 1 cur :=
  .andThen (bytes_takes cur) fun _ _ => .ite (.ok _) (.err nofun)

theorem addrDistr_takes (cur : Bytes) : (AddrDistr.dec cur).Takes 1 cur :=
  .andThen (seqHead_takes 4 cur) fun _ r => .andThen (uintN_takes 32 r) fun _ r' =>
    .ite (.weaken (.map _ (hash28_takes r'))) (.ite (.ok _) (.err nofun))

theorem addrAttr_takes (cur : Bytes) : (AddrAttr.dec cur).Takes 1 cur :=
  .andThen (uintN_takes 8 cur) fun _ r =>
    .ite (.map _ (addrDistr_takes r)) (.ite (.map _ (bytes_takes r)) (.ite (.map _ (bytes_takes r)) (.err nofun)))

theorem addressPayload_nd : NoDiverge AddressPayload.dec :=
  .of_takes fun cur => .map _ (structArray3_takes _ _ _ hash28_takes (opp_takes _ addrAttr_takes) (uintN_takes 32) cur)

end PallasVerif.Byron
