import PallasVerif.Proofs.P2PPromo
import PallasVerif.Proofs.P2PVisitors
/-! Every step of the initiator model preserves the promotion invariant, never emits `Connect`
    for a peer that was banned before the step, and only panics on `error_count` overflow (`step_good`). Every
    handler of one peer's record is walked once: all but `inboundMsg` have the shape `Handled` (`hkPeer_spec`, the
    `*_handled`), `inboundMsg_spec` says the same of an inbound message, and `Good` here, the error bound (`P2PErr`)
    and the C28 facts (`P2PSync`) are read off them. What one visit preserves, each of the three list passes
    preserves (`*_preserves`). -/
namespace PallasVerif.P2P

/-- `s'` agrees with `s` on all that `SetsOK` reads -/
structure Core (s s' : St) : Prop where
  cfg : s'.cfg = s.cfg
  cold : s'.cold = s.cold
  warm : s'.warm = s.warm
  hot : s'.hot = s.hot
  banned : s'.banned = s.banned

theorem SetsOK.congr {s f : St} (h : SetsOK s) (c : Core s f) : SetsOK f := by
  obtain ⟨h1, h2, h3, h4, h5⟩ := c
  constructor <;> simp only [h1, h2, h3, h4, h5]
  · exact h.ndC
  · exact h.ndW
  · exact h.ndH
  · exact h.ndB
  · exact h.dCW
  · exact h.dCH
  · exact h.dCB
  · exact h.dWH
  · exact h.dWB
  · exact h.dHB
  · exact h.limW
  · exact h.limH
  · exact h.limT

/-- re-attach the detached peer after a primitive promotion operation `(s0, st0) ↦ (s1, st1)`: `st2` is
    `st1` after the visitors that keep the tag, `f` is `s1` after the updates that keep the sets, with
    `st2` stored as the record of `p` -/
theorem attach {s0 s1 f : St} {p : Nat} {st0 st1 st2 : Peer}
    (hinv : Inv s0) (hprim : Prim s0 p st0 s1 st1) (h0 : p ∈ s0.banned → ¬ WH st0.tag)
    (htag : st2.tag = st1.tag) (hcore : Core s1 f) (hpeers : f.peers = setPeer s1.peers p st2) :
    Inv f := by
  refine ⟨(hprim.sets hinv.sets).congr hcore, ?_⟩
  intro q st hq hb
  rw [hcore.banned] at hb
  rw [hpeers, hprim.peers] at hq
  by_cases e : q = p
  · subst e
    rw [setPeer_same] at hq
    cases hq
    rw [htag]
    exact hprim.tag hinv.sets h0 hb
  · rw [setPeer_other _ _ e] at hq
    rcases hprim.bnew q hb with h | h
    · exact hinv.tags q st hq h
    · exact absurd h e

theorem needsConnection_WH {st : Peer} (h : needsConnection st = true) : WH st.tag := by
  unfold needsConnection at h
  unfold WH
  cases hc : st.conn <;> cases ht : st.tag <;> simp [hc, ht] at h ⊢

theorem discoveryHk_some (s : St) (p : Nat) (st : Peer) :
    ∃ o, discoveryHk s p st = some o ∧ ∀ q, Out.connect q ∉ o := by
  fun_cases discoveryHk s p st
  -- the subtraction of `request_peers` underflows: not behind the guard `needs_more_peers`
  case case1 h1 _ hu => rw [usub_some (Nat.le_of_lt h1)] at hu; cases hu
  all_goals exact ⟨_, rfl, by simp⟩

/-- `b0` = the peers that were in `banned_peers` when the current event started. `noconn` speaks of `b0`
    and not of `s.banned`: a peer banned in the middle of an event may have got its `Connect` earlier in
    the same event, and only bans that were there when the event arrived are promised to hold it off -/
structure Good (b0 : List Nat) (s : St) : Prop where
  inv : Inv s
  bsub : ∀ q, q ∈ b0 → q ∈ s.banned
  noconn : ∀ q, Out.connect q ∈ s.out → q ∉ b0

theorem Retag.proto {st st' : Peer} (h : Retag st st') : ProtoEq st st' := by
  obtain ⟨t, rfl⟩ := h; exact ⟨rfl, rfl, rfl, rfl, rfl, rfl, rfl, rfl⟩

theorem Retag.err {st st' : Peer} (h : Retag st st') : st'.errorCount = st.errorCount := by
  obtain ⟨t, rfl⟩ := h; rfl

/-- one handler run on the record of peer `p`, as far as the promotion invariant reads it: `st` is the detached
    record, `st1` what is stored back for `p`, `new` what the run appended to the queue -/
structure Visit (s f : St) (p : Nat) (st st1 : Peer) (new : List Out) : Prop where
  prim : ∃ s1 st0, Prim s p st s1 st0 ∧ Core s1 f ∧ st1.tag = st0.tag
  peers : f.peers = setPeer s.peers p st1
  out : f.out = s.out ++ new

/-- `h0` is `TagOK` for the detached record -/
theorem Visit.good {b0 : List Nat} {s f : St} {p : Nat} {st st1 : Peer} {new : List Out} (g : Good b0 s)
    (v : Visit s f p st st1 new) (h0 : p ∈ s.banned → ¬ WH st.tag)
    (hc : ∀ q, Out.connect q ∈ new → q = p ∧ WH st1.tag) : Good b0 f := by
  obtain ⟨s1, st0, hprim, hcore, htag⟩ := v.prim
  have hb : ∀ q, q ∈ b0 → q ∈ s1.banned := fun q hq => hprim.bmono q (g.bsub q hq)
  refine ⟨attach g.inv hprim h0 htag hcore (by rw [v.peers, hprim.peers]), fun q hq => hcore.banned ▸ hb q hq, ?_⟩
  intro q hq hq0
  rw [v.out, List.mem_append] at hq
  rcases hq with h | h
  · exact g.noconn q h hq0
  · obtain ⟨rfl, hw⟩ := hc q h
    exact hprim.tag g.inv.sets h0 (hb q hq0) (htag ▸ hw)

/-- the visit of a handler that runs no promotion primitive -/
theorem Visit.plain {s f : St} {p : Nat} {st : Peer} {new : List Out} (hcore : Core s f)
    (hpeers : f.peers = setPeer s.peers p st) (hout : f.out = s.out ++ new) : Visit s f p st st new :=
  ⟨⟨s, st, Prim.refl s p st, hcore, rfl⟩, hpeers, hout⟩

/-- what a visit does to the record, and what it queues -/
structure Housekept (p : Nat) (st st1 : Peer) (new : List Out) : Prop where
  proto : ProtoEq st st1
  err : st1.errorCount = st.errorCount
  send : ∀ q m, Out.send q m ∈ new → q = p ∧ Permits st1 m
  conn : ∀ q, Out.connect q ∈ new → q = p ∧ WH st1.tag
  dist : Distinct (sendsTo p new)

theorem Housekept.emits {P : List Proto} {p : Nat} {st st1 : Peer} {o : List Out} (hre : Retag st st1)
    (h : Emits P p st1 o) (hP : P.Nodup) : Housekept p st st1 o :=
  ⟨hre.proto, hre.err, h.send, fun q hq => absurd hq (h.noconn q), h.dist hP⟩

/-- `connectionHk` on the re-tagged record, then emitters: the only `Connect` is its own, asked for by the tag -/
theorem Housekept.connect {P : List Proto} {p : Nat} {st st0 : Peer} {o : List Out} (hre : Retag st st0)
    (e : Emits P p (connectionHk p st0).1 o) (hP : P.Nodup) :
    Housekept p st (connectionHk p st0).1 ((connectionHk p st0).2 ++ o) := by
  obtain ⟨⟨c, hst1⟩, hns, hconn⟩ := connectionHk_spec p st0
  refine ⟨hre.proto.trans (by rw [hst1]; exact ⟨rfl, rfl, rfl, rfl, rfl, rfl, rfl, rfl⟩), by rw [hst1]; exact hre.err,
    fun q m hq => ?_, fun q hq => ?_, by rw [sendsTo_append, sendsTo_nil_of_nosend (hns p)]; exact e.dist hP⟩
  · rcases List.mem_append.mp hq with hh | hh
    · exact absurd hh (hns q m)
    · exact e.send q m hh
  · rcases List.mem_append.mp hq with hh | hh
    · exact ⟨(hconn q hh).1, by rw [hst1]; exact needsConnection_WH (st := st0) (hconn q hh).2⟩
    · exact absurd hh (e.noconn q)

theorem Housekept.quiet {p : Nat} {st : Peer} {o : List Out} (h : Quiet o) : Housekept p st st o :=
  ⟨ProtoEq.refl st, rfl, fun q m hm => absurd hm (h.1 q m), fun q hq => absurd hq (h.2 q),
    by rw [sendsTo_nil_of_nosend (h.1 p)]; exact List.Pairwise.nil⟩

/-- the shape of every handler of one peer's record but `inboundMsg`: an untracked peer is ignored; the record of a
    tracked one is detached, changed by `g` (the tag function, `apply_msg`, `reset`, a connection state), visited, and
    stored. `Good`, `ErrLe` and `Pass` (C28) are each preserved by this, given what `g` does to the field they read -/
inductive Handled (s : St) (p : Nat) (g : Peer → Peer) : St → Prop
  | untracked : s.peers p = none → Handled s p g s
  | visit {f : St} {st st1 : Peer} {new : List Out} : s.peers p = some st → Visit s f p (g st) st1 new →
      Housekept p (g st) st1 new → Handled s p g f

theorem Handled.good {b0 : List Nat} {s f : St} {p : Nat} {g : Peer → Peer} (h : Handled s p g f) (gd : Good b0 s)
    (hg : ∀ st, WH (g st).tag → WH st.tag) : Good b0 f := by
  cases h with
  | untracked => exact gd
  | visit hp v k => exact v.good gd (fun hb hw => gd.inv.tags p _ hp hb (hg _ hw)) k.conn

theorem hkPeer_spec {s f : St} {p : Nat} (h : hkPeer s p = some f) : Handled s p id f := by
  revert h
  fun_cases hkPeer s p <;> intro h <;> cases h
  case case1 hp => exact .untracked hp
  -- no subtraction underflows; the `let`s of `hkPeer` by name: `st1` is the record after `connectionHk`, `s2`, `s3` the
  -- state after the two fetchers
  case case4 st hp s1 st0 hc c st1 o2 o3 hd b s2 o5 o6 l s3 =>
    obtain ⟨hprim, hre⟩ : Prim s p st s1 st0 ∧ Retag st st0 := categorize_spec hc
    -- the two visitors that return a state only shorten a request queue
    obtain ⟨q1, hb⟩ : ∃ q, s2 = _ := blockfetchHk_fst s1 p st1
    obtain ⟨q2, hl⟩ : ∃ q, s3 = _ := leiosfetchHk_fst s2 p st1
    have htag : st1.tag = st0.tag := by
      obtain ⟨⟨c, hst1⟩, -⟩ := connectionHk_spec p st0; exact (congrArg Peer.tag hst1 :)
    -- what was queued is read off the `++` of the emitters
    refine .visit hp ⟨⟨s1, st0, hprim, ?_, htag⟩, ?_, ?_⟩
      (.connect hre ((keepaliveHk_emits s1.kaToken p _).append ((discoveryHk_emits hd).append
        ((blockfetchHk_emits s1 p _).append ((chainsyncHk_emits s2 p _).append
        ((leiosnotifyHk_emits p _).append (leiosfetchHk_emits s2 p _))))))
        (by decide))
    · rw [hl, hb]; exact ⟨rfl, rfl, rfl, rfl, rfl⟩
    · rw [hl, hb, ← hprim.peers]
    · simp only [show s3.out = s.out by rw [hl, hb]; exact hprim.out, List.append_assoc]; rfl

/-- the subtractions of a visit do not underflow: those of `categorize_peer` on a state within its limits, that of
    `request_peers` behind its own guard -/
theorem hkPeer_some {s : St} (p : Nat) (hs : SetsOK s) : ∃ f, hkPeer s p = some f := by
  fun_cases hkPeer s p
  case case2 st _ hc => obtain ⟨_, _, h, -⟩ := categorize_prim s p st hs; cases hc.symm.trans h
  case case3 hd => obtain ⟨_, h, -⟩ := discoveryHk_some _ p _; cases hd.symm.trans h
  all_goals exact ⟨_, rfl⟩

theorem hkAll_good {b0 : List Nat} (ord : List Nat) {s : St} (g : Good b0 s) :
    ∃ f, hkAll s ord = some f ∧ Good b0 f := by
  induction ord generalizing s with
  | nil => exact ⟨s, rfl, g⟩
  | cons p ps ih =>
    obtain ⟨f1, h1⟩ := hkPeer_some p g.inv.sets
    simp only [hkAll, h1]
    exact ih ((hkPeer_spec h1).good g (fun _ => id))

theorem onDiscovered_good {b0 : List Nat} {s : St} (p : Nat) (g : Good b0 s) :
    ∃ f, onDiscovered s p = some f ∧ Good b0 f := by
  unfold onDiscovered
  obtain ⟨s1, st1, h1, hprim, -⟩ := onPeerDiscovered_prim s p {} g.inv.sets
  simp only [h1]
  exact ⟨_, rfl, Visit.good (new := []) g ⟨⟨s1, st1, hprim, ⟨rfl, rfl, rfl, rfl, rfl⟩, rfl⟩, by rw [hprim.peers],
    by rw [hprim.out]; exact (List.append_nil _).symm⟩ (fun _ => not_WH_cold) (fun _ h => nomatch h)⟩

theorem onPeerDiscovered_retag {s s1 : St} {p : Nat} {st st1 : Peer} (h : onPeerDiscovered s p st = some (s1, st1)) :
    Retag st st1 ∧ s1.out = s.out ∧ s1.peers = s.peers := by
  revert h
  fun_cases onPeerDiscovered s p st <;> intro h <;> cases h
  case case2 | case5 => exact ⟨⟨st.tag, rfl⟩, rfl, rfl⟩  -- already warm or hot, or no room: record unchanged
  all_goals exact ⟨⟨_, rfl⟩, rfl, rfl⟩

theorem onDiscovered_spec {s f : St} {p : Nat} (h : onDiscovered s p = some f) :
    ∃ st1 : Peer, f.peers = setPeer s.peers p st1 ∧ f.out = s.out ∧ viewOf st1 = {} ∧ st1.errorCount = 0 := by
  unfold onDiscovered at h
  cases hc : onPeerDiscovered s p {} with
  | none => simp only [hc] at h; cases h
  | some r =>
    obtain ⟨s1, st1⟩ := r
    simp only [hc, Option.some.injEq] at h
    subst h
    obtain ⟨hre, hout, hpe⟩ := onPeerDiscovered_retag hc
    exact ⟨st1, by rw [← hpe], hout, hre.proto.view, hre.err⟩

theorem discAll_good {b0 : List Nat} (sel : List Nat) {s : St} (g : Good b0 s) :
    ∃ f, discAll s sel = some f ∧ Good b0 f := by
  induction sel generalizing s with
  | nil => exact ⟨s, rfl, g⟩
  | cons q qs ih =>
    unfold discAll
    by_cases ht : (s.peers q).isSome = true
    · simp only [ht, if_true]; exact ih g
    · obtain ⟨f1, h1, g1⟩ := onDiscovered_good q g
      simp only [ht, h1]
      exact ih g1

theorem moveDiscovered_good {b0 : List Nat} {s : St} (taken : List Nat) (g : Good b0 s) :
    ∃ f, moveDiscovered s taken = some f ∧ Good b0 f := by
  fun_cases moveDiscovered s taken
  case case1 hu => rw [usub_some (show s.total ≤ _ from g.inv.sets.limT)] at hu; cases hu  -- `peer_deficit` underflows
  case case2 => exact ⟨s, rfl, g⟩  -- no deficit
  case case3 =>
    apply discAll_good
    exact ⟨⟨g.inv.sets.congr ⟨rfl, rfl, rfl, rfl, rfl⟩, g.inv.tags⟩, g.bsub, g.noconn⟩

theorem housekeeping_good {b0 : List Nat} {s : St} (ord taken : List Nat) (g : Good b0 s) :
    ∃ f, housekeeping s ord taken = some f ∧ Good b0 f := by
  unfold housekeeping
  obtain ⟨f1, h1, g1⟩ := hkAll_good ord g
  simp only [h1]
  exact moveDiscovered_good taken g1

/-- what one inbound message does to the record, and what it queues -/
structure Follows (m : Msg) (st st1 : Peer) (new : List Out) : Prop where
  view : viewOf st1 = viewOf (st.applyMsg m)
  err : st1.errorCount = st.errorCount
  ps : (st.applyMsg m).ps = .idle none → st1.ps = .idle none
  quiet : Quiet new

theorem inboundMsg_spec {s f : St} {p : Nat} {m : Msg} (h : inboundMsg s p m = some f) :
    (s.peers p = none ∧ f = s) ∨
      ∃ st st1 new, s.peers p = some st ∧ Visit s f p (st.applyMsg m) st1 new ∧ Follows m st st1 new := by
  revert h
  fun_cases inboundMsg s p m <;> intro h <;> cases h
  case case1 hp => exact Or.inl ⟨hp, rfl⟩
  -- `categorize_peer` returns; the `let`s of `inboundMsg` by name: `sta` is the record after `apply_msg`, `hi` and `d` are
  -- what the handshake and the discovery visitor return, `s2` and `st2` the two components of `d`
  case case3 st hp sta s1 st0 hc hi d s2 st2 o4 c n l =>
    obtain ⟨hprim, hre⟩ : Prim s p sta s1 st0 ∧ Retag sta st0 := categorize_spec hc
    obtain ⟨q, hd⟩ : ∃ q, s2 = _ := (discoveryInbound_spec s1 hi.1).2
    -- `try_take_peers` queues nothing and `blockfetchInbound` leaves the record: together one link of the chain
    have k := inbound_trans (handshakeInbound_spec p st0) (inbound_trans
      ⟨(discoveryInbound_spec s1 _).1, blockfetchInbound_quiet p st2⟩
      (inbound_trans (chainsyncInbound_spec p _) (inbound_trans (leiosnotifyInbound_spec p _)
        (leiosfetchInbound_spec p _))))
    refine Or.inr ⟨st, _, _, hp, ⟨⟨s1, st0, hprim, ?_, k.1.tag⟩, ?_, ?_⟩,
      ⟨k.1.view.trans hre.proto.view, k.1.err.trans (hre.err.trans (applyMsg_err st m)),
        fun hps => k.1.ps (hre.proto.ps.trans hps), k.2⟩⟩
    · rw [hd]; exact ⟨rfl, rfl, rfl, rfl, rfl⟩
    · rw [hd, ← hprim.peers]
    · rw [hd]; simp only [hprim.out, List.append_assoc]; rfl

theorem inboundMsg_some {s : St} (p : Nat) (m : Msg) (hs : SetsOK s) : ∃ f, inboundMsg s p m = some f := by
  fun_cases inboundMsg s p m
  -- a subtraction of `categorize_peer` underflows: not on a state within its limits
  case case2 st _ sta hc => obtain ⟨_, _, h, -⟩ := categorize_prim s p sta hs; cases hc.symm.trans h
  all_goals exact ⟨_, rfl⟩

theorem inboundMsg_good {b0 : List Nat} {s : St} (p : Nat) (m : Msg) (g : Good b0 s) :
    ∃ f, inboundMsg s p m = some f ∧ Good b0 f := by
  obtain ⟨f, h⟩ := inboundMsg_some p m g.inv.sets
  refine ⟨f, h, ?_⟩
  rcases inboundMsg_spec h with ⟨-, rfl⟩ | ⟨st, st1, new, hp, v, k⟩
  · exact g
  · exact v.good g (fun hb => by rw [applyMsg_tag]; exact g.inv.tags p st hp hb) (fun q hq => absurd hq (k.quiet.2 q))

theorem inboundAll_good {b0 : List Nat} (p : Nat) (ms : List Msg) {s : St} (g : Good b0 s) :
    ∃ f, inboundAll s p ms = some f ∧ Good b0 f := by
  induction ms generalizing s with
  | nil => exact ⟨s, rfl, g⟩
  | cons m ms ih =>
    obtain ⟨f1, h1, g1⟩ := inboundMsg_good p m g
    simp only [inboundAll, h1]
    exact ih g1

theorem outboundMsg_handled (s : St) (p : Nat) (m : Msg) : Handled s p (·.applyMsg m) (outboundMsg s p m) := by
  unfold outboundMsg
  cases hp : s.peers p with
  | none => exact .untracked hp
  | some st => exact .visit hp (.plain ⟨rfl, rfl, rfl, rfl, rfl⟩ rfl (List.append_nil _).symm) (.quiet quiet_nil)

theorem onConnected_handled (s : St) (p : Nat) : Handled s p ({ · with conn := .connected }) (onConnected s p) := by
  unfold onConnected
  cases hp : s.peers p with
  | none => exact .untracked hp
  | some st =>
    exact .visit hp (.plain ⟨rfl, rfl, rfl, rfl, rfl⟩ rfl rfl) (.emits ⟨_, rfl⟩ (proposeHandshake_emits p _) (by decide))

theorem onDisconnected_handled (s : St) (p : Nat) : Handled s p Peer.reset (onDisconnected s p) := by
  unfold onDisconnected
  cases hp : s.peers p with
  | none => exact .untracked hp
  | some st => exact .visit hp (.plain ⟨rfl, rfl, rfl, rfl, rfl⟩ rfl (List.append_nil _).symm) (.quiet quiet_nil)

theorem onErrored_handled {s f : St} {p : Nat} (h : onErrored s p = some f) :
    Handled s p (fun st => { st with conn := .errored, errorCount := st.errorCount + 1 }) f := by
  revert h
  fun_cases onErrored s p <;> intro h <;> cases h
  case case1 hp => exact .untracked hp
  case case2 st hp _ _ _ _ =>
    exact .visit hp (.plain ⟨rfl, rfl, rfl, rfl, rfl⟩ rfl rfl) (.quiet (connectionErrored_quiet p _))

theorem onErrored_some {s : St} (p : Nat) (hc : ∀ st, s.peers p = some st → st.errorCount + 1 < u32Bound) :
    ∃ f, onErrored s p = some f := by
  fun_cases onErrored s p
  case case3 st hp c => exact absurd (hc st hp) c
  all_goals exact ⟨_, rfl⟩

/-- a commanded ban the sets do not have yet is entered by `ban_peer`, as `categorize_peer` would -/
theorem onTagged_handled (s : St) (p : Nat) (g : Peer → Peer) : Handled s p g (onTagged s p g) := by
  unfold onTagged
  cases hp : s.peers p with
  | none => exact .untracked hp
  | some st =>
    dsimp only
    split
    · exact .visit hp ⟨⟨_, _, prim_banPeer s p (g st), ⟨rfl, rfl, rfl, rfl, rfl⟩, rfl⟩, rfl, rfl⟩
        (.emits ⟨_, rfl⟩ (chainsyncTagged_emits p _) (by decide))
    · exact .visit hp (.plain ⟨rfl, rfl, rfl, rfl, rfl⟩ rfl rfl) (.emits ⟨_, rfl⟩ (chainsyncTagged_emits p _) (by decide))

theorem banUntracked_good {b0 : List Nat} {s : St} (p : Nat) (hp : s.peers p = none) (g : Good b0 s) :
    Good b0 (banPeer s p {}).1 := by
  have hprim := prim_banPeer s p {}
  refine ⟨⟨hprim.sets g.inv.sets, ?_⟩, fun q hq => hprim.bmono q (g.bsub q hq), g.noconn⟩
  intro q st hq hb
  rcases hprim.bnew q hb with h | h
  · exact g.inv.tags q st hq h
  · subst h
    rw [show (banPeer s q {}).1.peers = s.peers from rfl, hp] at hq
    cases hq

/-- errors counted so far stay below the `u32` bound for this event -/
def ErrRoom (s : St) (e : Ev) : Prop :=
  ∀ p st, e = .error p → s.peers p = some st → st.errorCount + 1 < u32Bound

theorem good_reset {s : St} (h : Inv s) : Good s.banned { s with out := [] } :=
  ⟨⟨h.sets.congr ⟨rfl, rfl, rfl, rfl, rfl⟩, h.tags⟩, fun _ hq => hq, fun _ hq => by simp at hq⟩

theorem step_good {s : St} (e : Ev) (h : Inv s) (hr : ErrRoom s e) :
    ∃ f, step s e = some f ∧ Good s.banned f := by
  have g := good_reset h
  unfold step
  cases e with
  | includePeer p =>
    dsimp only
    by_cases ht : (s.peers p).isSome = true
    · simp only [ht, if_true]; exact ⟨_, rfl, g⟩
    · simp only [ht]; exact onDiscovered_good p g
  | housekeeping ord taken | idle ord taken => exact housekeeping_good ord taken g
  | startSync | requestBlocks r | fetchEb p eb | fetchEbTxs p eb =>
    exact ⟨_, rfl, ⟨g.inv.sets.congr ⟨rfl, rfl, rfl, rfl, rfl⟩, g.inv.tags⟩, g.bsub, g.noconn⟩
  | sendTx => exact ⟨_, rfl, g⟩
  | continueSync p => exact ⟨_, rfl, (onTagged_handled _ p _).good g (fun _ hw => hw)⟩
  | demotePeer p => exact ⟨_, rfl, (onTagged_handled _ p _).good g (fun _ hw => absurd hw not_WH_cold)⟩
  | banPeer p =>
    dsimp only
    refine ⟨_, rfl, (onTagged_handled _ p _).good ?_ (fun _ hw => absurd hw not_WH_banned)⟩
    by_cases ht : (s.peers p).isSome = true
    · simp only [ht, if_true]; exact g
    · simp only [ht]
      exact banUntracked_good p (Option.not_isSome_iff_eq_none.mp ht) g
  | connected p => exact ⟨_, rfl, (onConnected_handled _ p).good g (fun _ => id)⟩
  | disconnected p => exact ⟨_, rfl, (onDisconnected_handled _ p).good g (fun _ hw => absurd hw not_WH_cold)⟩
  | recv p ms => exact inboundAll_good p ms g
  | sent p m => exact ⟨_, rfl, (outboundMsg_handled _ p m).good g (fun st => by rw [applyMsg_tag]; exact id)⟩
  | error p =>
    obtain ⟨f, hf⟩ := onErrored_some (s := { s with out := [] }) p (fun st hst => hr p st rfl hst)
    exact ⟨f, hf, (onErrored_handled hf).good g (fun _ => id)⟩

theorem errRoom_of_step {s f : St} {e : Ev} (h : step s e = some f) : ErrRoom s e := by
  intro p st he hp
  subst he
  unfold step at h
  dsimp only at h
  unfold onErrored at h
  split at h
  · rename_i hn
    cases hp.symm.trans hn
  · rename_i st' hp2
    cases hp.symm.trans hp2
    split at h
    · assumption
    · cases h

theorem step_inv {s f : St} {e : Ev} (hi : Inv s) (h : step s e = some f) : Good s.banned f := by
  obtain ⟨f', h', g⟩ := step_good e hi (errRoom_of_step h)
  rw [h] at h'; cases h'; exact g

theorem run_inv : ∀ (h : List Ev) {s f : St}, Inv s → run s h = some f →
    Inv f ∧ ∀ q, q ∈ s.banned → q ∈ f.banned := by
  intro h s f hi hr
  fun_induction run s h
  case case1 => cases hr; exact ⟨hi, fun _ hq => hq⟩
  case case2 => cases hr  -- the step panics
  case case3 s e es s1 h1 ih =>
    have g := step_inv hi h1
    exact ⟨(ih g.inv hr).1, fun q hq => (ih g.inv hr).2 q (g.bsub q hq)⟩

theorem init_inv (cfg : Cfg) : Inv (St.init cfg) := by
  refine ⟨?_, ?_⟩
  · constructor <;> simp [St.init]
  · intro p st hp; simp [St.init] at hp

theorem housekeeping_spec {s f : St} {ord taken : List Nat} (h : housekeeping s ord taken = some f) :
    ∃ s1, hkAll s ord = some s1 ∧ moveDiscovered s1 taken = some f := by
  revert h
  fun_cases housekeeping s ord taken <;> intro h
  case case1 => cases h  -- the per-peer pass panics
  case case2 s1 h1 => exact ⟨s1, h1, h⟩

theorem hkAll_preserves {I : St → Prop} (hk : ∀ {s f : St} (p : Nat), I s → hkPeer s p = some f → I f) :
    ∀ (ord : List Nat) {s f : St}, I s → hkAll s ord = some f → I f := by
  intro ord s f hi h
  fun_induction hkAll s ord
  case case1 => cases h; exact hi
  case case2 => cases h  -- the visit panics
  case case3 s p ps s1 h1 ih => exact ih (hk p hi h1) h

theorem inboundAll_preserves {I : St → Prop} {p : Nat}
    (inb : ∀ {s f : St} (m : Msg), I s → inboundMsg s p m = some f → I f) :
    ∀ (ms : List Msg) {s f : St}, I s → inboundAll s p ms = some f → I f := by
  intro ms s f hi h
  fun_induction inboundAll s p ms
  case case1 => cases h; exact hi
  case case2 => cases h  -- `inboundMsg` panics
  case case3 s m ms s1 h1 ih => exact ih (inb m hi h1) h

theorem inboundAll_quiet {s f : St} {p : Nat} (ms : List Msg) (h : inboundAll s p ms = some f) (hs : Quiet s.out) :
    Quiet f.out :=
  inboundAll_preserves (I := fun f => Quiet f.out) (fun _ hi h1 => by
    rcases inboundMsg_spec h1 with ⟨-, rfl⟩ | ⟨st, st1, new, -, v, k⟩
    · exact hi
    · rw [v.out]; exact hi.append k.quiet) ms hs h

/-- only untracked peers are handed to `on_discovered` -/
theorem discAll_preserves {I : St → Prop}
    (disc : ∀ {s f : St} (q : Nat), I s → s.peers q = none → onDiscovered s q = some f → I f) :
    ∀ (sel : List Nat) {s f : St}, I s → discAll s sel = some f → I f := by
  intro sel s f hi h
  fun_induction discAll s sel
  case case1 => cases h; exact hi
  case case2 ih => exact ih hi h  -- the head is tracked: skipped
  case case3 => cases h  -- `on_discovered` panics
  case case4 s q qs hq s1 h1 ih => exact ih (disc q hi (by simpa using hq) h1) h

end PallasVerif.P2P