import PallasVerif.Proofs.Guarded
import PallasVerif.Proofs.Value
/-!
# C34 — Accepted transactions conserve value exactly

`Model/Value.lean` transcribes the value arithmetic of `utils.rs` and the preservation rule of every era.
Here the exact balance is stated with plain integer sums (`sumCoins`, `sumAssets`, `tot`: the quantity of one asset
in a value, summed over **all** entries with that key, so nothing is hidden by a look-up) and proved for every
list of spent values, produced values, fee and mint:

* `preservation_sound` — Alonzo, Babbage (`checkPreservation`);
* `preservation_sound_shelleyMA` — Shelley, Allegra, Mary (zero deposit / refund terms, as the property demands a
  transaction without certificates and withdrawals);
* `preservation_sound_conway` — Conway; the spent and produced values and the mint must have unique keys, which
  every decoded `BTreeMap` has (`Norm`, `NodupMA`: checked on a concrete value in the examples below);
* `byron_fees_sound` — Byron: outputs never exceed inputs, and (unless every input is a redeem address) inputs exceed
  outputs by at least `summand + multiplier * size`.

The first three say: verdict `ok` ⇒ for ada and for every asset, spent + minted = produced + fee, in `Int`.
Each of the four is the second half of the one statement about its rule (`…_total_sound`); the first half, that the rule
never panics, is C33's.
The counter-examples the unchanged tree accepts (DESIGN §6 #21) are rejected by the model of the fixed code
(`examples` at the end); they are replayed against the real code from `corpus/C34`.
-/
namespace PallasVerif.Props.C34
open PallasVerif.Value

def mintTot (mint : Option MA) (p n : String) : Int :=
  match mint with
  | some m => tot m p n
  | none => 0

/-- spent + minted = produced + fee, for ada and for every asset, in unbounded integers -/
def Balanced (ins outs : List Value) (fee : Int) (mint : Option MA) : Prop :=
  sumCoins ins = sumCoins outs + fee ∧
  ∀ p n, sumAssets ins p n + mintTot mint p n = sumAssets outs p n

theorem balanced_of_equal {ins outs : List Value} {fee : Int} {mint : Option MA} {input output : Value}
    (hin : Norm input) (hout : Norm output) (heq : valuesAreEqual input output = true)
    (hic : coinOf input = sumCoins ins) (hia : ∀ p n, assetTot input p n = sumAssets ins p n + mintTot mint p n)
    (hoc : coinOf output = sumCoins outs + fee) (hoa : ∀ p n, assetTot output p n = sumAssets outs p n) :
    Balanced ins outs fee mint := by
  obtain ⟨qc, qa⟩ := valuesAreEqual_sound input output heq hin hout
  exact ⟨by rw [← hic, qc, hoc], fun p n => by rw [← hia, qa, hoa]⟩

theorem sumFrom_empty_sat (vs : List Value) : (sumFrom emptyValue vs).Sat False fun r =>
    coinOf r = sumCoins vs ∧ (∀ p n, assetTot r p n = sumAssets vs p n) ∧ coinOf r ≤ U64_MAX ∧ isMultiV r = true ∧ Norm r :=
  (sumFrom_sat vs emptyValue).imp fun _ ⟨hc, ha, hb, hn⟩ =>
    ⟨hc.trans (Int.zero_add _), fun p n => (ha p n).trans (Int.zero_add _), hb (by decide), hn rfl nodupMA_nil⟩

/-- the optional `add_minted_value` step of the consumed side -/
theorem minted_sat {consumed : Value} (mint : Option MA) (hm : isMultiV consumed = true) (hn : Norm consumed) :
    (match mint with
     | some m => addMintedValue consumed m
     | none => .ok consumed).Sat False fun input =>
      coinOf input = coinOf consumed ∧ (∀ p n, assetTot input p n = assetTot consumed p n + mintTot mint p n) ∧ Norm input := by
  cases mint with
  | none => exact ⟨rfl, fun _ _ => (Int.add_zero _).symm, hn⟩
  | some m => exact (addMintedValue_sat consumed m).imp fun _ ⟨hc, ha, hmn⟩ => ⟨hc, ha, (hmn hm).2⟩

theorem checkPreservation_total_sound (ins outs : List Value) (fee : Int) (mint : Option MA) :
    checkPreservation ins outs fee mint ≠ .panic ∧ (checkPreservation ins outs fee mint = .ok → Balanced ins outs fee mint) := by
  refine resOf_of_sat ((sumFrom_empty_sat ins).bind fun consumed hc => (sumFrom_empty_sat outs).bind fun produced hp =>
    (addValues_sat produced (.coin fee)).bind fun output ho => ?_)
  obtain ⟨cc, ca, _, cm, cn⟩ := hc
  obtain ⟨pc, pa, _, pm, pn⟩ := hp
  obtain ⟨⟨oc, _⟩, oa, on⟩ := ho
  -- the last step is `.ok (valuesAreEqual input output)`, of which `resOf_of_sat` asks `· = true → Balanced …`: hence `heq`
  refine (minted_sat mint cm cn).bind fun input hi heq => ?_
  obtain ⟨ic, ia, inn⟩ := hi
  exact balanced_of_equal inn (on pm pn).2 heq (ic.trans cc) (fun p n => by rw [ia, ca]) (by rw [oc, pc]; rfl)
    (fun p n => by rw [oa, pa]; exact Int.add_zero _)

/-- **Alonzo, Babbage.** -/
theorem preservation_sound (ins outs : List Value) (fee : Int) (mint : Option MA)
    (h : checkPreservation ins outs fee mint = .ok) : Balanced ins outs fee mint :=
  (checkPreservation_total_sound ins outs fee mint).2 h

/-- the Shelley-MA loop is `sumFrom`, except that it stops at a multi-asset value in `Era::Shelley` -/
theorem sumShelley_out : ∀ (vs : List Value) (sh : Bool) (acc : Value),
    sumShelley sh acc vs = .wrongEra ∨ sumShelley sh acc vs = .err ∨
    ∃ r, sumShelley sh acc vs = .ok r ∧ sumFrom acc vs = .ok r := by
  intro vs sh acc
  fun_induction sumShelley sh acc vs with
  | case1 acc => exact .inr (.inr ⟨acc, rfl, rfl⟩)
  | case2 => exact .inl rfl  -- a multi-asset value in `Era::Shelley`
  | case3 acc v vs _ a h ih => rw [sumFrom, h]; exact ih  -- `addValues` succeeds: the loop goes on
  | case4 => exact .inr (.inl rfl)  -- `addValues` fails
  | case5 acc v vs _ h => exact absurd h (addValues_sat acc v).np  -- `addValues` panics: never

/-- a zero deposit or refund term changes nothing -/
theorem addValues_coin_zero {a : Value} (hb : coinOf a ≤ U64_MAX) : addValues a (.coin 0) = .ok a := by
  cases a with
  | coin f | multi f _ =>
    have : ¬ f > U64_MAX := Int.not_lt.mpr hb
    simp only [addValues, addLovelace, Int.add_zero, if_neg this]; rfl

/-- with zero deposits and refunds the rule accepts only what the Alonzo rule accepts -/
theorem checkPreservationShelleyMA_total_sound (shelley : Bool) (ins outs : List Value) (fee : Int) (mint : Option MA) :
    checkPreservationShelleyMA shelley ins outs fee mint ≠ .panic ∧
    (checkPreservationShelleyMA shelley ins outs fee mint = .ok → checkPreservation ins outs fee mint = .ok) := by
  unfold checkPreservationShelleyMA
  -- the matches of the rule one after the other: an error of a step is a rejection, only its success goes on
  rcases sumShelley_out ins shelley emptyValue with h | h | ⟨r, h, hi⟩ <;> simp only [h]
  · exact ⟨nofun, nofun⟩
  · exact ⟨nofun, nofun⟩
  obtain ⟨_, _, rb, rm, rn⟩ := (sumFrom_empty_sat ins).ok hi
  simp only [addValues_coin_zero rb, R.bind]
  split  -- the mint step: its error, its panic, its success (which goes on)
  · exact ⟨nofun, nofun⟩
  · rename_i h; exact absurd h (minted_sat mint rm rn).np
  rename_i consumed hmint
  rcases sumShelley_out outs shelley emptyValue with h | h | ⟨p, h, ho⟩ <;> simp only [h]
  · exact ⟨nofun, nofun⟩
  · exact ⟨nofun, nofun⟩
  rcases (addValues_sat p (.coin fee)).out with hp2 | ⟨p2, hp2, ⟨_, p2b⟩, _⟩ <;> simp only [hp2]
  · exact ⟨nofun, nofun⟩
  simp only [addValues_coin_zero p2b, checkPreservation, hi, ho, hp2, hmint, R.bind]
  exact ⟨by cases valuesAreEqual consumed p2 <;> nofun, id⟩

/-- **Shelley, Allegra, Mary.** -/
theorem preservation_sound_shelleyMA (shelley : Bool) (ins outs : List Value) (fee : Int) (mint : Option MA)
    (h : checkPreservationShelleyMA shelley ins outs fee mint = .ok) : Balanced ins outs fee mint :=
  preservation_sound ins outs fee mint ((checkPreservationShelleyMA_total_sound shelley ins outs fee mint).2 h)

/-- the optional `conway_add_minted_non_zero` step of the consumed side -/
theorem conwayMinted_sat (consumed : Value) (mint : Option MA) :
    (match mint with
     | some m => conwayAddMintedNonZero consumed m
     | none => .ok consumed).Sat False fun input =>
      coinOf input = coinOf consumed ∧ (∀ p n, assetTot input p n = assetTot consumed p n + mintTot mint p n) ∧
      (Norm consumed → (∀ m, mint = some m → NodupMA m) → Norm input) := by
  cases mint with
  | none => exact ⟨rfl, fun _ _ => (Int.add_zero _).symm, fun hn _ => hn⟩
  | some m => exact (conwayAddMintedNonZero_sat consumed m).imp fun _ ⟨hc, ha, hmn⟩ => ⟨hc, ha, fun _ hm => hmn (hm m rfl)⟩

/-- only the balance needs the unique keys -/
theorem checkPreservationConway_total_sound (ins outs : List Value) (fee : Int) (mint : Option MA) :
    checkPreservationConway ins outs fee mint ≠ .panic ∧
    (checkPreservationConway ins outs fee mint = .ok → (∀ v ∈ ins, Norm v) → (∀ v ∈ outs, Norm v) →
      (∀ m, mint = some m → NodupMA m) → Balanced ins outs fee mint) := by
  unfold checkPreservationConway
  cases ins with
  | nil => exact ⟨nofun, nofun⟩
  | cons i is =>
    rcases (conwaySumFrom_sat is i).out with h | ⟨consumed, h, cc, ca, _, cn⟩ <;> simp only [h]
    · exact ⟨nofun, nofun⟩
    cases outs with
    | nil => exact ⟨nofun, nofun⟩
    | cons o os =>
      refine resOf_of_sat ((conwaySumFrom_sat os o).bind fun produced hp =>
        (conwayAddValues_sat produced (.coin fee)).bind fun output ho =>
        (conwayMinted_sat consumed mint).bind fun input hi heq hins houts hmint => ?_)
      obtain ⟨pc, pa, _, pn⟩ := hp
      obtain ⟨⟨oc, _⟩, oa, on⟩ := ho
      obtain ⟨ic, ia, inn⟩ := hi
      obtain ⟨hi0, his⟩ := List.forall_mem_cons.mp hins
      obtain ⟨ho0, hos⟩ := List.forall_mem_cons.mp houts
      refine balanced_of_equal (inn (cn hi0 his) hmint) (on (pn ho0 hos) nodupMA_nil) heq (by rw [ic, cc, sumCoins_cons])
        (fun p n => by rw [ia, ca, sumAssets_cons]) (by rw [oc, pc, sumCoins_cons]; rfl) (fun p n => ?_)
      rw [oa, pa, sumAssets_cons]
      exact Int.add_zero _

/-- **Conway.** -/
theorem preservation_sound_conway (ins outs : List Value) (fee : Int) (mint : Option MA)
    (hins : ∀ v ∈ ins, Norm v) (houts : ∀ v ∈ outs, Norm v) (hmint : ∀ m, mint = some m → NodupMA m)
    (h : checkPreservationConway ins outs fee mint = .ok) : Balanced ins outs fee mint :=
  (checkPreservationConway_total_sound ins outs fee mint).2 h hins houts hmint

theorem byronCheckFees_total_sound (ins outs : List Int) (size summand multiplier : Int) (onlyRedeem : Bool) :
    byronCheckFees ins outs size summand multiplier onlyRedeem ≠ .panic ∧
    (byronCheckFees ins outs size summand multiplier onlyRedeem = .ok →
      ins.sum - outs.sum ≥ 0 ∧ (onlyRedeem = false → ins.sum - outs.sum ≥ summand + multiplier * size)) := by
  unfold byronCheckFees
  cases hib : sumU64 0 ins with
  | none => exact ⟨nofun, nofun⟩
  | some ib =>
    cases hob : sumU64 0 outs with
    | none => exact ⟨nofun, nofun⟩
    | some ob =>
      have e1 := sumU64_exact ins 0 ib hib
      have e2 := sumU64_exact outs 0 ob hob
      refine ⟨ite_ne nofun (ite_ne nofun (ite_ne nofun (ite_ne nofun (ite_ne nofun nofun)))), fun h => ?_⟩
      obtain ⟨n1, h⟩ := of_ite_eq h nofun
      refine ⟨by omega, fun hr => ?_⟩
      rw [hr, if_neg Bool.false_ne_true] at h
      obtain ⟨_, h⟩ := of_ite_eq h nofun
      obtain ⟨_, h⟩ := of_ite_eq h nofun
      obtain ⟨n5, _⟩ := of_ite_eq h nofun
      omega

/-- **Byron.** -/
theorem byron_fees_sound (ins outs : List Int) (size summand multiplier : Int) (onlyRedeem : Bool)
    (h : byronCheckFees ins outs size summand multiplier onlyRedeem = .ok) :
    ins.sum - outs.sum ≥ 0 ∧ (onlyRedeem = false → ins.sum - outs.sum ≥ summand + multiplier * size) :=
  (byronCheckFees_total_sound ins outs size summand multiplier onlyRedeem).2 h

/-! ## The equality test must be the two-way inclusion -/

/-- the one-way variant (same number of policies + consumed side included in the produced side): not what the code has -/
def oneWayEqual (fma sma : MA) : Bool := fma.length == sma.length && multiAssetIncluded fma sma

/-- counter-model: inputs hold `p.a = 5`, outputs hold `p.a = 5` and `p.b = 1000000`, nothing minted. The one-way test calls the
    two sides equal, the model's `multiAssetsAreEqual` (two inclusions, as `multi_assets_are_equal` in utils.rs) does not, the
    rule rejects, and the transaction is indeed not balanced — `preservation_sound` could not be proved over `oneWayEqual`. -/
theorem one_way_inclusion_is_unsound :
    oneWayEqual [("p", [("a", 5)])] [("p", [("a", 5), ("b", 1000000)])] = true ∧
    multiAssetsAreEqual [("p", [("a", 5)])] [("p", [("a", 5), ("b", 1000000)])] = false ∧
    checkPreservation [.multi 9000000 [("p", [("a", 5)])]] [.multi 8800000 [("p", [("a", 5), ("b", 1000000)])]] 200000 none = .notPreserved ∧
    ¬ Balanced [.multi 9000000 [("p", [("a", 5)])]] [.multi 8800000 [("p", [("a", 5), ("b", 1000000)])]] 200000 none := by
  refine ⟨by decide, by decide, by decide, ?_⟩
  intro h
  have := h.2 "p" "b"
  revert this
  decide
-- the siblings: a name on the consumed side only, the same name under another policy, a zero quantity on one side (harmless)
example : checkPreservation [.multi 9000000 [("p", [("a", 5), ("b", 1)])]] [.multi 8800000 [("p", [("a", 5)])]] 200000 none = .notPreserved := by decide
example : checkPreservation [.multi 9000000 [("p", [("a", 5)])]] [.multi 8800000 [("q", [("a", 5)])]] 200000 none = .notPreserved := by decide
example : checkPreservation [.multi 9000000 [("p", [("a", 5)])]] [.multi 8800000 [("p", [("a", 5), ("b", 0)])]] 200000 none = .ok := by decide
example : checkPreservationShelleyMA false [.multi 9000000 [("p", [("a", 5)])]] [.multi 8800000 [("p", [("a", 5), ("b", 7)])]] 200000 none = .notPreserved := by decide

/-! ## Non-vacuity, and the witnesses of DESIGN §6 #21 on the fixed model -/
section examples
private def a5 : MA := [("05", [("01", 5)])]
example : checkPreservation [.multi 9000000 a5] [.multi 8800000 [("05", [("01", 3)])]] 200000
    (some [("05", [("01", -2)])]) = .ok := by decide
example : checkPreservation [.multi 9000000 a5] [.multi 8800000 a5] 200000 (some [("05", [("01", -2)])]) = .notPreserved := by decide
example : checkPreservationShelleyMA true [.coin 10, .coin 5] [.coin 12] 3 none = .ok := by decide
example : checkPreservationShelleyMA true [.coin 10, .multi 5 []] [.coin 12] 3 none = .wrongEra := by decide
example : checkPreservationConway [.coin 9000000] [.multi 8800000 [("33", [("4e", 7)])]] 200000
    (some [("33", [("4e", 7)])]) = .ok := by decide
/-- burn of an asset no input holds, "balanced" by an output carrying 2^64 - 1 of it: rejected by the fixed code -/
example : checkPreservationConway [.multi 9000000 [("11", [("01", 3)])]]
    [.multi 8587734 [("05", [("01", 18446744073709551615)]), ("11", [("01", 3)])]] 412266
    (some [("05", [("01", -1)])]) = .negativeValue := by decide
/-- 12 + (2^64 - 6) of one asset spent, 6 produced: rejected by the fixed code -/
example : checkPreservation [.multi 5000000 [("05", [("01", 12)])], .multi 5000000 [("05", [("01", 18446744073709551610)])]]
    [.multi 9999925 [("05", [("01", 6)])]] 75 none = .negativeValue := by decide
example : byronCheckFees [100, 50] [120] 10 5 2 false = .ok := by decide
example : byronCheckFees [100, 50] [126] 10 5 2 false = .feesBelowMin := by decide
example : byronCheckFees [100] [126] 10 5 2 false = .feesBelowMin := by decide
/-- redeem-only inputs are exempt from the minimum fee but not from the balance -/
example : byronCheckFees [100] [100] 10 5 2 true = .ok := by decide
example : byronCheckFees [100] [126] 10 5 2 true = .feesBelowMin := by decide
example : Norm (.multi 1 [("11", [("01", 3), ("02", 4)]), ("22", [("01", 1)])]) := by
  refine ⟨by decide, ?_⟩; intro e he; simp [maOf] at he; rcases he with rfl | rfl <;> decide
end examples

end PallasVerif.Props.C34
