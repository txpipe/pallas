import PallasVerif.Model.Ed25519
/-! Fixed-width little-endian numbers `leBytes` / `leNat` (`Model/Ed25519.lean`): length, read-back, digit weights and
    range. C11 uses all of them (scalars and encodings of Ed25519), C12 the length (a KES leaf key is an Ed25519 public
    key, 32 bytes). -/

namespace PallasVerif.Ed25519

theorem leBytes_length (w n : Nat) : (leBytes w n).length = w := by
  induction w generalizing n with
  | zero => rfl
  | succ w ih => simp [leBytes, ih]

theorem leNat_leBytes (w n : Nat) : leNat (leBytes w n) = n % 256 ^ w := by
  induction w generalizing n with
  | zero => simp [leBytes, leNat, Nat.mod_one]
  | succ w ih =>
    rw [leBytes, leNat, ih, UInt8.toNat_ofNat', Nat.pow_succ' (m := 256), Nat.mod_mul]
    omega

theorem leNat_append (a b : Bytes) : leNat (a ++ b) = leNat a + 256 ^ a.length * leNat b := by
  induction a with
  | nil => simp [leNat]
  | cons x xs ih =>
    simp only [List.cons_append, leNat, ih, List.length_cons, Nat.pow_succ]
    rw [Nat.mul_add, Nat.mul_comm (256 ^ xs.length) 256, Nat.mul_assoc]
    omega

theorem leNat_lt (a : Bytes) : leNat a < 256 ^ a.length := by
  induction a with
  | nil => simp [leNat]
  | cons x xs ih =>
    simp only [leNat, List.length_cons, Nat.pow_succ]
    have := UInt8.toNat_lt x
    omega

end PallasVerif.Ed25519
