import Mathlib.Analysis.Complex.Exponential
import PallasVerif.Model.RefMath
import PallasVerif.Proofs.RefMath
import PallasVerif.Proofs.RefMathReal
/-!
# C15 — Fixed-point exp, ln, pow agree digit-for-digit with the reference

Model: `Model/RefMath.lean` — the Cardano non-integral reference (scaled Taylor `exp` with `ceil`
scaling and `ipow`, continued-fraction `ln` with `find_e` bracketing, `pow = exp (y·ln x)` with the
sign rules) transcribed from `math_dashu.rs` on `Int`, loops on fuel = the iteration caps.
"Digit for digit" is the correspondence stream `refmath` (the golden files of the repository are
empty, so the compiled Lean model is the digit oracle).

**Full statement**: every result is within a stated error bound of the true mathematical value
(`WithinErrorBoundFull` writes it down for `exp`; no theorem mentions it). That two-sided statement needs
a rounding-error analysis of ~10^3 fixed-point operations and is NOT proved; it is sampled against
100-digit interval enclosures by the harness. Proved (all arguments, unbounded):
* `E_eq`, `exp_zero`, `exp_neg_is_recip`, `iterations_le_cap` — structure of `ref_exp`;
* `ln_fails_iff_nonpos`, `ln_panics_of_nonpos` — domain of `ln`;
* `pow_special_cases`, `pow_neg_base` — the special arms and the sign rule of `pow`;
* `findE_brackets_partial` — the bisection loop of `find_e` (`findELoop2` alone);
* `taylor_lower_partial`, `exp_lower_partial` — one-sided real bound: for `0 ≤ x` the Taylor sum and
  the whole `exp` never exceed `Real.exp x`;
* `exp_two_sided_unit_partial`, `within_error_bound_unit_partial` — the FULL two-sided statement for
  `exp` on `-1 ≤ x ≤ 1`: `|exp x − e^x| ≤ 4.3·10^-24`.
-/
namespace PallasVerif.Props.C15
open PallasVerif.Decimal PallasVerif.RefMath PallasVerif.Proofs.ExpCmp PallasVerif.Proofs.RefMath

/-- the unproved two-sided statement, for an explicit bound function -/
def WithinErrorBoundFull (bound : Int → ℝ) : Prop :=
  ∀ x r : Int, expD x = some r → |toReal r - Real.exp (toReal x)| ≤ bound x

/-- the constant `E` used by `find_e` is `ref_exp(ONE)` (24 Taylor iterations) -/
theorem E_eq : refExp ONE = some (24, E) := by decide +kernel

theorem exp_zero : refExp 0 = some (0, ONE) ∧ expD 0 = some ONE := by
  constructor <;> rfl

theorem exp_neg_is_recip (x : Int) (hx : x < 0) :
    refExp x = match refExpPos (-x) with
      | none => none
      | some (it, temp) => (div ONE temp).map (fun r => (it, r)) :=
  refExp_of_neg hx

theorem iterations_le_cap (x : Int) (it : Nat) (r : Int) (h : refExp x = some (it, r)) : it ≤ 1000 := by
  revert h
  -- the arms of `ref_exp`: zero; negative with a panic in `exp (-x)` or in the division, or neither; positive
  fun_cases refExp x with
  | case1 => intro h; exact (Prod.mk.inj (Option.some.inj h)).1 ▸ Nat.zero_le _
  | case2 | case3 => exact nofun
  | case4 _ _ _ _ hp =>
    intro h
    obtain ⟨rfl, -⟩ := Prod.mk.inj (Option.some.inj h)
    exact (refExpPos_eq_some (by omega) hp).1 ▸ stopIdx_le _ _ _
  | case5 => intro h; exact (refExpPos_eq_some (by omega) h).1 ▸ stopIdx_le _ _ _

theorem ln_fails_iff_nonpos (x : Int) : refLn x = some none ↔ x ≤ 0 := by
  -- of the arms of `ref_ln` only the first answers `false`, and it is the one guarded by `x ≤ 0`
  fun_cases refLn x <;> simp [*]

theorem ln_panics_of_nonpos (x : Int) (hx : x ≤ 0) : lnD x = none := by
  simp [lnD, (ln_fails_iff_nonpos x).mpr hx]

theorem pow_special_cases (b y : Int) :
    (y = 0 → refPow b y = some ONE) ∧ (refPow ONE y = some ONE) ∧
    (y = ONE → b ≠ ONE → refPow b y = some b) ∧
    (0 < y → y ≠ ONE → refPow 0 y = some 0) ∧
    (y < 0 → refPow 0 y = none) := by
  have hP : ONE ≠ 0 := by decide
  have h1 : (0 : Int) ≠ ONE := by decide
  have hpos : (0 : Int) < ONE := by decide
  refine ⟨fun h => by simp [refPow, h], by simp [refPow], fun h hb => ?_, fun h hy => ?_, fun h => ?_⟩
  · subst h; simp [refPow, hP, hb]
  · simp [refPow, show y ≠ 0 by omega, h1, hy, h]
  · simp [refPow, show y ≠ 0 by omega, h1, show y ≠ ONE by omega, show ¬ y > 0 by omega, h]

/-- sign rule of `pow` for a negative base: negative exactly when the (truncated) integer part of the
    exponent is odd -/
theorem pow_neg_base (b y : Int) (hb : 0 < b) (hb1 : b ≠ ONE) (hy0 : y ≠ 0) (hy1 : y ≠ ONE) :
    refPow (-b) y = (refPow b y).map (fun r => if (y.tdiv P).tmod 2 = 0 then r else -r) := by
  have hpos : (0 : Int) < ONE := by decide
  have h1 : -b ≠ ONE := by omega
  have h2 : -b ≠ 0 := by omega
  have h3 : b ≠ 0 := by omega
  have h4 : -b < 0 := by omega
  have h5 : ¬ b < 0 := by omega
  simp only [refPow, hy0, h1, hb1, hy1, h2, h3, h4, h5, false_and, if_false, if_true, Int.neg_neg, or_self]
  cases refLn b with
  | none => rfl
  | some o =>
    cases o with
    | none => rfl
    | some tmp =>
      simp only
      cases refExp (scale (tmp * y)) with
      | none => rfl
      | some p => obtain ⟨it, r⟩ := p; rfl

/-- the bisection of `find_e` returns an exponent inside the bracket it is given; an end of the
    bracket that moved was moved by a comparison against `ipow E ·`, so `E^r ≤ x < E^(r+1)` holds
    in model arithmetic for every moved end -/
theorem findE_brackets_partial (x : Int) (fuel : Nat) (l u r : Int) (hlu : l < u)
    (h : findELoop2 x fuel l u = some r) :
    l ≤ r ∧ r < u ∧
    (r = l ∨ ∃ v, ipow E r = some v ∧ v ≤ x) ∧
    (r + 1 = u ∨ ∃ v, ipow E (r + 1) = some v ∧ x < v) := by
  -- the arms of `findELoop2`: fuel, `ipow` panics, go left, go right, bracket closed
  fun_induction findELoop2 x fuel l u with
  | case1 => exact nomatch h
  | case2 => exact nomatch h
  | case3 _ l u _ mid xm hxm hlt ih =>
    have hq : (u - l).tdiv 2 = (u - l) / 2 := Int.tdiv_eq_ediv_of_nonneg (by omega)
    obtain ⟨a, b, c, d⟩ := ih (by omega) h
    exact ⟨a, by omega, c, Or.inr (d.elim (fun e => e ▸ ⟨xm, hxm, hlt⟩) id)⟩
  | case4 _ l u _ mid xm hxm hlt ih =>
    have hq : (u - l).tdiv 2 = (u - l) / 2 := Int.tdiv_eq_ediv_of_nonneg (by omega)
    obtain ⟨a, b, c, d⟩ := ih (by omega) h
    exact ⟨by omega, b, Or.inr (c.elim (fun e => e ▸ ⟨xm, hxm, by omega⟩) id), d⟩
  | case5 _ l _ hne =>
    obtain rfl : l = r := Option.some.inj h
    exact ⟨Int.le_refl _, hlu, Or.inl rfl, Or.inl (Decidable.not_not.mp hne)⟩

theorem taylor_lower_partial (maxN : Nat) (x eps : Int) :
    ∃ m, mpExpTaylor maxN x eps = some (m, psum x m) ∧ m ≤ maxN ∧
      (0 ≤ x → toReal (psum x m) ≤ Real.exp (toReal x)) :=
  ⟨_, mpExpTaylor_eq maxN x eps, stopIdx_le _ _ _, fun hx => psum_le_exp x hx _⟩

/-- Taylor terms, `scale` and the `ipow_` products all round down -/
theorem exp_lower_partial (x r : Int) (hx : 0 ≤ x) (h : expD x = some r) :
    toReal r ≤ Real.exp (toReal x) := by
  rcases Int.lt_or_eq_of_le hx with hpos | rfl
  · rw [expD_of_pos hpos] at h
    obtain ⟨⟨it, v⟩, hr, rfl⟩ := Option.map_eq_some_iff.mp h
    exact refExpPos_le_exp x hpos it v hr
  · exact (expD_zero h).le

/-- the unit interval is the domain of the leader-election exponent; there the scaling exponent is 1, and
    ≤ 25 Taylor terms each ≤ 3 ulp short plus a remainder ≤ 2·EPS give `2.1·10^-24` -/
theorem exp_two_sided_unit_partial (x r : Int) (h0 : 0 < x) (h1 : x ≤ P) (h : expD x = some r) :
    toReal r ≤ Real.exp (toReal x) ∧ Real.exp (toReal x) ≤ toReal r + 21 / 10 ^ 25 := by
  obtain rfl := Option.some.inj ((expD_unit_pos h0 h1).symm.trans h)
  exact psum_unit_two_sided x h0.le h1

/-- `WithinErrorBoundFull` restricted to `-1 ≤ x ≤ 1`; the branches give `2.2·10^-24` for `x < 0` (`2.1` from
    `exp(-x)`, one ulp for the division of `1` by it), `0` at `0`, `2.1·10^-24` for `x > 0`: `4.3` is not tight -/
theorem within_error_bound_unit_partial (x r : Int) (h0 : -P ≤ x) (h1 : x ≤ P) (h : expD x = some r) :
    |toReal r - Real.exp (toReal x)| ≤ 43 / 10 ^ 25 := by
  rcases Int.lt_trichotomy x 0 with hx | rfl | hx
  · obtain rfl := Option.some.inj ((expD_unit_neg hx h0).symm.trans h)
    exact (recip_psum_unit_close x hx h0).trans (by norm_num)
  · rw [expD_zero h, sub_self, abs_zero]; positivity
  · obtain ⟨a, b⟩ := exp_two_sided_unit_partial x r hx h1 h
    exact abs_le.mpr ⟨by linarith only [b], by linarith only [a]⟩

/-! ## concrete digits (non-vacuity; the only value the repository's tests check is exp 1) -/
example : expD ONE = some 27182818284590452353602874043083282 := by decide +kernel
example : expD (-ONE) = some 3678794411714423215955237792349248 := by decide +kernel
example : lnD (2 * ONE) = some 6931471805599453094172321818152860 := by decide +kernel
example : lnD 0 = none ∧ lnD (-ONE) = none := by decide +kernel
example : lnD ONE = some 0 := by decide +kernel
example : powD (2 * ONE) (10 * ONE) = some 10240000000000000000000004785057073557 := by decide +kernel
example : powD (-2 * ONE) (3 * ONE) = some (-79999999999999999999999979824238600) := by decide +kernel

end PallasVerif.Props.C15
