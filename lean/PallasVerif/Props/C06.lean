import PallasVerif.Proofs.SchemaHand
import PallasVerif.Proofs.SchemaIsoMain
import PallasVerif.Proofs.SchemaBlock
import PallasVerif.Gen.SchemaEra
/-!
# C06 — Era ledger codecs are isomorphic on chain data and round-trip all values

The codecs of `pallas-primitives/src/{lib.rs, alonzo, babbage, conway, byron}/model.rs` are *data*
here: `Gen/SchemaEra.lean` is regenerated on every run from the `#[derive(Encode, Decode)]` items,
their `#[n(i)]` / `#[cbor(..)]` attributes, the `codec_by_datatype!` arms and the hand-written
`[variant, field..]` sums of those files (`lib/translate_derive.py`), and interpreted by
`Model/Schema.lean` (the encode / decode semantics of minicbor 0.26, minicbor-derive 0.16 and the
pallas-codec wrappers, transcribed once).

Proved once, for *every* schema (induction on the interpreter's fuel, `Proofs/Schema*.lean`):
`enc_dec_good` — on values that carry no retained raw bytes, every encoding is exactly one
well-formed CBOR item and decodes back to the value (up to the raw bytes `KeepRaw` retains while
decoding; exactly, when the type holds no `KeepRaw`).  Instantiated here at every generated
schema; the side conditions are decided on the generated terms (`table_ok`, `env_valid`).

The other half of the property, *isomorphism on chain data*: `C06_chain_iso_partial` (on bytes:
`C06_chain_iso_bytes_partial`) states for every translated type that an item which is canonical
for the schema (`canon`, `Model/SchemaCanon.lean`; anything goes under `KeepRaw`) and which the
decoder accepts is re-encoded to itself; it instantiates `canon_iso`, proved once for every
schema.  `keepraw_reencodes` / `keepraw_iso_bytes` are the `KeepRaw` case on its own: whatever a
`KeepRaw<T>` decoder accepts is re-encoded byte for byte, for every `T` (`vec_keepraw_reencodes`: also
through a `Vec` written with a minimal head).
`C06_block_iso_partial` spells the result out for the Alonzo / Babbage / Conway blocks with the
canonicity of the glue between the raw-retaining parts as explicit hypotheses (minimal heads,
sorted minimal auxiliary-data keys, body / witness arrays definite or indefinite); unlike the
general theorem it needs no static check of the header, body, witness and auxiliary-data schemas,
since all of them sit under `KeepRaw`.  That the real chain is canonical in this sense is a fact
about the chain, not a theorem: it is checked on every artefact of the corpus by the stream
`chain` (pallas and the model both decode and re-encode).  `vec_never_indefinite` is why the two
block arrays cannot be plain `Vec`s (known_findings.d/C06.json, `C06-block-indef-arrays`).
-/
namespace PallasVerif.Props.C06
open PallasVerif.Cbor PallasVerif.Schema PallasVerif.Gen.SchemaEra

/-- "decoding the encoding yields an equal value", on bytes, for one schema: the encoding is
    exactly one well-formed item, and the typed decoder applied to it (followed by anything)
    returns the value — up to the raw bytes `KeepRaw` retains — and leaves what followed. -/
def RoundTrips (env : Env) (s : Schema) : Prop :=
  ∀ fuel v bs, v.rawFree = true → encodeBytes env fuel s v = some bs →
    isSingleItem bs = true ∧
    ∀ rest, ∃ v', decodeBytes env fuel s (bs ++ rest) = some (v', rest) ∧ v'.strip = v

/-- the same with plain equality (types without `KeepRaw`) -/
def RoundTripsExactly (env : Env) (s : Schema) : Prop :=
  ∀ fuel v bs, v.rawFree = true → encodeBytes env fuel s v = some bs →
    isSingleItem bs = true ∧ ∀ rest, decodeBytes env fuel s (bs ++ rest) = some (v, rest)

/-- `enc_dec_good` on bytes -/
theorem schema_bytes (env : Env) (hv : env.valid = true) (hc : CustomsGood env) (s : Schema)
    (hs : ok env okFuel s = true) {fuel : Nat} {v : Value} {bs : Bytes} (hr : v.rawFree = true)
    (he : encodeBytes env fuel s v = some bs) :
    isSingleItem bs = true ∧
      ∃ v', (∀ rest, decodeBytes env fuel s (bs ++ rest) = some (v', rest)) ∧ v'.strip = v ∧ (NR env s → v' = v) := by
  simp only [encodeBytes, Option.map_eq_some_iff] at he
  obtain ⟨it, hit, rfl⟩ := he
  obtain ⟨hw, _, v', hd, hstrip, hex⟩ := enc_dec_good env hv hc fuel s okFuel hs v it hr hit
  exact ⟨isSingleItem_encode it hw, v', fun rest => by simp [decodeBytes, parseItem_encode it rest hw, hd], hstrip, hex⟩

theorem schema_roundtrip (env : Env) (hv : env.valid = true) (hc : CustomsGood env) (s : Schema)
    (hs : ok env okFuel s = true) : RoundTrips env s := by
  intro fuel v bs hr he
  obtain ⟨h1, v', h2, h3, _⟩ := schema_bytes env hv hc s hs hr he
  exact ⟨h1, fun rest => ⟨v', h2 rest, h3⟩⟩

theorem schema_roundtrip_exact (env : Env) (hv : env.valid = true) (hc : CustomsGood env) (s : Schema)
    (hs : ok env okFuel s = true) (hn : noRaw env okFuel s = true) : RoundTripsExactly env s := by
  intro fuel v bs hr he
  obtain ⟨h1, v', h2, _, h4⟩ := schema_bytes env hv hc s hs hr he
  cases h4 ⟨okFuel, hn⟩
  exact ⟨h1, h2⟩

/-- the translator classified every construct of the claimed types: nothing it could not read is left out silently
    (`unknowns`: constructs inside claimed types; whole types left untranslated are the other list, `skipped`) -/
theorem translator_complete : unknowns = [] := by decide

/-- declarations of the recursive types (datatypes, raw-freeness) are honoured -/
theorem env_valid : env.valid = true := by decide +kernel

/-- every generated schema passes the static side conditions: increasing `#[n]` indices,
    distinct variant numbers, `Option` / `Nullable` payloads that never encode as `null`,
    unambiguous `codec_by_datatype!` arms, raw-free map keys -/
theorem table_ok : table.all (fun p => ok env okFuel p.2) = true := by decide +kernel

theorem table_ok_mem (p : String × Schema) (hp : p ∈ table) : ok env okFuel p.2 = true :=
  List.all_eq_true.mp table_ok p hp

/-- For every type of the era modules that the translator covers (listed in `table`: headers,
    transaction bodies, outputs, witness sets, certificates, relays, rationals, values, metadata,
    redeemers, governance actions, protocol parameter updates, blocks, transactions, ..), every
    in-memory value, every fuel that suffices to encode it: the encoding is one well-formed item
    and decodes back to the value. -/
theorem C06_roundtrip_partial : ∀ p, p ∈ table → RoundTrips env p.2 := by
  intro p hp
  exact schema_roundtrip env env_valid (Hand.customs_good _) p.2 (table_ok_mem p hp)

/-- with plain equality for the types that hold no `KeepRaw` -/
theorem C06_roundtrip_exact_partial :
    ∀ p, p ∈ table → noRaw env okFuel p.2 = true → RoundTripsExactly env p.2 := by
  intro p hp hn
  exact schema_roundtrip_exact env env_valid (Hand.customs_good _) p.2 (table_ok_mem p hp) hn

/-- The full value half of the property: *every* type with a codec in the five anchored files,
    i.e. the translator skipped none (`skipped`, generated next to `table`) and all of `table`
    round-trips.  `table` treats `PlutusData` as an opaque item (its codec is C07's subject) and
    that is what the `_partial` names above stand for. -/
def FullStatement : Prop := skipped = [] ∧ ∀ p, p ∈ table → RoundTrips env p.2

/-- from items to bytes -/
theorem reencode_bytes {env : Env} {fuel : Nat} {s : Schema} {bs rest : Bytes} {v : Value}
    (h : decodeBytes env fuel s bs = some (v, rest))
    (hiso : ∀ it x, parseItem bs = some (it, rest) → dec env fuel s it = some x → enc env fuel s x = some it) :
    ∃ pre, bs = pre ++ rest ∧ encodeBytes env fuel s v = some pre := by
  unfold decodeBytes at h
  cases hp : parseItem bs with
  | none => simp [hp] at h
  | some q =>
    obtain ⟨it, r⟩ := q
    simp only [hp, Option.map_eq_some_iff, Prod.mk.injEq] at h
    obtain ⟨x, hx, rfl, rfl⟩ := h
    exact ⟨it.encode, (parseItem_sound bs it r hp).1, by simp [encodeBytes, hiso it x hp hx]⟩

/-- `fuel + 1`: one unit for the `keepRaw` node, so that `enc env (fuel + 1) (.keepRaw s)` unfolds to the form
    `IsoOn.keepRaw` is about (`fuel + 2` below: one more for `vec`) -/
theorem keepraw_reencodes (env : Env) (fuel : Nat) (s : Schema) (it : Item) (v : Value)
    (h : dec env (fuel + 1) (.keepRaw s) it = some v) : enc env (fuel + 1) (.keepRaw s) v = some it :=
  (IsoOn.keepRaw (enc env fuel s) (dec env fuel s)).iso rfl v h

/-- on bytes: if the decoder of `KeepRaw<T>` accepts a prefix of `bs`, re-encoding the result
    gives exactly that prefix — for every `T`, canonical or not -/
theorem keepraw_iso_bytes (env : Env) (fuel : Nat) (s : Schema) (bs rest : Bytes) (v : Value)
    (h : decodeBytes env (fuel + 1) (.keepRaw s) bs = some (v, rest)) :
    ∃ pre, bs = pre ++ rest ∧ encodeBytes env (fuel + 1) (.keepRaw s) v = some pre :=
  reencode_bytes h fun it x _ hx => keepraw_reencodes env fuel s it x hx

/-- the same through a `Vec` of `KeepRaw` fields written with a minimal definite head -/
theorem vec_keepraw_reencodes (env : Env) (fuel : Nat) (s : Schema) (xs : List Item) (v : Value)
    (hl : xs.length < 2 ^ 64)
    (h : dec env (fuel + 2) (.vec (.keepRaw s)) (mkArray xs) = some v) :
    enc env (fuel + 2) (.vec (.keepRaw s)) v = some (mkArray xs) :=
  (IsoOn.keepRaw (enc env fuel s) (dec env fuel s)).vec.iso (by simp [canonArr, mkArray, hl]) v h

/-- a `Vec<T>` is always written with a definite head: an indefinite array accepted by its
    decoder is never reproduced (the reason block bodies / witness sets need `MaybeIndefArray`) -/
theorem vec_never_indefinite (env : Env) (fuel : Nat) (s : Schema) (v : Value) (it : Item)
    (h : enc env (fuel + 1) (.vec s) v = some it) : ∃ xs, it = mkArray xs := by
  simp only [enc, encVec] at h
  cases v <;> simp at h
  obtain ⟨_, xs, _, rfl⟩ := h
  exact ⟨xs, rfl⟩

/-- the generated block schemas have the shape `block_iso` is about -/
theorem block_shapes :
    alonzo_Block = blockSchema alonzo_Header alonzo_TransactionBody alonzo_WitnessSet alonzo_AuxiliaryData ∧
    babbage_Block = blockSchema babbage_Header babbage_TransactionBody babbage_WitnessSet alonzo_AuxiliaryData ∧
    conway_Block = blockSchema babbage_Header conway_TransactionBody conway_WitnessSet alonzo_AuxiliaryData :=
  ⟨rfl, rfl, rfl⟩

/-- **C06, chain half (model level).** For the three post-Byron block types as translated from the
    source: a block item `[header, bodies, witness sets, {index => aux data}, ? [index]]` whose
    glue is canonical and that the typed decoder accepts is re-encoded to the same item — for
    arbitrary (also non-canonical) content of header, bodies, witness sets and auxiliary data.
    Partial: canonicity of the glue is a hypothesis (true of every block of the corpus, stream
    `chain`); the Byron block types are covered by `C06_chain_iso_partial` below. -/
theorem C06_block_iso_partial (S : Schema) (hS : S ∈ [alonzo_Block, babbage_Block, conway_Block])
    (n : Nat) (hdr bodies wits : Item) (bx wx : List Item)
    (kas : List (Nat × Item)) (inv : Option (List Nat)) (v : Value)
    (hb : ArrOf bodies bx) (hw : ArrOf wits wx)
    (hk : ∀ p, p ∈ kas → p.1 < 2 ^ 32) (hs : strictSorted (kas.map (fun p => Value.nat p.1)) = true)
    (hl : kas.length < 2 ^ 64)
    (hi : ∀ idxs, inv = some idxs → (∀ i, i ∈ idxs → i < 2 ^ 32) ∧ idxs.length < 2 ^ 64)
    (hd : dec env (n + 4) S
      (mkArray ([hdr, bodies, wits, mkMapFlat (flattenPairs (auxPairs kas))] ++ invItems inv)) = some v) :
    enc env (n + 4) S v
      = some (mkArray ([hdr, bodies, wits, mkMapFlat (flattenPairs (auxPairs kas))] ++ invItems inv)) := by
  have ⟨H, B, W, A, hS'⟩ : ∃ H B W A, S = blockSchema H B W A := by
    obtain ⟨h1, h2, h3⟩ := block_shapes
    simp only [List.mem_cons, List.mem_nil_iff, or_false] at hS
    rcases hS with rfl | rfl | rfl
    · exact ⟨_, _, _, _, h1⟩
    · exact ⟨_, _, _, _, h2⟩
    · exact ⟨_, _, _, _, h3⟩
  subst hS'
  exact block_iso env n H B W A hdr bodies wits bx wx kas inv v hb hw hk hs hl hi hd

/-- the hypotheses are satisfiable: a Conway-shaped block with one body in an indefinite array, no witness set,
    one auxiliary-data entry and one invalid index passes through `blockSchema` of trivial parts -/
example :
    let S := blockSchema .any .any .any .any
    let it := mkArray ([mkUInt 7, Item.seqIndef 4 [mkUInt 1], mkArray [], mkMapFlat (flattenPairs (auxPairs [(0, mkUInt 9)]))] ++ invItems (some [0]))
    ((dec env 10 S it).bind (enc env 10 S)).map Item.encode = some it.encode := by
  decide +kernel

/-- the hand-modelled Conway `CostModels` codec declares no item canonical, so the contract is
    vacuous for it: `C06_chain_iso_partial` says nothing about an item that holds a `CostModels`
    outside a `KeepRaw` (in blocks and transactions it only occurs under `KeepRaw`) -/
theorem customs_iso : CustomsIso env := by
  intro i c hi it hcn
  cases i with
  | zero =>
    simp [env, Hand.customs] at hi
    subst hi
    simp [Hand.costModelsCustom] at hcn
  | succ i => simp [env, Hand.customs] at hi

/-- **C06, chain half, every type** (Byron `Block` / `EbBlock` included, through the hand-written sums
    and wrappers): an item that is canonical for the schema (`Model/SchemaCanon.lean`: minimal heads,
    definite containers where the Rust type does not keep the form, entries in field / key order, no
    surplus elements, `null` exactly where the encoder writes it; anything under `KeepRaw`) and
    that the typed decoder accepts is re-encoded to exactly itself.  `canon` is decidable and is
    evaluated on every artefact of the corpus by the check (evidence: `chain_canonical`).
    Partial: no item is canonical for the hand-modelled `CostModels` codec (`customs_iso`), so nothing is said of an
    item that holds a Conway `CostModels` outside a `KeepRaw`. -/
theorem C06_chain_iso_partial : ∀ p, p ∈ table → ∀ fuel it v,
    canon env fuel p.2 it = true → dec env fuel p.2 it = some v → enc env fuel p.2 v = some it := by
  intro p hp fuel it v hcn hd
  exact canon_iso env env_valid customs_iso fuel p.2 okFuel it (table_ok_mem p hp) hcn v hd

/-- the same on bytes: the decoder accepts a prefix of `bs`, that prefix is canonical, and
    re-encoding the decoded value gives exactly that prefix -/
theorem C06_chain_iso_bytes_partial : ∀ p, p ∈ table → ∀ fuel bs it rest v,
    parseItem bs = some (it, rest) → canon env fuel p.2 it = true →
    decodeBytes env fuel p.2 bs = some (v, rest) →
    ∃ pre, bs = pre ++ rest ∧ encodeBytes env fuel p.2 v = some pre := by
  intro p hp fuel bs it rest v hpi hcn hd
  refine reencode_bytes hd fun it' x hp' hx => ?_
  cases hpi.symm.trans hp'
  exact C06_chain_iso_partial p hp fuel it x hcn hx

/-- the Byron block types are among them -/
example : (table.lookup "byron.Block").isSome = true ∧ (table.lookup "byron.EbBlock").isSome = true := by
  constructor <;> decide +kernel

/-- non-vacuity: a canonical `Relay` item, and a non-canonical one (non-minimal port) that decodes
    to the same value but is not reproduced -/
example : canon env 50 crate_Relay (mkArray [mkUInt 1, mkUInt 3001, mkText [0x61]]) = true := by decide +kernel
example : canon env 50 crate_Relay (mkArray [mkUInt 1, .atom ⟨0, 26, [0, 0, 0x0b, 0xb9]⟩, mkText [0x61]]) = false := by
  decide +kernel

/-! ## non-vacuity: concrete layouts the generated schemas produce -/

/-- `Relay::SingleHostName(Some(3001), "a.b")` is `[1, 3001, "a.b"]`, an `array(3)` -/
example : encodeBytes env 50 crate_Relay (.variant 1 [.some (.nat 3001), .text [0x61, 0x2e, 0x62]])
    = some [0x83, 0x01, 0x19, 0x0b, 0xb9, 0x63, 0x61, 0x2e, 0x62] := by decide +kernel

/-- the same fields under an `array(4)` head are not one well-formed item -/
example : isSingleItem [0x84, 0x01, 0x19, 0x0b, 0xb9, 0x63, 0x61, 0x2e, 0x62] = false := by decide +kernel

/-- derived struct: a trailing `None` is dropped (`TransactionOutput` without datum hash is `array(2)`) -/
example : encodeBytes env 50 alonzo_TransactionOutput (.list [.bytes [0x61], .variant 0 [.nat 5], .none])
    = some [0x82, 0x41, 0x61, 0x05] := by decide +kernel

/-- derived flat enum: a trailing `None` is written as `null` (`UpdateDRepCert(cred, None)` is `array(3)`) -/
example : encodeBytes env 50 conway_Certificate (.variant 16 [.variant 1 [.bytes (List.replicate 28 0)], .none])
    = some ([0x83, 0x12, 0x82, 0x00, 0x58, 0x1c] ++ List.replicate 28 0 ++ [0xf6]) := by decide +kernel

/-- the decoder accepts that encoding (followed by anything) and leaves what followed -/
example : (decodeBytes env 50 crate_Relay [0x83, 0x01, 0x19, 0x0b, 0xb9, 0x63, 0x61, 0x2e, 0x62, 0xff]).map
      (fun p => (encodeBytes env 50 crate_Relay p.1, p.2))
    = some (some [0x83, 0x01, 0x19, 0x0b, 0xb9, 0x63, 0x61, 0x2e, 0x62], [0xff]) := by decide +kernel

/-- the `Relay` value encoded above meets the `rawFree` hypothesis of `RoundTrips` -/
example : (Value.variant 1 [.some (.nat 3001), .text [0x61, 0x2e, 0x62]]).rawFree = true := by decide

end PallasVerif.Props.C06
