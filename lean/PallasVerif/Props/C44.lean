import PallasVerif.Model.U5cTx
import PallasVerif.Proofs.ChunkReader
/-!
# C44 — UTxO RPC mapping preserves ledger content

`Model/U5c.lean` transcribes the numeric conversions and the recursive datum mapping shared by the
v1alpha and v1beta mappers, as the code stands after `fix: utxorpc maps Plutus integers outside i64
to big-integer bytes`.

* `bigint_exact` — for **every** Plutus integer (CBOR integers of any size, big-integer byte
  strings of any length) the mapped value denotes the same integer;
* `bigint_small_as_int`, `bigint_large_as_bytes`, `bigint_result_fits` — values inside `i64` come
  out as `Int`, values outside as big-integer bytes, and an `Int` result always fits `i64`:
  nothing is truncated;
* `u64_exact`, `i64_exact`, `u64_int_fits` — the two scalar helpers are exact on their whole domain,
  and `u64_to_bigint` yields an `Int` only when it fits;
* `datum_map_preserves` — by mutual structural induction, the mapped datum has the same content
  (constructor tag / alternative, fields, map pairs in order, array items in order, integers by
  value, byte strings) as the source, for every datum whose constructor tags fit the schema's
  `u32` (`TagsOk`; ledger tags are 102, 121–127, 1280–1400).
* `unfixed_truncates_at_witness` — the code before that commit (`i128::from(x) as i64`) maps 2^63 to
  −2^63 and −2^64 to 0 (DESIGN §6 #29).

* `map_tx_preserves`, `map_block_preserves` — `Model/U5cTx.lean` transcribes `map_tx`, `map_tx_output`,
  `map_tx_datum`, `map_tx_input`, `map_policy_assets`/`map_asset`, `map_any_script`, `map_redeemer`,
  `map_withdrawals`, `map_block` as a projection from the ledger view of a transaction (what the
  mapper reads through pallas-traverse) to the message (one model for both schema versions: they
  build the same content). For every view within the ledger's ranges (`TxWf`): hash, inputs /
  collateral / reference inputs, every output (address bytes, coin, assets, datum hash / original bytes,
  datum content for `TagsOk`, script), collateral return, fee, total collateral, validity interval,
  mint, withdrawals, certificate count, witness datums, redeemers and the validity flag of the
  message equal the ledger's. `input_index_truncates_at_witness` shows the one place where the
  projection loses information outside `TxWf` (`index as u32`).

Outside the model (the stream `u5c` ties the model to both mappers on every transaction of every
block / tx file of `test_data` and on generated transactions, and an oracle re-extracts each field):
how pallas-traverse reads the view from bytes, the prost wrappers and the version-specific extras
(`original_cbor` of outputs / redeemers, v1beta-only witness redeemers and bootstrap witnesses), the
contents of certificates, governance actions, auxiliary data and protocol parameters, resolved
inputs (`as_output`).
-/
namespace PallasVerif.Props.C44
open PallasVerif.U5c PallasVerif.U5cTx

/-- the big-endian value here and that of the index files' reader (`Model/ChunkReader.lean`) are the
    same fold; the encoder lemmas of `Proofs/ChunkReader` are used through this equation -/
theorem beNat_eq (b : Bytes) : beNat b = ChunkReader.beNat b := rfl

theorem beNat_natToBytesF (fuel n : Nat) (h : n ≤ fuel) : beNat (natToBytesF fuel n) = n := by
  induction fuel generalizing n with
  | zero => rw [Nat.le_zero.1 h]; rfl
  | succ fuel ih =>
    unfold natToBytesF
    by_cases hn : n = 0
    · rw [if_pos hn, hn]; rfl
    · have hlt : n / 256 < n := Nat.div_lt_self (Nat.pos_of_ne_zero hn) (by decide)
      rw [if_neg hn, beNat_eq, Proofs.ChunkReader.beNat_append_single, ← beNat_eq, ih (n / 256) (Nat.le_of_lt_succ (Nat.lt_of_lt_of_le hlt h)),
        Nat.div_add_mod']

theorem beNat_natToBytes (n : Nat) : beNat (natToBytes n) = n :=
  beNat_natToBytesF n n (Nat.le_refl n)

theorem beNat_be8 (v : Nat) (h : v < 18446744073709551616) : beNat (be8 v) = v := by
  have e : be8 v = Proofs.ChunkReader.enc 8 v := by
    simp [be8, Proofs.ChunkReader.enc, Nat.div_div_eq_div_mul]
  rw [e, beNat_eq]
  exact Proofs.ChunkReader.beNat_enc 8 v h

theorem bigint_exact (i : PInt) : (mapPlutusBigInt i).val = i.val := by
  cases i with
  | bigUInt b | bigNInt b => rfl
  | int v =>
    simp only [mapPlutusBigInt]
    cases hf : fitsI64 v with
    | true => simp [UInt.val, PInt.val]
    | false =>
      simp only [Bool.false_eq_true, ↓reduceIte, PInt.val]
      split <;> (simp only [UInt.val, beNat_natToBytes]; omega)

theorem bigint_small_as_int (v : Int) (h1 : i64Min ≤ v) (h2 : v ≤ i64Max) :
    mapPlutusBigInt (.int v) = .int v := by
  simp [mapPlutusBigInt, fitsI64, h1, h2]

theorem bigint_large_as_bytes (v : Int) :
    (i64Max < v → ∃ b, mapPlutusBigInt (.int v) = .bigUInt b) ∧
    (v < i64Min → ∃ b, mapPlutusBigInt (.int v) = .bigNInt b) := by
  constructor
  · intro h
    have hf : fitsI64 v = false := by simp [fitsI64]; intro _; omega
    have : v ≥ 0 := by unfold i64Max at h; omega
    exact ⟨natToBytes v.toNat, by simp [mapPlutusBigInt, hf, this]⟩
  · intro h
    have hf : fitsI64 v = false := by simp [fitsI64]; omega
    have : ¬ v ≥ 0 := by unfold i64Min at h; omega
    exact ⟨natToBytes (-1 - v).toNat, by simp [mapPlutusBigInt, hf, this]⟩

theorem bigint_result_fits (i : PInt) (v : Int) (h : mapPlutusBigInt i = .int v) :
    i = .int v ∧ fitsI64 v = true := by
  cases i with
  | bigUInt b | bigNInt b => simp [mapPlutusBigInt] at h
  | int w =>
    simp only [mapPlutusBigInt] at h
    cases hf : fitsI64 w with
    | true => simp only [hf, ↓reduceIte, UInt.int.injEq] at h; subst h; exact ⟨rfl, hf⟩
    | false =>
      simp only [hf, Bool.false_eq_true, ↓reduceIte] at h
      split at h <;> cases h

theorem u64_exact (v : Nat) (h : v < 18446744073709551616) : (u64ToBigInt v).val = v := by
  unfold u64ToBigInt
  split
  · rfl
  · simp only [UInt.val, beNat_be8 v h]

theorem u64_int_fits (v : Nat) (w : Int) (h : u64ToBigInt v = .int w) : fitsI64 w = true := by
  unfold u64ToBigInt at h
  split at h
  · next hle => cases h; simp [fitsI64, hle, i64Min]
  · cases h

theorem i64_exact (v : Int) : (i64ToBigInt v).val = v := rfl

/-- `i128::from(x) as i64`: two's-complement truncation -/
def wrapI64 (v : Int) : Int := (v + 9223372036854775808) % 18446744073709551616 - 9223372036854775808

def Unfixed.mapPlutusBigInt : PInt → UInt
  | .int v => .int (wrapI64 v)
  | .bigUInt b => .bigUInt b
  | .bigNInt b => .bigNInt b

theorem unfixed_truncates_at_witness :
    (Unfixed.mapPlutusBigInt (.int 9223372036854775808)).val = -9223372036854775808 ∧
    (Unfixed.mapPlutusBigInt (.int (-18446744073709551616))).val = 0 ∧
    (mapPlutusBigInt (.int 9223372036854775808)).val = 9223372036854775808 ∧
    (mapPlutusBigInt (.int (-18446744073709551616))).val = -18446744073709551616 := by
  refine ⟨by decide, by decide, ?_, ?_⟩ <;> rw [bigint_exact] <;> rfl

/-- the content of a datum, independent of either representation -/
inductive Val where
  | constr (tag alt : Nat) (fields : List Val)
  | map (pairs : List (Val × Val))
  | array (items : List Val)
  | int (v : Int)
  | bytes (b : Bytes)

mutual
def denoteP : PData → Val
  | .constr tag any fields => .constr tag (any.getD 0) (denotePs fields)
  | .map pairs => .map (denotePPairs pairs)
  | .array items => .array (denotePs items)
  | .bigInt i => .int i.val
  | .bytes b => .bytes b
def denotePs : List PData → List Val
  | [] => []
  | d :: t => denoteP d :: denotePs t
def denotePPairs : List (PData × PData) → List (Val × Val)
  | [] => []
  | (k, v) :: t => (denoteP k, denoteP v) :: denotePPairs t
end

mutual
def denoteU : UData → Val
  | .constr tag any fields => .constr tag any (denoteUs fields)
  | .map pairs => .map (denoteUPairs pairs)
  | .array items => .array (denoteUs items)
  | .bigInt i => .int i.val
  | .bytes b => .bytes b
def denoteUs : List UData → List Val
  | [] => []
  | d :: t => denoteU d :: denoteUs t
def denoteUPairs : List (UData × UData) → List (Val × Val)
  | [] => []
  | (k, v) :: t => (denoteU k, denoteU v) :: denoteUPairs t
end

mutual
/-- every constructor tag fits the schema's `uint32` -/
def TagsOk : PData → Prop
  | .constr tag _ fields => tag < 4294967296 ∧ TagsOkL fields
  | .map pairs => TagsOkP pairs
  | .array items => TagsOkL items
  | .bigInt _ => True
  | .bytes _ => True
def TagsOkL : List PData → Prop
  | [] => True
  | d :: t => TagsOk d ∧ TagsOkL t
def TagsOkP : List (PData × PData) → Prop
  | [] => True
  | (k, v) :: t => TagsOk k ∧ TagsOk v ∧ TagsOkP t
end

mutual
theorem datum_map_preserves (d : PData) (h : TagsOk d) : denoteU (mapDatum d) = denoteP d := by
  cases d with
  | constr tag any fields =>
    simp only [TagsOk] at h
    simp only [mapDatum, denoteU, denoteP, datums_map_preserve fields h.2, Nat.mod_eq_of_lt h.1]
  | map pairs =>
    simp only [TagsOk] at h
    simp only [mapDatum, denoteU, denoteP, pairs_map_preserve pairs h]
  | array items =>
    simp only [TagsOk] at h
    simp only [mapDatum, denoteU, denoteP, datums_map_preserve items h]
  | bigInt i => simp only [mapDatum, denoteU, denoteP, bigint_exact]
  | bytes b => simp only [mapDatum, denoteU, denoteP]
theorem datums_map_preserve (l : List PData) (h : TagsOkL l) : denoteUs (mapDatums l) = denotePs l := by
  cases l with
  | nil => simp only [mapDatums, denoteUs, denotePs]
  | cons d t =>
    simp only [TagsOkL] at h
    simp only [mapDatums, denoteUs, denotePs, datum_map_preserves d h.1, datums_map_preserve t h.2]
theorem pairs_map_preserve (l : List (PData × PData)) (h : TagsOkP l) : denoteUPairs (mapPairs l) = denotePPairs l := by
  cases l with
  | nil => simp only [mapPairs, denoteUPairs, denotePPairs]
  | cons p t =>
    obtain ⟨k, v⟩ := p
    simp only [TagsOkP] at h
    simp only [mapPairs, denoteUPairs, denotePPairs, datum_map_preserves k h.1, datum_map_preserves v h.2.1,
      pairs_map_preserve t h.2.2]
end

example : mapPlutusBigInt (.int 9223372036854775808) = .bigUInt [128, 0, 0, 0, 0, 0, 0, 0] := by decide
example : mapPlutusBigInt (.int (-9223372036854775809)) = .bigNInt [128, 0, 0, 0, 0, 0, 0, 0] := by decide
example : mapPlutusBigInt (.int (-18446744073709551616)) = .bigNInt [255, 255, 255, 255, 255, 255, 255, 255] := by decide
example : mapPlutusBigInt (.int (-9223372036854775808)) = .int (-9223372036854775808) := by decide
example : u64ToBigInt 18446744073709551615 = .bigUInt [255, 255, 255, 255, 255, 255, 255, 255] := by decide
example : u64ToBigInt 9223372036854775807 = .int 9223372036854775807 := by decide
example : TagsOk (.constr 121 none [.bigInt (.int 18446744073709551615), .map [(.bytes [1], .array [])]]) := by
  simp [TagsOk, TagsOkL, TagsOkP]

def u64Bound : Nat := 18446744073709551616

def assetVals (m : List (Bytes × List (Bytes × UInt))) : List (Bytes × List (Bytes × Int)) :=
  m.map (fun p => (p.1, p.2.map (fun a => (a.1, a.2.val))))

/-- the ledger-side ranges: `u64` coins and quantities, tags that fit the schema (`TagsOk`) -/
def OutputWf (o : LOutput) : Prop :=
  o.coin < u64Bound ∧ (∀ p ∈ o.assets, ∀ a ∈ p.2, a.2 < u64Bound) ∧
  (∀ c d, o.datum = some (.inline c d) → TagsOk d)

def TxWf (t : LTx) : Prop :=
  (∀ i ∈ t.inputs ++ t.collateral ++ t.referenceInputs, i.index < 4294967296) ∧
  (∀ o ∈ t.outputs, OutputWf o) ∧ (∀ o, t.collateralReturn = some o → OutputWf o) ∧
  t.fee.getD 0 < u64Bound ∧ t.totalCollateral.getD 0 < u64Bound ∧
  (∀ w ∈ t.withdrawals, w.2 < u64Bound) ∧ (∀ d ∈ t.witnessDatums, TagsOk d.2) ∧ (∀ r ∈ t.redeemers, TagsOk r.data)

theorem mapInput_exact (i : LInput) (h : i.index < 4294967296) :
    (mapInput i).txHash = i.hash ∧ (mapInput i).outputIndex = i.index := by
  simp [mapInput, Nat.mod_eq_of_lt h]

theorem mapInputs_exact (l : List LInput) (h : ∀ i ∈ l, i.index < 4294967296) :
    (l.map mapInput).map (fun u => (u.txHash, u.outputIndex)) = l.map (fun i => (i.hash, i.index)) := by
  rw [List.map_map]
  apply List.map_congr_left
  intro i hi
  rw [Function.comp, (mapInput_exact i (h i hi)).1, (mapInput_exact i (h i hi)).2]

theorem outputAssets_exact (m : LAssets Nat) (h : ∀ p ∈ m, ∀ a ∈ p.2, a.2 < u64Bound) :
    assetVals (mapOutputAssets m) = m.map (fun p => (p.1, p.2.map (fun a => (a.1, (a.2 : Int))))) := by
  unfold assetVals mapOutputAssets
  rw [List.map_map]
  apply List.map_congr_left
  intro p hp
  simp only [Function.comp, List.map_map, Prod.mk.injEq, true_and]
  apply List.map_congr_left
  intro a ha
  simp [Function.comp, u64_exact a.2 (h p hp a ha)]

theorem mintAssets_exact (m : LAssets Int) : assetVals (mapMintAssets m) = m := by
  simp only [assetVals, mapMintAssets, List.map_map, Function.comp_def, i64_exact, List.map_id']

/-- what an output's datum must carry over; the content of an inline or looked-up datum `d` is claimed
    for `TagsOk d` (stated as an implication here, whatever the context knows about `d`) -/
def DatumPreserved (witness : List (Bytes × PData)) : Option LDatum → UDatum → Prop
  | none, u => u.hash = [] ∧ u.payload = none ∧ u.originalCbor = []
  | some (.hash h), u => u.hash = h ∧ u.originalCbor = [] ∧
      (match findDatum witness h with
       | none => u.payload = none
       | some d => ∃ p, u.payload = some p ∧ (TagsOk d → denoteU p = denoteP d))
  | some (.inline c d), u => u.hash = datumHash c ∧ u.originalCbor = c ∧
      ∃ p, u.payload = some p ∧ (TagsOk d → denoteU p = denoteP d)

theorem mapTxDatum_preserves (witness : List (Bytes × PData)) (d : Option LDatum) :
    DatumPreserved witness d (mapTxDatum witness d) := by
  cases d with
  | none => simp [DatumPreserved, mapTxDatum]
  | some x =>
    cases x with
    | hash h =>
      simp only [DatumPreserved, mapTxDatum, true_and]
      cases hf : findDatum witness h with
      | none => simp
      | some d => exact ⟨mapDatum d, by simp, fun ht => datum_map_preserves d ht⟩
    | inline c d =>
      exact ⟨rfl, rfl, mapDatum d, rfl, fun ht => datum_map_preserves d ht⟩

def OutputPreserved (witness : List (Bytes × PData)) (o : LOutput) (u : UOutput) : Prop :=
  u.address = o.address ∧ u.coin.val = o.coin ∧
  assetVals u.assets = o.assets.map (fun p => (p.1, p.2.map (fun a => (a.1, (a.2 : Int))))) ∧
  DatumPreserved witness o.datum u.datum ∧
  (match o.script, u.script with
   | none, none => True
   | some (.native s), some (.native s') => s' = s
   | some (.plutus v b), some (.plutus v' b') => v' = v ∧ b' = b
   | _, _ => False)

theorem mapOutput_preserves (witness : List (Bytes × PData)) (o : LOutput) (h : OutputWf o) :
    OutputPreserved witness o (mapOutput witness o) := by
  refine ⟨rfl, u64_exact o.coin h.1, outputAssets_exact o.assets h.2.1, mapTxDatum_preserves witness o.datum, ?_⟩
  simp only [mapOutput]
  cases o.script with
  | none => simp
  | some s => cases s <;> simp [mapScript]

inductive Forall2 {α β : Type} (R : α → β → Prop) : List α → List β → Prop
  | nil : Forall2 R [] []
  | cons {a : α} {b : β} {as : List α} {bs : List β} : R a b → Forall2 R as bs → Forall2 R (a :: as) (b :: bs)

theorem forall2_map {α β : Type} (R : α → β → Prop) (f : α → β) (l : List α) (h : ∀ a ∈ l, R a (f a)) :
    Forall2 R l (l.map f) := by
  induction l with
  | nil => exact .nil
  | cons a t ih => exact .cons (h a (by simp)) (ih (fun x hx => h x (by simp [hx])))

/-- **`map_tx` preserves the ledger content**, for every transaction view within the ledger's ranges
    (`TxWf`), in either schema version (they share this projection). -/
theorem map_tx_preserves (t : LTx) (h : TxWf t) :
    (mapTx t).hash = t.hash ∧
    (mapTx t).inputs.map (fun u => (u.txHash, u.outputIndex)) = t.inputs.map (fun i => (i.hash, i.index)) ∧
    (mapTx t).collateral.map (fun u => (u.txHash, u.outputIndex)) = t.collateral.map (fun i => (i.hash, i.index)) ∧
    (mapTx t).referenceInputs.map (fun u => (u.txHash, u.outputIndex)) = t.referenceInputs.map (fun i => (i.hash, i.index)) ∧
    Forall2 (OutputPreserved t.witnessDatums) t.outputs (mapTx t).outputs ∧
    (match t.collateralReturn, (mapTx t).collateralReturn with
      | none, none => True
      | some o, some u => OutputPreserved t.witnessDatums o u
      | _, _ => False) ∧
    (mapTx t).fee.val = t.fee.getD 0 ∧ (mapTx t).totalCollateral.val = t.totalCollateral.getD 0 ∧
    (mapTx t).validityStart = t.validityStart.getD 0 ∧ (mapTx t).ttl = t.ttl.getD 0 ∧
    assetVals (mapTx t).mint = t.mint ∧
    (mapTx t).withdrawals.map (fun w => (w.1, w.2.val)) = t.withdrawals.map (fun w => (w.1, (w.2 : Int))) ∧
    (mapTx t).certs = t.certs ∧
    (mapTx t).witnessDatums.map denoteU = t.witnessDatums.map (fun d => denoteP d.2) ∧
    Forall2 (fun (r : LRedeemer) (u : URedeemer) => u.purpose = r.tag + 1 ∧ u.index = r.index ∧ u.mem = r.mem ∧
      u.steps = r.steps ∧ denoteU u.payload = denoteP r.data) t.redeemers (mapTx t).redeemers ∧
    (mapTx t).successful = t.isValid := by
  obtain ⟨hidx, hout, hcr, hfee, htc, hwd, hpd, hrd⟩ := h
  refine ⟨rfl, ?_, ?_, ?_, ?_, ?_, u64_exact _ hfee, u64_exact _ htc, rfl, rfl, mintAssets_exact t.mint, ?_, rfl, ?_, ?_, rfl⟩
  · exact mapInputs_exact _ (fun i hi => hidx i (by simp [hi]))
  · exact mapInputs_exact _ (fun i hi => hidx i (by simp [hi]))
  · exact mapInputs_exact _ (fun i hi => hidx i (by simp [hi]))
  · exact forall2_map _ _ _ (fun o ho => mapOutput_preserves _ o (hout o ho))
  · simp only [mapTx]
    cases hc : t.collateralReturn with
    | none => simp
    | some o => simpa using mapOutput_preserves _ o (hcr o hc)
  · simp only [mapTx, List.map_map]
    apply List.map_congr_left
    intro w hw
    simp [Function.comp, u64_exact w.2 (hwd w hw)]
  · simp only [mapTx, List.map_map]
    apply List.map_congr_left
    intro d hd
    simp [Function.comp, datum_map_preserves d.2 (hpd d hd)]
  · exact forall2_map _ _ _ (fun r hr => ⟨rfl, rfl, rfl, rfl, datum_map_preserves r.data (hrd r hr)⟩)

theorem map_block_preserves (b : LBlock) :
    (mapBlock b).slot = b.slot ∧ (mapBlock b).hash = b.hash ∧ (mapBlock b).height = b.height ∧
    (mapBlock b).txs = b.txs.map mapTx := ⟨rfl, rfl, rfl, rfl⟩

/-- where the projection is *not* faithful: an output index that does not fit the schema's `uint32`
    is truncated (`index() as u32`) — outside `TxWf` -/
theorem input_index_truncates_at_witness :
    (mapInput { hash := [1], index := 4294967296 }).outputIndex = 0 := by decide

def exOut : LOutput :=
  { address := [97], coin := 18446744073709551615, assets := [([5], [([65], 9223372036854775808)])],
    datum := some (.inline [24, 42] (.bigInt (.int 18446744073709551615))), script := some (.plutus 2 [1, 2]) }

def exTx : LTx :=
  { hash := [9], inputs := [⟨[1], 0⟩, ⟨[1], 7⟩], outputs := [exOut], fee := some 170000, validityStart := none, ttl := some 5,
    mint := [([5], [([65], -9223372036854775808)])], collateral := [], collateralReturn := none, totalCollateral := none,
    referenceInputs := [], withdrawals := [([224], 3)], certs := 1,
    witnessDatums := [([7], .constr 121 none [.bytes [1]])], redeemers := [], isValid := true }

example : TxWf exTx := by
  refine ⟨by simp [exTx], ?_, by simp [exTx], by simp [exTx, u64Bound], by simp [exTx, u64Bound], by simp [exTx, u64Bound], ?_, by simp [exTx]⟩
  · intro o ho
    simp only [exTx, List.mem_singleton] at ho
    subst ho
    refine ⟨by simp [exOut, u64Bound], by simp [exOut, u64Bound], ?_⟩
    intro c d h
    simp only [exOut, Option.some.injEq, LDatum.inline.injEq] at h
    obtain ⟨_, rfl⟩ := h
    simp [TagsOk]
  · intro d hd
    simp only [exTx, List.mem_singleton] at hd
    subst hd
    simp [TagsOk, TagsOkL]

example : (mapTx exTx).fee = .int 170000 ∧ ((mapTx exTx).outputs.map (·.coin)) = [.bigUInt [255, 255, 255, 255, 255, 255, 255, 255]] := by decide

end PallasVerif.Props.C44
