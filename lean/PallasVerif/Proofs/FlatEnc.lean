import PallasVerif.Proofs.FlatFormat
/-!
  Encoder refinement (`Props/C01`): every encoder call of `Model/Flat.lean` keeps the invariant
  `Enc.Inv` (`used_bits < 8`, the unused low bits of `current_byte` are zero) and appends exactly
  the specified bits to the bit string `Enc.written` written so far (`Enc.Ext`). Each call is
  checked on `Enc.padded`, the pushed bytes followed by all eight bits of `current_byte`: a call
  `e ↦ e'` appends `l` if `e'.padded = e.written ++ l ++ zeros` (`Enc.Ext.of_padded`), and the byte
  lemmas of `Proofs/FlatBits` compute `e'.padded`.
-/
namespace PallasVerif.Flat

def Enc.written (e : Enc) : List Bool := bitsOf e.buf ++ (byteBits e.cur).take e.used

def Enc.Inv (e : Enc) : Prop := e.used < 8 ∧ LowZero e.used e.cur

/-- `e'` extends `e` by the bits `l` -/
def Enc.Ext (e e' : Enc) (l : List Bool) : Prop := e'.Inv ∧ e'.written = e.written ++ l

theorem Enc.inv_new : Enc.new.Inv := ⟨by decide, LowZero.zero⟩

theorem Enc.written_length (e : Enc) (hu : e.used < 8) : e.written.length = 8 * e.buf.length + e.used := by
  simp [Enc.written, List.length_take]; omega

theorem Enc.written_length_mod (e : Enc) (hu : e.used < 8) : e.written.length % 8 = e.used := by
  rw [Enc.written_length e hu]
  omega

theorem Enc.Ext.trans {e e' e'' : Enc} {l l' : List Bool} (h : Enc.Ext e e' l) (h' : Enc.Ext e' e'' l') :
    Enc.Ext e e'' (l ++ l') := ⟨h'.1, by rw [h'.2, h.2, List.append_assoc]⟩

def Enc.padded (e : Enc) : List Bool := bitsOf e.buf ++ byteBits e.cur

theorem Enc.Inv.padded {e : Enc} (h : e.Inv) :
    e.padded = e.written ++ List.replicate (8 - e.used) false := by
  rw [Enc.padded, Enc.written, List.append_assoc, ← lowZero_take _ _ h.2]

theorem Enc.Ext.of_padded {e e' : Enc} {l : List Bool} (hu : e'.used < 8)
    (h : e'.padded = e.written ++ l ++ List.replicate (8 - e'.used) false) : Enc.Ext e e' l := by
  rw [Enc.padded, ← List.take_append_drop e'.used (byteBits e'.cur), ← List.append_assoc] at h
  obtain ⟨hw, hz⟩ := List.append_inj' h (by simp)
  exact ⟨⟨hu, hz⟩, hw⟩

/-- `next_word` after a call that filled `current_byte` exactly -/
theorem Enc.Ext.of_nextWord {e c : Enc} {l : List Bool} (h : c.padded = e.written ++ l) :
    Enc.Ext e c.nextWord l := by
  apply Enc.Ext.of_padded (Nat.zero_lt_succ 7)
  rw [← h]
  simp [Enc.padded, Enc.nextWord, show byteBits 0#8 = List.replicate 8 false from rfl]

theorem Enc.zero_ext (e : Enc) (h : e.Inv) : Enc.Ext e e.zero [false] := by
  unfold Enc.zero
  split
  · next h7 =>
    apply Enc.Ext.of_nextWord
    rw [h.padded, h7]
    rfl
  · apply Enc.Ext.of_padded (show e.used + 1 < 8 by have := h.1; omega)
    -- `zero` only counts: `padded` does not look at `used_bits`, so it is that of `e`
    show e.padded = _
    rw [h.padded, List.append_assoc, show 8 - e.used = 8 - (e.used + 1) + 1 by have := h.1; omega]
    rfl

theorem Enc.one_ext (e : Enc) (h : e.Inv) : Enc.Ext e e.one [true] := by
  unfold Enc.one
  split
  · next h7 =>
    apply Enc.Ext.of_nextWord
    rw [Enc.padded, byteBits_or_one, Enc.written, h7, List.append_assoc]
  · apply Enc.Ext.of_padded (show e.used + 1 < 8 by have := h.1; omega)
    rw [Enc.padded, byteBits_or_bit _ h.1 _ h.2, Enc.written,
      show 7 - e.used = 8 - (e.used + 1) by omega]
    simp

theorem Enc.bool_ext (e : Enc) (h : e.Inv) (b : Bool) : Enc.Ext e (e.bool b) [b] := by
  cases b
  · exact Enc.zero_ext e h
  · exact Enc.one_ext e h

theorem Enc.filler_ext (e : Enc) (h : e.Inv) : Enc.Ext e e.filler (fillerBits e.used) := by
  apply Enc.Ext.of_nextWord
  have h7 : (byteBits e.cur).take 7 = (byteBits e.cur).take e.used ++ List.replicate (7 - e.used) false := by
    have hu := h.1
    have := List.take_add (l := byteBits e.cur) (i := e.used) (j := 7 - e.used)
    rwa [Nat.add_sub_cancel' (by omega), h.2, List.take_replicate, Nat.min_eq_left (by omega)] at this
  rw [Enc.padded, byteBits_or_one, h7, Enc.written, fillerBits]
  simp

/-- after the filler `used = 0`, so the finished byte string alone is everything written -/
theorem Enc.filler_buf (e : Enc) (h : e.Inv) : bitsOf e.filler.buf = e.written ++ fillerBits e.used := by
  rw [← (Enc.filler_ext e h).2]
  exact (List.append_nil _).symm

/-- the low `n` bits of `val` written where they reach past `current_byte`: the last arm of `bits`, and
    `byte_unaligned` at `n = 8` -/
theorem Enc.spill_ext (e : Enc) (h : e.Inv) (n : Nat) (hn : n ≤ 8) (h8 : 8 < e.used + n) (v : Byte)
    (hv : v.toNat < 2 ^ n) :
    Enc.Ext e ⟨e.buf ++ [e.cur ||| (v >>> (e.used + n - 8))], e.used + n - 8, v <<< (8 - (e.used + n - 8))⟩
      ((byteBits v).drop (8 - n)) := by
  have hu := h.1
  apply Enc.Ext.of_padded (show e.used + n - 8 < 8 by omega)
  simp only [Enc.padded, bitsOf_append, bitsOf_cons, bitsOf_nil, Enc.written]
  rw [byteBits_or_ushr_spill e.used n (by omega) hn (by omega) e.cur v h.2 hv, byteBits_shl _ (by omega),
    show 8 - (e.used + n - 8) = 8 - n + (8 - e.used) by omega, ← List.drop_drop]
  simp only [List.append_nil, List.append_assoc]
  rw [← List.append_assoc (List.take (8 - e.used) _), List.take_append_drop]

theorem Enc.bitsGeneric_ext (e : Enc) (h : e.Inv) (n : Nat) (hn1 : 1 ≤ n) (hn : n ≤ 8) (v : Byte)
    (hv : v.toNat < 2 ^ n) :
    ∃ e', e.bitsGeneric n v = some e' ∧ Enc.Ext e e' ((byteBits v).drop (8 - n)) := by
  have hu := h.1
  unfold Enc.bitsGeneric
  simp only
  split
  · next h8 =>
    -- the bits fill `current_byte` exactly
    refine ⟨_, rfl, Enc.Ext.of_nextWord ?_⟩
    have := byteBits_or_shl e.used n (by omega) e.cur v h.2 hv
    rw [h8, Nat.sub_self, BitVec.shiftLeft_zero] at this
    rw [Enc.padded, this, Enc.written]
    simp
  · split
    · next h8 =>
      -- they fit with room left
      rw [if_neg (by omega)]
      refine ⟨_, rfl, Enc.Ext.of_padded h8 ?_⟩
      rw [Enc.padded, byteBits_or_shl e.used n (by omega) e.cur v h.2 hv, Enc.written]
      simp
    · -- they spill into the next byte
      rw [if_neg (by omega)]
      exact ⟨_, rfl, Enc.spill_ext e h n hn (by omega) v hv⟩

theorem Enc.bits_ext (e : Enc) (h : e.Inv) (n : Nat) (hn1 : 1 ≤ n) (hn : n ≤ 8) (v : Byte)
    (hv : v.toNat < 2 ^ n) : ∃ e', e.bits n v = some e' ∧ Enc.Ext e e' ((byteBits v).drop (8 - n)) := by
  have h0 := Enc.zero_ext e h
  have h1 := Enc.one_ext e h
  unfold Enc.bits
  split
  -- in the special arms `val` becomes a literal, so that its low bits compute to `[false]`, `[false, true]`, …
  · next heq => rw [byte_eq_ofNat_of_toNat heq]; exact ⟨_, rfl, h0⟩
  · next heq => rw [byte_eq_ofNat_of_toNat heq]; exact ⟨_, rfl, h1⟩
  · next heq => rw [byte_eq_ofNat_of_toNat heq]; exact ⟨_, rfl, h0.trans (Enc.zero_ext _ h0.1)⟩
  · next heq => rw [byte_eq_ofNat_of_toNat heq]; exact ⟨_, rfl, h0.trans (Enc.one_ext _ h0.1)⟩
  · next heq => rw [byte_eq_ofNat_of_toNat heq]; exact ⟨_, rfl, h1.trans (Enc.zero_ext _ h1.1)⟩
  · next heq => rw [byte_eq_ofNat_of_toNat heq]; exact ⟨_, rfl, h1.trans (Enc.one_ext _ h1.1)⟩
  · exact Enc.bitsGeneric_ext e h _ hn1 hn v hv

theorem Enc.bits8_ext (e : Enc) (h : e.Inv) (w : Byte) :
    ∃ e', e.bits 8 w = some e' ∧ Enc.Ext e e' (byteBits w) :=
  Enc.bits_ext e h 8 (by omega) (by omega) w w.isLt

theorem Enc.u8_ext (e : Enc) (h : e.Inv) (x : Byte) : Enc.Ext e (e.u8 x) (byteBits x) := by
  unfold Enc.u8
  split
  · next h0 =>
    apply Enc.Ext.of_nextWord
    simp [Enc.padded, Enc.written, h0]
  · have := Enc.spill_ext e h 8 (Nat.le_refl 8) (by omega) x x.isLt
    rwa [Nat.add_sub_cancel, Nat.sub_self, List.drop_zero] at this

theorem Enc.wordLoop_ext {f w : Nat} {bs : List Byte} (hb : WordBytes f w bs) (e : Enc) (h : e.Inv) :
    ∃ e', Enc.wordLoop (f + 1) e w = some e' ∧ Enc.Ext e e' (bitsOf bs) := by
  induction hb generalizing e with
  | @last f w hw =>
    obtain ⟨e', he, hx⟩ := Enc.bits8_ext e h (BitVec.ofNat 8 w)
    refine ⟨e', ?_, by simpa using hx⟩
    simp only [Enc.wordLoop, Nat.shiftRight_eq_zero w 7 hw, Nat.and_two_pow_sub_one_eq_mod _ 7, Nat.mod_eq_of_lt hw, ne_eq,
      not_true_eq_false, if_false, he, if_true]
  | @more f w bs h0 _ ih =>
    obtain ⟨e', he, hx⟩ := Enc.bits8_ext e h (BitVec.ofNat 8 (w % 128) ||| 128#8)
    obtain ⟨e'', he', hx'⟩ := ih e' hx.1
    refine ⟨e'', ?_, hx.trans hx'⟩
    rw [Enc.wordLoop]
    simp only [Nat.and_two_pow_sub_one_eq_mod _ 7, h0, ne_eq, not_false_eq_true, if_true, he, if_false]
    exact he'

theorem Enc.word_ext (e : Enc) (h : e.Inv) (c : Nat) (hc : c < 2 ^ 64) :
    ∃ e', e.word c = some e' ∧ Enc.Ext e e' (bitsOf (wordBytes 10 c)) :=
  Enc.wordLoop_ext (wordBytes_spec 9 (Nat.lt_of_lt_of_le hc (by decide))) e h

theorem Enc.bytes_ext (e : Enc) (h : e.Inv) (x : List Byte) :
    ∃ e', e.bytes x = .ok e' ∧ Enc.Ext e e' (fillerBits e.used ++ bitsOf (Enc.blk x)) := by
  have hu : e.filler.used = 0 := rfl
  refine ⟨e.filler.writeBlk x, by simp [Enc.bytes, Enc.byteArray, hu], ?_⟩
  refine (Enc.filler_ext e h).trans ⟨⟨Nat.zero_lt_succ 7, LowZero.zero⟩, ?_⟩
  simp [Enc.written, Enc.writeBlk, hu]

theorem Enc.bools_ext (e : Enc) (h : e.Inv) (l : List Bool) : Enc.Ext e (e.bools l) (boolsBits l) := by
  induction l generalizing e with
  | nil => exact Enc.zero_ext e h
  | cons b l ih =>
    have h1 := Enc.one_ext e h
    have h2 := Enc.bool_ext _ h1.1 b
    have h3 := ih _ h2.1
    simpa [Enc.bools, boolsBits, listBits] using (h1.trans h2).trans h3

theorem Enc.list_ext {α : Type} (f : Enc → α → Option Enc) (spec : α → List Bool) (items : List α)
    (hf : ∀ a ∈ items, ∀ e : Enc, e.Inv → ∃ e', f e a = some e' ∧ Enc.Ext e e' (spec a))
    (e : Enc) (h : e.Inv) : ∃ e', Enc.list f e items = some e' ∧ Enc.Ext e e' (listBits spec items) := by
  induction items generalizing e with
  | nil => exact ⟨_, rfl, Enc.zero_ext e h⟩
  | cons a items ih =>
    have h1 := Enc.one_ext e h
    obtain ⟨e', he, hx⟩ := hf a (by simp) _ h1.1
    obtain ⟨e'', he', hx'⟩ := ih (fun a ha => hf a (by simp [ha])) e' hx.1
    refine ⟨e'', by simp [Enc.list, he, he'], ?_⟩
    simpa [listBits] using (h1.trans hx).trans hx'

theorem Enc.string_eq_list (e : Enc) (cs : List Nat) : e.string cs = Enc.list Enc.word e cs := by
  induction cs generalizing e with
  | nil => rfl
  | cons c cs ih =>
    simp only [Enc.string, Enc.list]
    cases e.one.word c with
    | none => rfl
    | some e' => exact ih e'

theorem Enc.string_ext (e : Enc) (h : e.Inv) (cs : List Nat) (hcs : ∀ c ∈ cs, c < 2 ^ 64) :
    ∃ e', e.string cs = some e' ∧ Enc.Ext e e' (stringBits cs) := by
  rw [Enc.string_eq_list]
  exact Enc.list_ext Enc.word _ cs (fun c hc e he => Enc.word_ext e he c (hcs c hc)) e h

theorem Enc.value_ext (e : Enc) (h : e.Inv) (v : Value) (hv : v.WF) :
    ∃ e', e.value v = .ok e' ∧ Enc.Ext e e' (v.spec e.written.length) := by
  have hoff := Enc.written_length_mod e h.1
  have ok_of_some : ∀ {o : Option Enc} {l : List Bool}, (∃ e', o = .some e' ∧ Enc.Ext e e' l) →
      ∃ e', (match o with | .some e' => ERes.ok e' | .none => ERes.panic) = .ok e' ∧ Enc.Ext e e' l := by
    rintro _ _ ⟨e', rfl, hx⟩
    exact ⟨e', rfl, hx⟩
  cases v with
  | bool b => exact ⟨_, rfl, Enc.bool_ext e h b⟩
  | u8 x => exact ⟨_, rfl, Enc.u8_ext e h x⟩
  | bits n x => exact ok_of_some (Enc.bits_ext e h n hv.1 hv.2.1 x hv.2.2)
  | word w => exact ok_of_some (Enc.word_ext e h w hv)
  | int i => exact ok_of_some (Enc.word_ext e h (zigzag i) (zigzag_lt i hv.1 hv.2))
  | char c => exact ok_of_some (Enc.word_ext e h c (Nat.lt_trans (validScalar_lt hv) (by decide)))
  | bytes bs | utf8 bs => simpa only [Enc.value, Value.spec, hoff] using Enc.bytes_ext e h bs
  | bools l => exact ⟨_, rfl, Enc.bools_ext e h l⟩
  | string cs =>
    exact ok_of_some (Enc.string_ext e h cs fun c hc => Nat.lt_trans (validScalar_lt (hv c hc)) (by decide))

theorem Enc.seq_ext (e : Enc) (h : e.Inv) (vs : List Value) (hvs : ∀ v ∈ vs, v.WF) :
    ∃ e', e.seq vs = .ok e' ∧ Enc.Ext e e' (specSeq e.written.length vs) := by
  induction vs generalizing e with
  | nil => exact ⟨e, rfl, h, (List.append_nil _).symm⟩
  | cons v vs ih =>
    obtain ⟨e', he, hx⟩ := Enc.value_ext e h v (hvs v (by simp))
    obtain ⟨e'', he', hx'⟩ := ih e' hx.1 (fun v hv => hvs v (by simp [hv]))
    refine ⟨e'', by simp [Enc.seq, he, he'], ?_⟩
    have hl : e'.written.length = e.written.length + (v.spec e.written.length).length := by
      rw [hx.2]; simp
    rw [hl] at hx'
    exact hx.trans hx'

end PallasVerif.Flat
