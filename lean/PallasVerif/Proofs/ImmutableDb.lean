import PallasVerif.Model.ImmutableDb
/-! Lemmas about `Model/ImmutableDb.lean` for C42 and C43: the binary search and `iterate_till_point`
    against list specifications, absence of panics, and the file-aware (`F`) functions on a database
    whose chunks all open. -/
namespace PallasVerif.Proofs.ImmutableDb
open PallasVerif.ImmutableDb

/-! ## `chunk_binary_search` -/
section BS
variable {α : Type}

/-- what the search must return on chunks whose keys (first slots) are strictly descending:
    the first (newest) chunk whose key is `≤ s`, if any -/
def BsSpec (chunks : List α) (key : α → Nat) (s : Nat) : Option Nat → Prop
  | some k => ∃ hk : k < chunks.length, key chunks[k] ≤ s ∧
      ∀ j (hj : j < chunks.length), j < k → s < key chunks[j]
  | none => ∀ j (hj : j < chunks.length), s < key chunks[j]

theorem cmpNat_lt (a b : Nat) : cmpNat a b = .lt ↔ a < b := Nat.compare_eq_lt

theorem cmpNat_eq (a b : Nat) : cmpNat a b = .eq ↔ a = b := Nat.compare_eq_eq

theorem cmpNat_gt (a b : Nat) : cmpNat a b = .gt ↔ b < a := Nat.compare_eq_gt

/-- the invariant both walks of `bsLoop` carry on a list of length `n`: `left .. right` is a window of width `size`
    inside the list, and the fuel exceeds the width -/
structure Window (n fuel left right size : Nat) : Prop where
  eq : right = left + size
  le : right ≤ n
  fuel : size < fuel

namespace Window
variable {n fuel left right size : Nat}

theorem probe (w : Window n fuel left right size) (hs : size > 0) : left + size / 2 < n :=
  Nat.lt_of_lt_of_le (w.eq ▸ Nat.add_lt_add_left (Nat.div_lt_self hs (by decide)) left) w.le

/-- `mid - left` does not underflow, and the lower half is a window again, narrower by at least one -/
theorem lower (w : Window n (fuel + 1) left right size) (hs : size > 0) :
    ¬ left + size / 2 < left ∧ Window n fuel left (left + size / 2) (left + size / 2 - left) := by
  refine ⟨Nat.not_lt.2 (Nat.le_add_right ..), ?_, Nat.le_of_lt (w.probe hs), ?_⟩
  · rw [Nat.add_sub_cancel_left]
  · rw [Nat.add_sub_cancel_left]
    exact Nat.lt_of_lt_of_le (Nat.div_lt_self hs (by decide)) (Nat.le_of_lt_succ w.fuel)

/-- `right - (mid + 1)` does not underflow, and the upper half is a window again, narrower by at least one -/
theorem upper (w : Window n (fuel + 1) left right size) (hs : size > 0) :
    ¬ right < left + size / 2 + 1 ∧ Window n fuel (left + size / 2 + 1) right (right - (left + size / 2 + 1)) := by
  obtain ⟨rfl, h2, hf⟩ := w
  have hhalf : size / 2 < size := Nat.div_lt_self hs (by decide)
  refine ⟨Nat.not_lt.2 (Nat.add_le_add_left hhalf left), ?_, h2, ?_⟩
  · rw [Nat.add_assoc left, Nat.add_sub_add_left, Nat.add_assoc left, Nat.add_sub_cancel' hhalf]
  · rw [Nat.add_assoc left, Nat.add_sub_add_left]
    exact Nat.lt_of_lt_of_le (Nat.sub_lt hs (Nat.succ_pos _)) (Nat.le_of_lt_succ hf)

end Window

/-- The invariant of the search: every chunk left of the window has key `> s` (`h3`), every chunk from
    `right` on has key `≤ s` (`h4`), beside `Window`.
    Along `bsLoop`'s own cases: the window rules out its panic sites, the comparator's three answers and
    the empty window are left. -/
theorem bsLoop_spec (chunks : List α) (key : α → Nat) (s : Nat)
    (hdesc : ∀ i j (hi : i < chunks.length) (hj : j < chunks.length), i < j → key chunks[j] < key chunks[i])
    (fuel left right size : Nat) (w : Window chunks.length fuel left right size)
    (h3 : ∀ i (hi : i < chunks.length), i < left → s < key chunks[i])
    (h4 : ∀ i (hi : i < chunks.length), right ≤ i → key chunks[i] ≤ s) :
    ∃ r, bsLoop chunks (fun c => .ok (cmpNat (key c) s)) fuel left right size = .ok r ∧ BsSpec chunks key s r := by
  fun_induction bsLoop chunks (fun c => .ok (cmpNat (key c) s)) fuel left right size with
  -- fuel `0`
  | case1 => exact absurd w.fuel (Nat.not_lt_zero _)
  -- `size > 0`, `chunks[mid]? = none`
  | case2 _ _ _ _ hs _ hm => exact absurd (List.getElem?_eq_none_iff.1 hm) (Nat.not_le.2 (w.probe hs))
  -- `cmp c = .err e`, `cmp c = .panic`
  | case3 _ _ _ _ _ _ _ _ _ he => cases he
  | case4 _ _ _ _ _ _ _ _ hp => cases hp
  -- `cmp c = .ok .lt` and `mid < left`
  | case5 _ _ _ _ hs _ _ _ _ h => exact absurd h (w.lower hs).1
  -- `cmp c = .ok .lt`, on into `left .. mid`: the probe and, the keys descending, everything after it is below `s`
  | case6 _ _ _ _ hs _ c hm ho _ ih =>
    obtain ⟨hmid, rfl⟩ := List.getElem?_eq_some_iff.1 hm
    have hlt := (cmpNat_lt _ _).mp (Res.ok.inj ho)
    refine ih (w.lower hs).2 h3 fun i hi hle => ?_
    rcases Nat.eq_or_lt_of_le hle with rfl | hlt'
    · exact Nat.le_of_lt hlt
    · exact Nat.le_of_lt (Nat.lt_trans (hdesc _ i hmid hi hlt') hlt)
  -- `cmp c = .ok .gt` and `right < mid + 1`
  | case7 _ _ _ _ hs _ _ _ _ h => exact absurd h (w.upper hs).1
  -- `cmp c = .ok .gt`, on into `mid + 1 .. right`: the probe and everything before it is above `s`
  | case8 _ _ _ _ hs _ c hm ho _ ih =>
    obtain ⟨hmid, rfl⟩ := List.getElem?_eq_some_iff.1 hm
    have hgt := (cmpNat_gt _ _).mp (Res.ok.inj ho)
    refine ih (w.upper hs).2 (fun i hi hlt => ?_) h4
    rcases Nat.eq_or_lt_of_le (Nat.le_of_lt_succ hlt) with rfl | hlt'
    · exact hgt
    · exact Nat.lt_trans hgt (hdesc i _ hi hmid hlt')
  -- `cmp c = .ok .eq`: `some mid`
  | case9 _ _ _ _ _ _ c hm ho =>
    obtain ⟨hmid, rfl⟩ := List.getElem?_eq_some_iff.1 hm
    have heq := (cmpNat_eq _ _).mp (Res.ok.inj ho)
    exact ⟨_, rfl, hmid, Nat.le_of_eq heq, fun j hj hlt => heq ▸ hdesc j _ hj hmid hlt⟩
  -- `size = 0` and `right < chunks.length`: `some right`
  | case10 _ _ _ _ hs hr =>
    have h1 := w.eq; rw [Nat.eq_zero_of_not_pos hs] at h1; subst h1
    exact ⟨_, rfl, hr, h4 _ hr (Nat.le_refl _), h3⟩
  -- `size = 0` and `right` past the end: `none`
  | case11 _ _ _ _ hs hr =>
    have h1 := w.eq; rw [Nat.eq_zero_of_not_pos hs] at h1; subst h1
    exact ⟨_, rfl, fun j hj => h3 j hj (Nat.lt_of_lt_of_le hj (Nat.le_of_not_lt hr))⟩

theorem bsSpec_none {l : List α} {key : α → Nat} {s : Nat} (h : BsSpec l key s none) : ∀ c ∈ l, s < key c := by
  intro c hc
  obtain ⟨j, hj, rfl⟩ := List.mem_iff_getElem.1 hc
  exact h j hj

/-- The name stack is the directory listing reversed: in listing order what is read after the search
    (`take (k + 1)` of the stack) is the chosen element and everything after it. -/
theorem bsSpec_split_reverse {l : List α} {key : α → Nat} {s k : Nat} (h : BsSpec l.reverse key s (some k)) :
    ∃ pre c post, l = pre ++ c :: post ∧ l.reverse.take (k + 1) = (c :: post).reverse ∧ key c ≤ s := by
  obtain ⟨hk, hkey, -⟩ := h
  rw [List.length_reverse] at hk
  rw [List.getElem_reverse] at hkey
  have hm : l.length - 1 - k < l.length := by omega
  refine ⟨l.take (l.length - 1 - k), l[l.length - 1 - k], l.drop (l.length - 1 - k + 1), ?_, ?_, hkey⟩
  · rw [List.getElem_cons_drop, List.take_append_drop]
  · rw [List.take_reverse, List.getElem_cons_drop, Nat.sub_sub, Nat.add_comm 1 k]

/-- the cases of `bsLoop_spec` without the keys: only the window bounds and the fuel are carried -/
theorem bsLoop_ne_panic (chunks : List α) (cmp : α → Res Ordering) (hc : ∀ c, cmp c ≠ .panic)
    (fuel left right size : Nat) (w : Window chunks.length fuel left right size) :
    bsLoop chunks cmp fuel left right size ≠ .panic := by
  fun_induction bsLoop chunks cmp fuel left right size with
  -- fuel `0`
  | case1 => exact absurd w.fuel (Nat.not_lt_zero _)
  -- `size > 0`, `chunks[mid]? = none`
  | case2 _ _ _ _ hs _ hm => exact absurd (List.getElem?_eq_none_iff.1 hm) (Nat.not_le.2 (w.probe hs))
  -- `cmp c = .panic`
  | case4 _ _ _ _ _ _ c _ hp => exact absurd hp (hc c)
  -- `cmp c = .ok .lt`: `mid < left`, and on into `left .. mid`
  | case5 _ _ _ _ hs _ _ _ _ h => exact absurd h (w.lower hs).1
  | case6 _ _ _ _ hs _ _ _ _ _ ih => exact ih (w.lower hs).2
  -- `cmp c = .ok .gt`: `right < mid + 1`, and on into `mid + 1 .. right`
  | case7 _ _ _ _ hs _ _ _ _ h => exact absurd h (w.upper hs).1
  | case8 _ _ _ _ hs _ _ _ _ _ ih => exact ih (w.upper hs).2
  -- `cmp c = .err e`, `cmp c = .ok .eq` and `size = 0` return `.err` or `.ok`
  | _ => exact nofun

theorem chunkBinarySearch_ne_panic (chunks : List α) (cmp : α → Res Ordering) (hc : ∀ c, cmp c ≠ .panic) :
    chunkBinarySearch chunks cmp ≠ .panic :=
  bsLoop_ne_panic chunks cmp hc _ 0 _ _ ⟨(Nat.zero_add _).symm, Nat.le_refl _, Nat.lt_succ_self _⟩

/-- the search on `chunks.map f` under `cmp` is the search on `chunks` under any comparator that agrees with
    `cmp ∘ f` on the chunks: so it is specified for the comparator `.ok (cmpNat (key ·) s)` alone -/
theorem bsLoop_map {γ : Type} (f : α → γ) (chunks : List α) (cmp : γ → Res Ordering) (cmp' : α → Res Ordering)
    (h : ∀ c ∈ chunks, cmp (f c) = cmp' c) (fuel left right size : Nat) :
    bsLoop (chunks.map f) cmp fuel left right size = bsLoop chunks cmp' fuel left right size := by
  induction fuel generalizing left right size with
  | zero => rfl
  | succ fuel ih =>
    simp only [bsLoop, List.getElem?_map, List.length_map, ih]
    cases hm : chunks[left + size / 2]? with
    | none => rfl
    | some c => simp only [Option.map_some, h c (List.mem_of_getElem? hm)]

theorem chunkBinarySearch_map {γ : Type} (f : α → γ) (chunks : List α) (cmp : γ → Res Ordering) (cmp' : α → Res Ordering)
    (h : ∀ c ∈ chunks, cmp (f c) = cmp' c) : chunkBinarySearch (chunks.map f) cmp = chunkBinarySearch chunks cmp' := by
  unfold chunkBinarySearch
  rw [List.length_map]
  exact bsLoop_map f chunks cmp cmp' h _ _ _ _
end BS

/-! ## `iterate_till_point` on a run of decodable blocks -/
section Till
variable {H : Type} [DecidableEq H]

def mapRes {α β : Type} (f : α → β) : Res α → Res β
  | .ok a => .ok (f a)
  | .err e => .err e
  | .panic => .panic

/-- specification without the peek loop: skip the blocks below the slot, test the next one -/
def tillSpec (slot : Nat) (hash : Option H) (bs : List (Block H)) : Res (List (Block H)) :=
  match bs.dropWhile (fun b => decide (b.slot < slot)) with
  | [] => if hash.isNone then .ok [] else .err .cannotFind
  | b :: rest => if accepts slot hash b then .ok (b :: rest) else .err .cannotFind

theorem tillSpec_below {slot : Nat} {b : Block H} (h : b.slot < slot) (hash : Option H)
    (rest : List (Block H)) : tillSpec slot hash (b :: rest) = tillSpec slot hash rest := by
  simp only [tillSpec, List.dropWhile_cons, h, decide_true, if_true]

theorem tillSpec_reached {slot : Nat} {b : Block H} (h : ¬ b.slot < slot) (hash : Option H)
    (rest : List (Block H)) :
    tillSpec slot hash (b :: rest) =
      if accepts slot hash b then .ok (b :: rest) else .err .cannotFind := by
  simp only [tillSpec, List.dropWhile_cons, h, decide_false, Bool.false_eq_true, if_false]

/-- along `tillLoop`'s own cases; the two that meet an item which is not a block do not arise on a run of blocks -/
theorem tillLoop_eq_spec (slot : Nat) (hash : Option H) (cur : Block H) (rest : List (Block H)) :
    tillLoop slot hash cur (rest.map Item.blk) = mapRes (List.map Item.blk) (tillSpec slot hash (cur :: rest)) := by
  generalize hi : rest.map Item.blk = items
  fun_induction tillLoop slot hash cur items generalizing rest with
  -- `cur.slot < slot` and the next item is `.blk d`: on with `d`
  | case1 cur h d rest' ih =>
    obtain ⟨d', r, rfl, hd, rfl⟩ := List.map_eq_cons_iff.1 hi
    cases hd
    rw [tillSpec_below h]; exact ih r rfl
  -- `cur.slot < slot` and the next item is `.garbage` / `.readErr`
  | case2 | case3 => obtain ⟨_, _, _, hd, _⟩ := List.map_eq_cons_iff.1 hi; cases hd
  -- `cur.slot < slot` and nothing follows, `hash.isNone` or not
  | case4 cur h hn | case5 cur h hn => rw [List.map_eq_nil_iff.1 hi, tillSpec_below h]; simp [tillSpec, hn, mapRes]
  -- `cur.slot ≥ slot`, `accepts slot hash cur` or not
  | case6 cur _ h ha => subst hi; rw [tillSpec_reached h, if_pos ha]; rfl
  | case7 cur _ h ha => subst hi; rw [tillSpec_reached h, if_neg ha]; rfl

/-- on a non-empty run only: on an empty iterator the code yields nothing even for an exact point, which the
    specification refuses -/
theorem iterateTillPoint_eq_spec (slot : Nat) (hash : Option H) (b : Block H) (rest : List (Block H)) :
    iterateTillPoint ((b :: rest).map Item.blk) slot hash = mapRes (List.map Item.blk) (tillSpec slot hash (b :: rest)) :=
  tillLoop_eq_spec slot hash b rest

theorem tillSpec_append_below (slot : Nat) (hash : Option H) (pre post : List (Block H))
    (h : ∀ b ∈ pre, b.slot < slot) : tillSpec slot hash (pre ++ post) = tillSpec slot hash post := by
  unfold tillSpec
  rw [List.dropWhile_append_of_pos fun b hb => decide_eq_true (h b hb)]

theorem tillSpec_none (slot : Nat) (bs : List (Block H)) :
    tillSpec slot (none : Option H) bs = .ok (bs.dropWhile (fun b => decide (b.slot < slot))) := by
  unfold tillSpec
  split
  · next hd => rw [hd]; rfl
  · next y ys hd =>
    have hy : ¬ y.slot < slot := by
      simpa [hd] using List.head?_dropWhile_not (fun b : Block H => decide (b.slot < slot)) bs
    rw [hd, if_pos (show accepts slot none y = true from decide_eq_true (Nat.le_of_not_lt hy))]

theorem tillSpec_absent (slot : Nat) (hash : H) (bs : List (Block H))
    (habs : ∀ b ∈ bs, ¬ (b.slot = slot ∧ b.hash = hash)) : tillSpec slot (some hash) bs = .err .cannotFind := by
  unfold tillSpec
  split
  · rfl
  · next y ys hd =>
    have hy : y ∈ bs := (List.dropWhile_sublist _).subset (hd ▸ List.mem_cons_self ..)
    refine if_neg fun ha => ?_
    simp only [accepts, Bool.and_eq_true, decide_eq_true_eq] at ha
    exact habs y hy ⟨ha.2, ha.1⟩

theorem tillLoop_ne_panic (slot : Nat) (hash : Option H) (cur : Block H) (rest : List (Item H)) :
    tillLoop slot hash cur rest ≠ .panic := by
  fun_induction tillLoop slot hash cur rest with
  -- `cur.slot < slot` and the next item is `.blk d`: on with `d`; every other arm returns `.ok` or `.err`
  | case1 _ _ _ _ ih => exact ih
  | _ => exact nofun

theorem iterateTillPoint_ne_panic (items : List (Item H)) (slot : Nat) (hash : Option H) :
    iterateTillPoint items slot hash ≠ .panic := by
  fun_cases iterateTillPoint items slot hash with
  -- the first item is `.blk b`: `tillLoop`
  | case1 => exact tillLoop_ne_panic _ _ _ _
  | _ => exact nofun

end Till

/-! ## the file-aware reads never panic; the plain ones through the `_some` equations below -/
section Cmp
variable {H : Type}

theorem chunkCmp_ne_panic (slot : Nat) (c : Chunk H) : chunkCmp slot c ≠ .panic := by
  unfold chunkCmp; split <;> simp

theorem chunkCmpF_ne_panic (slot : Nat) (c : FChunk H) : chunkCmpF slot c ≠ .panic := by
  cases c with
  | none => exact nofun
  | some c => exact chunkCmp_ne_panic slot c

theorem readBlocksFromPointF_ne_panic [DecidableEq H] (all : List (FChunk H)) (slot : Nat) (hash : Option H) :
    readBlocksFromPointF all slot hash ≠ .panic := by
  fun_cases readBlocksFromPointF all slot hash with
  -- the search answers `.panic`
  | case2 _ hs => exact absurd hs (chunkBinarySearch_ne_panic _ _ (chunkCmpF_ne_panic slot))
  -- the search answers `.ok (some idx)`: `iterateTillPoint`
  | case4 => exact iterateTillPoint_ne_panic _ _ _
  | _ => exact nofun

theorem getTipF_ne_panic (all : List (FChunk H)) : getTipF all ≠ .panic := by
  fun_cases getTipF all <;> exact nofun

end Cmp

/-! ## on a database whose chunks all open the file-aware functions are the plain ones -/
section AllOpen
variable {H : Type}

theorem readersF_some (l : List (Chunk H)) : readersF (l.map some) = readers l := by
  unfold readersF readers
  rw [← List.map_reverse]
  have h1 : ((l.reverse.map some).takeWhile Option.isSome) = l.reverse.map some := by
    induction l.reverse with
    | nil => rfl
    | cons a t ih => simp [ih]
  rw [h1, List.filterMap_map]
  exact congrArg List.flatten List.filterMap_some

theorem stackF_some (all : List (Chunk H)) : stackF (all.map some) = (stack all).map some := by
  unfold stackF stack
  rw [List.map_reverse, List.map_dropLast]

theorem readBlocksF_some (all : List (Chunk H)) : readBlocksF (all.map some) = readBlocks all := by
  unfold readBlocksF readBlocks; rw [stackF_some, readersF_some]

theorem getTipF_some (all : List (Chunk H)) : getTipF (all.map some) = getTip all := by
  unfold getTipF getTip
  rw [stackF_some]
  cases stack all <;> rfl
variable [DecidableEq H]

theorem readBlocksFromPointF_some (all : List (Chunk H)) (slot : Nat) (hash : Option H) :
    readBlocksFromPointF (all.map some) slot hash = readBlocksFromPoint all slot hash := by
  unfold readBlocksFromPointF readBlocksFromPoint
  simp only [stackF_some, chunkBinarySearch_map some _ (chunkCmpF slot) (chunkCmp slot) fun _ _ => rfl]
  cases chunkBinarySearch (stack all) (chunkCmp slot) with
  | err e | panic => rfl
  | ok r =>
    cases r with
    | none => rfl
    | some idx => simp only [← List.map_take, readersF_some]

end AllOpen

end PallasVerif.Proofs.ImmutableDb
