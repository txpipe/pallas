import PallasVerif.Proofs.TaylorTerms
/-! The integer side of `ref_exp` (core Lean only). The loop of `mp_exp_taylor` computes the same fixed-point
    terms `tterm` / partial sums `psum` as `ref_exp_cmp` (`Proofs/TaylorTerms.lean`) and stops at the first term
    below `eps` (`stopIdx`, a `List.findIdx`); on `(0, 1]` the scaling exponent is 1 and `ref_exp` is that
    Taylor stage alone. -/
namespace PallasVerif.Proofs.RefMath
open PallasVerif.Decimal PallasVerif.RefMath PallasVerif.Proofs.Decimal PallasVerif.Proofs.ExpCmp

/-- `last_x` after `n` iterations: one step behind `ref_exp_cmp`'s `error`, which starts at `x` -/
def lastOf (x : Int) : Nat → Int
  | 0 => ONE
  | n + 1 => tterm x n

/-- `ref_exp_cmp` multiplies in the other order, hence the `mul_comm` -/
theorem next_term (x : Int) (n : Nat) :
    (scale (x * lastOf x n) * P).tdiv (((n : Int) + 1) * P) = tterm x n := by
  rw [Int.mul_tdiv_mul_of_pos_left _ _ P_pos]
  cases n with
  | zero =>
    -- `scale (x · ONE) = x`, divided by `1`
    rw [lastOf, ONE, scale_eq_ediv, Int.mul_ediv_cancel _ (Int.ne_of_gt P_pos)]
    exact Int.tdiv_one x
  | succ n =>
    rw [lastOf, tterm_succ, Int.mul_comm x]
    congr 1

theorem taylor_step (x eps : Int) (fuel n : Nat) :
    taylorLoop x eps (fuel + 1) n (psum x n) (((n : Int) + 1) * P) (lastOf x n) =
      if absLt (tterm x n) eps then some (n, psum x n)
      else taylorLoop x eps fuel (n + 1) (psum x (n + 1)) ((((n + 1 : Nat) : Int) + 1) * P) (lastOf x (n + 1)) := by
  rw [taylorLoop, div_eq_tdiv _ _ (divisor_ne _ (show 0 < (n : Int) + 1 by omega)), next_term]
  simp only [divisor_step, psum, lastOf]

/-- where `mp_exp_taylor x eps` stops: the first index whose term is below `eps`, or the cap -/
def stopIdx (x eps : Int) (cap : Nat) : Nat := (List.range cap).findIdx fun j => absLt (tterm x j) eps

theorem stopIdx_le (x eps : Int) (cap : Nat) : stopIdx x eps cap ≤ cap :=
  Nat.le_trans List.findIdx_le_length (Nat.le_of_eq List.length_range)

theorem stopIdx_min {x eps : Int} {cap j : Nat} (h : j < stopIdx x eps cap) : absLt (tterm x j) eps = false := by
  have := List.not_of_lt_findIdx h
  rwa [List.getElem_range] at this

theorem stopIdx_exit {x eps : Int} {cap : Nat} (h : stopIdx x eps cap ≠ cap) :
    absLt (tterm x (stopIdx x eps cap)) eps = true := by
  have hlt : stopIdx x eps cap < (List.range cap).length :=
    Nat.lt_of_le_of_ne List.findIdx_le_length (List.length_range ▸ h)
  exact List.getElem_range hlt ▸ List.findIdx_getElem (w := hlt)

/-- with `fuel` left after `n` iterations the loop looks for the first small term among `n, …, n + fuel - 1` -/
theorem taylor_run (x eps : Int) (fuel n m : Nat)
    (hm : m = n + (List.range' n fuel).findIdx fun j => absLt (tterm x j) eps) :
    taylorLoop x eps fuel n (psum x n) (((n : Int) + 1) * P) (lastOf x n) = some (m, psum x m) := by
  induction fuel generalizing n with
  | zero => subst hm; rfl
  | succ fuel ih =>
    rw [List.range'_succ, List.findIdx_cons] at hm
    rw [taylor_step]
    split
    · rename_i hb
      rw [hb] at hm; subst hm; rfl
    · rename_i hb
      rw [(Bool.not_eq_true _).mp hb] at hm
      exact ih (n + 1) (by rw [hm, cond_false]; omega)

theorem mpExpTaylor_eq (maxN : Nat) (x eps : Int) :
    mpExpTaylor maxN x eps = some (stopIdx x eps maxN, psum x (stopIdx x eps maxN)) := by
  simpa [mpExpTaylor, psum, lastOf, ONE] using
    taylor_run x eps maxN 0 _ (by rw [Nat.zero_add, ← List.range_eq_range']; rfl)

theorem refExp_of_pos {x : Int} (hx : 0 < x) : refExp x = refExpPos x := by
  rw [refExp, if_neg (by omega), if_neg (by omega)]

theorem expD_of_pos {x : Int} (hx : 0 < x) : expD x = (refExpPos x).map (·.2) := by
  rw [expD, refExp_of_pos hx]

theorem refExp_of_neg {x : Int} (hx : x < 0) :
    refExp x = match refExpPos (-x) with
      | none => none
      | some (it, temp) => (div ONE temp).map (fun r => (it, r)) := by
  rw [refExp, if_neg (by omega), if_pos hx]
  cases refExpPos (-x) with
  | none => rfl
  | some p =>
    obtain ⟨it, temp⟩ := p
    simp only
    cases div ONE temp <;> rfl

theorem ipowNat_nonneg (x : Int) (hx : 0 ≤ x) (n : Nat) : 0 ≤ ipowNat x n := by
  fun_induction ipowNat x n with
  | case1 => exact Int.le_of_lt P_pos  -- `n = 0`: `ONE`
  | case2 _ _ _ _ ih => exact scale_nonneg _ (Int.mul_nonneg ih ih)  -- even `n`: the half power squared
  | case3 _ _ _ _ ih => exact scale_nonneg _ (Int.mul_nonneg ih hx)  -- odd `n`: the power before, times `x`

theorem ipowNat_one (r : Int) : ipowNat r 1 = r := by
  rw [ipowNat, if_neg Nat.one_ne_zero, if_neg (by decide), ipowNat, if_pos rfl, ONE, scale_eq_ediv,
    Int.mul_comm, Int.mul_ediv_cancel _ (Int.ne_of_gt P_pos)]

theorem divRoundCeil_spec (x y : Int) (hx : 0 < x) (hy : 0 < y) :
    (divRoundCeil x y - 1) * y < x ∧ x ≤ divRoundCeil x y * y := by
  have d1 := Int.tdiv_mul_add_tmod x y
  have d2 := Int.tmod_nonneg y (Int.le_of_lt hx)
  have d3 := Int.tmod_lt_of_pos x hy
  have hn : ¬ x.tdiv y < 0 := Int.not_lt.mpr (Int.tdiv_nonneg (Int.le_of_lt hx) (Int.le_of_lt hy))
  simp only [divRoundCeil, isNeg, hn, decide_false, Bool.false_eq_true, not_false_eq_true, true_and]
  split
  · rw [Int.add_sub_cancel, Int.add_mul]; omega
  · rw [Int.sub_mul]; omega

theorem divRoundCeil_pos (x y : Int) (hx : 0 < x) (hy : 0 < y) : 0 < divRoundCeil x y :=
  Int.pos_of_mul_pos_left (Int.lt_of_lt_of_le hx (divRoundCeil_spec x y hx hy).2) hy

theorem divRoundCeil_unit (x : Int) (h0 : 0 < x) (h1 : x ≤ P) : divRoundCeil x P = 1 := by
  have h := divRoundCeil_spec x P h0 P_pos
  have := divRoundCeil_pos x P h0 P_pos
  have : divRoundCeil x P - 1 < 1 :=
    Int.lt_of_mul_lt_mul_right (a := P) (by rw [Int.one_mul]; omega) (Int.le_of_lt P_pos)
  omega

theorem refExpPos_eq (x : Int) (hx : 0 < x) :
    refExpPos x = if divRoundCeil x P > 9223372036854775807 then none
      else some (stopIdx (x.tdiv (divRoundCeil x P)) EPS 1000,
        ipowNat (psum (x.tdiv (divRoundCeil x P)) (stopIdx (x.tdiv (divRoundCeil x P)) EPS 1000))
          (divRoundCeil x P).toNat) := by
  have hn : ¬ divRoundCeil x P < 0 := by have := divRoundCeil_pos x P hx P_pos; omega
  simp only [refExpPos, mpExpTaylor_eq, ipow, if_neg hn]

/-- `refExpPos_eq` read backwards from a result -/
theorem refExpPos_eq_some {x : Int} (hx : 0 < x) {it : Nat} {r : Int} (h : refExpPos x = some (it, r)) :
    it = stopIdx (x.tdiv (divRoundCeil x P)) EPS 1000 ∧
      r = ipowNat (psum (x.tdiv (divRoundCeil x P)) it) (divRoundCeil x P).toNat := by
  rw [refExpPos_eq x hx] at h
  split at h
  · exact nomatch h
  obtain ⟨rfl, rfl⟩ := Prod.mk.inj (Option.some.inj h)
  exact ⟨rfl, rfl⟩

/-- on `(0, 1]` the scaling exponent is 1, so `exp` IS the Taylor stage -/
theorem refExpPos_unit (x : Int) (h0 : 0 < x) (h1 : x ≤ P) :
    refExpPos x = some (stopIdx x EPS 1000, psum x (stopIdx x EPS 1000)) := by
  rw [refExpPos_eq x h0, divRoundCeil_unit x h0 h1, Int.tdiv_one, if_neg (by decide)]
  exact congrArg _ (congrArg _ (ipowNat_one _))

theorem expD_unit_pos {x : Int} (h0 : 0 < x) (h1 : x ≤ P) : expD x = some (psum x (stopIdx x EPS 1000)) := by
  rw [expD_of_pos h0, refExpPos_unit x h0 h1, Option.map_some]

theorem expD_unit_neg {x : Int} (h0 : x < 0) (h1 : -P ≤ x) :
    expD x = some ((ONE * P).tdiv (psum (-x) (stopIdx (-x) EPS 1000))) := by
  rw [expD, refExp_of_neg h0, refExpPos_unit (-x) (by omega) (by omega)]
  simp only [div_eq_tdiv _ _ (Int.ne_of_gt (psum_pos (-x) (by omega) _)), Option.map_some]

end PallasVerif.Proofs.RefMath
