import PallasVerif.Model.Flat
/-!
  Bit-level facts for the flat codec. `byteBits b` is the byte most-significant bit first; `bitsOf` the
  bit string of a byte string. The shift/or/and expressions on bytes of `encoder.rs` / `decoder.rs` are
  characterised as operations on these lists: a shift, or an `|` of two disjoint fields (`byteBits_or_fields`),
  by comparing the two sides bit by bit (`byteBits_eq`) with the shift amounts symbolic; what the encoder
  or-s into `current_byte` by list algebra from those.
-/
namespace PallasVerif.Flat
open BitVec

def byteBits (b : Byte) : List Bool :=
  [b.getMsbD 0, b.getMsbD 1, b.getMsbD 2, b.getMsbD 3, b.getMsbD 4, b.getMsbD 5, b.getMsbD 6, b.getMsbD 7]

def bitsOf (bs : List Byte) : List Bool := bs.flatMap byteBits

@[simp] theorem byteBits_length (b : Byte) : (byteBits b).length = 8 := rfl

@[simp] theorem getElem_byteBits (b : Byte) (i : Nat) (h : i < (byteBits b).length) :
    (byteBits b)[i] = b.getMsbD i := by
  have e : byteBits b = (List.range 8).map b.getMsbD := rfl
  simp only [e, List.getElem_map, List.getElem_range]

theorem byteBits_eq {b : Byte} {l : List Bool} (hl : l.length = 8)
    (h : ∀ i (hi : i < l.length), l[i] = b.getMsbD i) : byteBits b = l := by
  apply List.ext_getElem (by rw [hl, byteBits_length])
  intro i h1 h2
  rw [getElem_byteBits, h]

theorem byteBits_inj {a b : Byte} (h : byteBits a = byteBits b) : a = b := by
  apply eq_of_getMsbD_eq
  intro i hi
  rw [← getElem_byteBits a i hi, ← getElem_byteBits b i hi]
  exact List.getElem_of_eq h hi

@[simp] theorem bitsOf_nil : bitsOf [] = [] := rfl
@[simp] theorem bitsOf_cons (b : Byte) (bs : List Byte) : bitsOf (b :: bs) = byteBits b ++ bitsOf bs := rfl
@[simp] theorem bitsOf_append (xs ys : List Byte) : bitsOf (xs ++ ys) = bitsOf xs ++ bitsOf ys := by
  simp [bitsOf]

@[simp] theorem bitsOf_length (bs : List Byte) : (bitsOf bs).length = 8 * bs.length := by
  induction bs with
  | nil => rfl
  | cons b bs ih => simp [ih]; omega

theorem bitsOf_drop (bs : List Byte) (k : Nat) : (bitsOf bs).drop (8 * k) = bitsOf (bs.drop k) := by
  induction k generalizing bs with
  | zero => simp
  | succ k ih =>
    cases bs with
    | nil => simp
    | cons b bs =>
      have : 8 * (k + 1) = 8 + 8 * k := by omega
      rw [this, bitsOf_cons, List.drop_append]
      simp [ih]

theorem bitsOf_prefix {xs ys : List Byte} {rest : List Bool} (h : bitsOf xs = bitsOf ys ++ rest) : ys <+: xs := by
  induction ys generalizing xs with
  | nil => exact List.nil_prefix
  | cons y ys ih =>
    cases xs with
    | nil =>
      have := congrArg List.length h
      simp at this
      omega
    | cons x xs =>
      simp only [bitsOf_cons, List.append_assoc] at h
      obtain ⟨h1, h2⟩ := List.append_inj h (by simp)
      exact List.cons_prefix_cons.mpr ⟨(byteBits_inj h1).symm, ih h2⟩

/-- the encoder's `current_byte` at `used_bits = u`: nothing is set from bit `u` on -/
def LowZero (u : Nat) (cur : Byte) : Prop := (byteBits cur).drop u = List.replicate (8 - u) false

theorem LowZero.zero : LowZero 0 0#8 := rfl

theorem lowZero_take (u : Nat) (cur : Byte) (h : LowZero u cur) :
    byteBits cur = (byteBits cur).take u ++ List.replicate (8 - u) false := by
  rw [← h, List.take_append_drop]

theorem getMsbD_of_toNat_lt {v : Byte} {n i : Nat} (hv : v.toNat < 2 ^ n) (hi : i + n < 8) :
    v.getMsbD i = false := by
  rw [getMsbD_eq_getLsbD]
  simp only [show i < 8 by omega, decide_true, Bool.true_and]
  rw [BitVec.getLsbD, Nat.testBit_lt_two_pow]
  calc v.toNat < 2 ^ n := hv
    _ ≤ 2 ^ (8 - 1 - i) := Nat.pow_le_pow_right (by omega) (by omega)

theorem byteBits_of_toNat_lt {v : Byte} {n : Nat} (hv : v.toNat < 2 ^ n) :
    byteBits v = List.replicate (8 - n) false ++ (byteBits v).drop (8 - n) := by
  apply byteBits_eq (by simp)
  intro i hi
  simp only [List.getElem_append, List.getElem_drop, getElem_byteBits, List.getElem_replicate, List.length_replicate]
  split
  · exact (getMsbD_of_toNat_lt hv (by omega)).symm
  · congr 1
    omega

theorem byteBits_shl (k : Nat) (hk : k ≤ 8) (x : Byte) :
    byteBits (x <<< k) = (byteBits x).drop k ++ List.replicate k false := by
  apply byteBits_eq (by simp; omega)
  intro i hi
  simp only [List.getElem_append, List.getElem_drop, getElem_byteBits, List.getElem_replicate, getMsbD_shiftLeft,
    List.length_drop, byteBits_length]
  split
  · rw [Nat.add_comm]
  · exact (getMsbD_of_ge _ _ (by omega)).symm

theorem byteBits_ushr (k : Nat) (x : Byte) :
    byteBits (x >>> k) = (List.replicate k false ++ byteBits x).take 8 := by
  apply byteBits_eq (by simp)
  intro i hi
  have hi8 : i < 8 := by simp at hi; omega
  simp only [List.getElem_take, List.getElem_append, getElem_byteBits, List.getElem_replicate, getMsbD_ushiftRight,
    List.length_replicate, hi8, decide_true, Bool.true_and]
  split <;> simp [*]

/-- `a | x` where `a` is zero from bit `p` on and `x` is zero before it. `current_byte` is such an `a`
    (`LowZero`) and whatever `bits` or-s into it such an `x`. -/
theorem byteBits_or_fields {p : Nat} {a x : Byte} {l r : List Bool}
    (ha : byteBits a = l ++ List.replicate (8 - p) false) (hx : byteBits x = List.replicate p false ++ r)
    (hl : l.length = p) : byteBits (a ||| x) = l ++ r := by
  have hlen : (l ++ r).length = 8 := by
    have := congrArg List.length hx
    simp at this ⊢
    omega
  apply byteBits_eq hlen
  intro i hi
  have hi8 : i < 8 := hlen ▸ hi
  rw [getMsbD_or, ← getElem_byteBits a i hi8, ← getElem_byteBits x i hi8]
  simp only [ha, hx, List.getElem_append, List.getElem_replicate, List.length_replicate, hl]
  split <;> simp

/-- `current_byte | (val << (8 - used_bits - num_bits))` of `bits`, when the bits fit -/
theorem byteBits_or_shl (u n : Nat) (h8 : u + n ≤ 8) (cur v : Byte) (h : LowZero u cur)
    (hv : v.toNat < 2 ^ n) :
    byteBits (cur ||| (v <<< (8 - (u + n)))) =
      (byteBits cur).take u ++ ((byteBits v).drop (8 - n) ++ List.replicate (8 - (u + n)) false) := by
  have hv' := byteBits_of_toNat_lt hv
  generalize (byteBits v).drop (8 - n) = X at hv' ⊢
  refine byteBits_or_fields (lowZero_take u cur h) ?_ (by simp; omega)
  rw [byteBits_shl _ (by omega), hv', List.drop_append_of_le_length (by simp; omega), List.drop_replicate,
    List.append_assoc, show 8 - n - (8 - (u + n)) = u by omega]

/-- `current_byte | (val >> (used_bits + num_bits - 8))` of `bits`, when they reach the end of the byte or beyond -/
theorem byteBits_or_ushr_spill (u n : Nat) (hu : u ≤ 8) (hn : n ≤ 8) (h8 : 8 ≤ u + n) (cur v : Byte)
    (h : LowZero u cur) (hv : v.toNat < 2 ^ n) :
    byteBits (cur ||| (v >>> (u + n - 8))) =
      (byteBits cur).take u ++ ((byteBits v).drop (8 - n)).take (8 - u) := by
  have hv' := byteBits_of_toNat_lt hv
  generalize (byteBits v).drop (8 - n) = X at hv' ⊢
  refine byteBits_or_fields (lowZero_take u cur h) ?_ (by simp; omega)
  rw [byteBits_ushr, hv', ← List.append_assoc, List.replicate_append_replicate, List.take_append,
    List.take_replicate, List.length_replicate, show u + n - 8 + (8 - n) = u by omega, Nat.min_eq_right hu]

/-- `current_byte | (x >> used_bits)` of `byte_unaligned` -/
theorem byteBits_or_ushr (u : Nat) (hu : u ≤ 8) (cur x : Byte) (h : LowZero u cur) :
    byteBits (cur ||| (x >>> u)) = (byteBits cur).take u ++ (byteBits x).take (8 - u) := by
  simpa using byteBits_or_ushr_spill u 8 hu (Nat.le_refl 8) (by omega) cur x h x.isLt

/-- `current_byte | (128 >> used_bits)` of `one` -/
theorem byteBits_or_bit (u : Nat) (hu : u < 8) (cur : Byte) (h : LowZero u cur) :
    byteBits (cur ||| (128#8 >>> u)) = (byteBits cur).take u ++ true :: List.replicate (7 - u) false := by
  have h128 : byteBits 128#8 = true :: List.replicate 7 false := by decide
  rw [byteBits_or_ushr u (by omega) cur _ h, h128, show 8 - u = 7 - u + 1 by omega, List.take_succ_cons,
    List.take_replicate, Nat.min_eq_left (by omega)]

/-- `current_byte | 1` of `one` and `filler` -/
theorem byteBits_or_one (cur : Byte) :
    byteBits (cur ||| 1#8) = (byteBits cur).take 7 ++ [true] := by
  simp [byteBits, getMsbD_or, getMsbD_one]

/-- `buffer[pos] & (128 >> used_bits) != 0` of `bit`: the mask is the single bit `7 - used_bits` -/
theorem and_bit_ne_zero (u : Nat) (hu : u < 8) (b : Byte) :
    decide ((b &&& (128#8 >>> u)) ≠ 0#8) = b.getMsbD u := by
  have hm : ∀ u : Fin 8, 128#8 >>> u.val = twoPow 8 (7 - u.val) ∧ twoPow 8 (7 - u.val) ≠ 0#8 := by decide
  obtain ⟨h1, h2⟩ := hm ⟨u, hu⟩
  rw [h1, and_twoPow, getMsbD_eq_getLsbD, decide_eq_true hu, Bool.true_and]
  cases b.getLsbD (7 - u) <;> simp [h2]

/-- `bits8`: the value assembled from the current byte and the next one; `b1 = 0` gives the arm that
    reads the current byte only -/
theorem bits8_val_two (u n : Nat) (hn : n ≤ 8) (b0 b1 : Byte) :
    byteBits ((b0 <<< u) >>> (8 - n) ||| (b1 >>> (8 - u + (8 - n)))) =
      List.replicate (8 - n) false ++ ((byteBits b0).drop u ++ byteBits b1).take n := by
  apply byteBits_eq (by simp; omega)
  intro i hi
  have hi8 : i < 8 := by simp at hi; omega
  simp only [List.getElem_append, List.getElem_take, List.getElem_drop, getElem_byteBits, List.getElem_replicate,
    getMsbD_or, getMsbD_ushiftRight, getMsbD_shiftLeft, List.length_replicate, List.length_drop, byteBits_length,
    hi8, decide_true, Bool.true_and]
  split
  · rw [decide_eq_true (by assumption), decide_eq_true (show i < 8 - u + (8 - n) by omega)]; rfl
  · rw [decide_eq_false (by assumption), Bool.not_false, Bool.true_and]
    split
    · rw [decide_eq_true (show i < 8 - u + (8 - n) by omega), Bool.not_true, Bool.false_and, Bool.or_false]
      congr 1
      omega
    · rw [getMsbD_of_ge b0 _ (by omega), Bool.false_or, decide_eq_false (by omega), Bool.not_false, Bool.true_and]
      congr 1
      omega

theorem byte_eq_ofNat_of_toNat {v : Byte} {k : Nat} (h : v.toNat = k) : v = BitVec.ofNat 8 k :=
  (BitVec.toNat_eq_nat.mp h).2

end PallasVerif.Flat
