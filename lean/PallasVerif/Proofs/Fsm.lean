import PallasVerif.Model.Fsm
/-!
  Conformance of an extracted table to a specification is a decidable predicate (`Table`); the lemmas lift it to
  `apply` and `run` for every state, message and history. The lemmas about a `Spec` alone come first; Proofs/Agent
  uses them too.
-/
namespace PallasVerif.Fsm

theorem Spec.row?_mem {sp : Spec} {s m : String} {r : SpecRow} (h : sp.row? s m = some r) :
    r ∈ sp.trans ∧ r.st = s ∧ r.msg = m :=
  ⟨List.mem_of_find?_eq_some h, by simpa using List.find?_some h⟩

/-- Both conformance tables (`Table`, `Agent.AgentTable`) check `hc`; it is what keeps a history inside the
    declared state classes. -/
theorem Spec.step_mem {sp : Spec} (hc : ∀ r ∈ sp.trans, r.next ∈ sp.stateNames) {s m n : String}
    (h : sp.step s m = some n) : n ∈ sp.stateNames := by
  obtain ⟨r, hr, rfl⟩ := Option.map_eq_some_iff.mp h
  exact hc r (Spec.row?_mem hr).1

/-- Everything that has to be compared between an extracted table and a specification; all
    quantifiers are bounded by the (finite) declared classes, so `Table p sp` is decidable. -/
def Table (p : Proto) (sp : Spec) : Prop :=
  (∀ s ∈ p.stateNames, s ∈ sp.stateNames) ∧ (∀ s ∈ sp.stateNames, s ∈ p.stateNames) ∧
  (∀ m ∈ p.msgNames, m ∈ sp.msgs) ∧ (∀ m ∈ sp.msgs, m ∈ p.msgNames) ∧
  p.init.1 = sp.init ∧
  (∀ s ∈ p.stateNames, ∀ m ∈ p.msgNames, (p.step s m).next? = sp.step s m) ∧
  (∀ r ∈ sp.trans, r.next ∈ sp.stateNames ∧ r.st ∈ sp.stateNames ∧ r.msg ∈ sp.msgs ∧ sp.agency r.st ≠ .nobody) ∧
  (∀ r ∈ sp.trans, ∀ i ∈ r.carried, i ∈ msgArgsOfs (p.step r.st r.msg).data ∧ i < p.arity r.msg)

instance (p : Proto) (sp : Spec) : Decidable (Table p sp) := by unfold Table; infer_instance

namespace Table
variable {p : Proto} {sp : Spec}
theorem states_sub (h : Table p sp) : ∀ s ∈ p.stateNames, s ∈ sp.stateNames := h.1
theorem states_sup (h : Table p sp) : ∀ s ∈ sp.stateNames, s ∈ p.stateNames := h.2.1
theorem msgs_sub (h : Table p sp) : ∀ m ∈ p.msgNames, m ∈ sp.msgs := h.2.2.1
theorem msgs_sup (h : Table p sp) : ∀ m ∈ sp.msgs, m ∈ p.msgNames := h.2.2.2.1
theorem init (h : Table p sp) : p.init.1 = sp.init := h.2.2.2.2.1
theorem step_eq (h : Table p sp) : ∀ s ∈ p.stateNames, ∀ m ∈ p.msgNames, (p.step s m).next? = sp.step s m := h.2.2.2.2.2.1
theorem next_mem (h : Table p sp) : ∀ r ∈ sp.trans, r.next ∈ sp.stateNames := fun r hr => (h.2.2.2.2.2.2.1 r hr).1
theorem agency_ne (h : Table p sp) : ∀ r ∈ sp.trans, sp.agency r.st ≠ .nobody := fun r hr => (h.2.2.2.2.2.2.1 r hr).2.2.2
theorem carries (h : Table p sp) : ∀ r ∈ sp.trans, ∀ i ∈ r.carried, i ∈ msgArgsOfs (p.step r.st r.msg).data ∧ i < p.arity r.msg := h.2.2.2.2.2.2.2
end Table

theorem apply_refines {p : Proto} {sp : Spec} (ht : Table p sp) (s : CState) (m : CMsg)
    (hs : s.cls ∈ p.stateNames) (hm : m.cls ∈ p.msgNames) :
    (match apply p s m with | .ok s' => some s'.cls | .error _ => none) = sp.step s.cls m.cls := by
  rw [← ht.step_eq _ hs _ hm]
  unfold apply
  cases p.step s.cls m.cls <;> rfl

theorem apply_ok_step {p : Proto} {sp : Spec} (ht : Table p sp) {s s' : CState} {m : CMsg}
    (hs : s.cls ∈ p.stateNames) (hm : m.cls ∈ p.msgNames) (h : apply p s m = .ok s') :
    sp.step s.cls m.cls = some s'.cls := by
  have h1 := apply_refines ht s m hs hm
  rw [h] at h1
  exact h1.symm

theorem apply_next_mem {p : Proto} {sp : Spec} (ht : Table p sp) {s s' : CState} {m : CMsg}
    (hs : s.cls ∈ p.stateNames) (hm : m.cls ∈ p.msgNames) (h : apply p s m = .ok s') :
    s'.cls ∈ p.stateNames :=
  ht.states_sup _ (Spec.step_mem ht.next_mem (apply_ok_step ht hs hm h))

theorem run_refines {p : Proto} {sp : Spec} (ht : Table p sp) (ms : List CMsg) (s : CState)
    (hs : s.cls ∈ p.stateNames) (hms : ∀ m ∈ ms, m.cls ∈ p.msgNames) :
    ((run p s ms).1.cls, (run p s ms).2) = sp.run s.cls (ms.map (·.cls)) := by
  fun_induction run p s ms with
  | case1 s => rfl
  | case2 s m ms s' h r ih =>  -- `m` is accepted: the rest runs from `s'`
    obtain ⟨hm, hrest⟩ := List.forall_mem_cons.mp hms
    simp only [List.map_cons, Spec.run, ← apply_refines ht s m hs hm, h]
    rw [← ih (apply_next_mem ht hs hm h) hrest]
  | case3 s m ms k h r ih =>  -- `m` is refused with `k`: the rest runs from `s`
    obtain ⟨hm, hrest⟩ := List.forall_mem_cons.mp hms
    simp only [List.map_cons, Spec.run, ← apply_refines ht s m hs hm, h]
    rw [← ih hs hrest]

theorem Val.self_mem_subterms (v : Val) : v ∈ v.subterms := by
  cases v <;> simp [Val.subterms]

-- `eval` and the statement read a missing field with the same default (`getD … "?"`), so no length
-- hypothesis is needed here; `apply_carries` turns `getD` into `m.args[i]` with its `hlen`.
mutual
  theorem carried_eval (st margs : List Val) (i : Nat) :
      ∀ d : DExp, i ∈ msgArgsOf d → margs.getD i (.atom "?") ∈ (eval st margs d).subterms
    | .msgArg j, h => by
      simp [msgArgsOf] at h; subst h
      simp only [eval]; exact Val.self_mem_subterms _
    | .stArg j, h => by simp [msgArgsOf] at h
    | .ctor t as, h => by
      simp only [msgArgsOf] at h
      simp only [eval, Val.subterms]
      exact List.mem_cons_of_mem _ (carried_evals st margs i as h)
  theorem carried_evals (st margs : List Val) (i : Nat) :
      ∀ ds : List DExp, i ∈ msgArgsOfs ds → margs.getD i (.atom "?") ∈ Val.subtermsL (evals st margs ds)
    | [], h => by simp [msgArgsOfs] at h
    | d :: ds, h => by
      simp only [msgArgsOfs, List.mem_append] at h
      simp only [evals, Val.subtermsL, List.mem_append]
      cases h with
      | inl h => exact Or.inl (carried_eval st margs i d h)
      | inr h => exact Or.inr (carried_evals st margs i ds h)
end

theorem apply_carries {p : Proto} {sp : Spec} (ht : Table p sp) (s s' : CState) (m : CMsg)
    (h : apply p s m = .ok s') (r : SpecRow) (hr : sp.row? s.cls m.cls = some r)
    (i : Nat) (hi : i ∈ r.carried) (hlen : i < m.args.length) :
    m.args[i] ∈ Val.subtermsL s'.data := by
  obtain ⟨hmem, hst, hmsg⟩ := Spec.row?_mem hr
  have hc := (ht.carries r hmem i hi).1
  rw [hst, hmsg] at hc
  revert h
  fun_cases apply p s m <;> rintro ⟨⟩
  next c d hs =>
    rw [hs] at hc
    simpa [List.getD, hlen] using carried_evals s.data m.args i d hc

end PallasVerif.Fsm
