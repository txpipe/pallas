import PallasVerif.Proofs.FlatBits
/-!
  The flat wire format as bit strings: which bits a value contributes (`Value.spec`), which values the
  Rust types admit (`Value.WF`), and the arithmetic of 7-bit groups, zigzag and scalar values. Words and
  blocks are given as relations without fuel (`WordBytes`, `BlkBytes`), which the fuelled `wordBytes` and
  `Enc.blkChunks` satisfy (`wordBytes_spec`, `blkChunks_spec`) and along which the loops of both sides are
  walked. The encoder proofs and the decoder proofs rest on this and not on each other.
-/
namespace PallasVerif.Flat

/-- `Encoder::filler`: zeros, then a one in the last bit of the byte -/
def fillerBits (used : Nat) : List Bool := List.replicate (7 - used) false ++ [true]

/-- the bytes of a word: 7-bit groups, least significant first, bit 7 = "more follow". The first
    argument is fuel, as in the model of `Encoder::word`: 10 suffices for `w < 2^64 ≤ 128^10` -/
def wordBytes : Nat → Nat → List Byte
  | 0, _ => []
  | fuel + 1, d =>
    let w : Byte := BitVec.ofNat 8 (d &&& 127)
    if d >>> 7 = 0 then [w] else (w ||| 128#8) :: wordBytes fuel (d >>> 7)

theorem shiftRight_seven_lt {d f : Nat} (h : d < 128 ^ (f + 2)) : d >>> 7 < 128 ^ (f + 1) := by
  rw [Nat.shiftRight_eq_div_pow]
  apply Nat.div_lt_of_lt_mul
  rw [show (2:Nat) ^ 7 = 128 by rfl, ← Nat.pow_succ']
  exact h

theorem word_split (w shl : Nat) : w <<< shl = (w % 128) <<< shl ||| (w >>> 7) <<< (shl + 7) := by
  have h1 : w = (w >>> 7) <<< 7 ||| w % 128 := by
    rw [← Nat.shiftLeft_add_eq_or_of_lt (Nat.mod_lt _ (by decide)), Nat.shiftRight_eq_div_pow, Nat.shiftLeft_eq]
    omega
  conv => lhs; rw [h1]
  rw [Nat.shiftLeft_or_distrib, ← Nat.shiftLeft_add, Nat.or_comm, Nat.add_comm 7 shl]

theorem shiftRight_seven_ne_zero {w : Nat} (hw : 128 ≤ w) : w >>> 7 ≠ 0 := by
  rw [Nat.shiftRight_eq_div_pow]
  exact Nat.ne_of_gt (Nat.div_pos hw (by decide))

theorem wordBytes_of_lt (f : Nat) {w : Nat} (hw : w < 128) : wordBytes (f + 1) w = [BitVec.ofNat 8 w] := by
  simp only [wordBytes, Nat.shiftRight_eq_zero w 7 hw, if_true, Nat.and_two_pow_sub_one_eq_mod _ 7, Nat.mod_eq_of_lt hw]

theorem wordBytes_of_ge (f : Nat) {w : Nat} (hw : 128 ≤ w) :
    wordBytes (f + 2) w = (BitVec.ofNat 8 (w % 128) ||| 128#8) :: wordBytes (f + 1) (w >>> 7) := by
  rw [wordBytes]
  simp only [shiftRight_seven_ne_zero hw, if_false, Nat.and_two_pow_sub_one_eq_mod _ 7]

/-- the word format without fuel: `bs` are the groups of `w`, at most `f` of them after the first. Both
    word loops are walked along this, so each has one arm per kind of group. -/
inductive WordBytes : Nat → Nat → List Byte → Prop
  | last (f : Nat) {w : Nat} : w < 128 → WordBytes f w [BitVec.ofNat 8 w]
  | more {f w : Nat} {bs : List Byte} : w >>> 7 ≠ 0 → WordBytes f (w >>> 7) bs →
      WordBytes (f + 1) w ((BitVec.ofNat 8 (w % 128) ||| 128#8) :: bs)

theorem wordBytes_spec : ∀ (f : Nat) {w : Nat}, w < 128 ^ (f + 1) → WordBytes f w (wordBytes (f + 1) w)
  | f, w, hw => by
    by_cases hlt : w < 128
    · rw [wordBytes_of_lt f hlt]
      exact .last f hlt
    · have hge := Nat.le_of_not_lt hlt
      match f, hw with
      | 0, hw => exact absurd hw hlt
      | n + 1, hw =>
        rw [wordBytes_of_ge n hge]
        exact .more (shiftRight_seven_ne_zero hge) (wordBytes_spec n (shiftRight_seven_lt hw))

/-- the block format of `byte_array` without fuel: each block of 1 to 255 bytes behind its length byte, then
    the empty block. The decoder reads any such blocks; `write_blk` cuts after every 255th byte -/
inductive BlkBytes : List Byte → List Byte → Prop
  | nil : BlkBytes [] [0#8]
  | cons {c bs enc : List Byte} : 0 < c.length → c.length < 256 → BlkBytes bs enc →
      BlkBytes (c ++ bs) (BitVec.ofNat 8 c.length :: (c ++ enc))

theorem blkChunks_spec : ∀ (f : Nat) (bs : List Byte), bs.length ≤ f → BlkBytes bs (Enc.blkChunks f bs ++ [0#8])
  | 0, bs, h => by
    cases List.eq_nil_of_length_eq_zero (Nat.le_zero.mp h)
    exact .nil
  | f + 1, bs, h => by
    unfold Enc.blkChunks
    split
    · next he =>
      cases List.isEmpty_iff.mp he
      exact .nil
    · next he =>
      have hpos : 0 < bs.length := List.length_pos_iff.mpr (by simpa using he)
      have := BlkBytes.cons (c := bs.take 255) (by rw [List.length_take]; omega) (by rw [List.length_take]; omega)
        (blkChunks_spec f (bs.drop 255) (by rw [List.length_drop]; omega))
      rwa [List.take_append_drop, List.length_take, ← List.append_assoc] at this

/-- bits of `encode_list_with` -/
def listBits {α : Type} (spec : α → List Bool) : List α → List Bool
  | [] => [false]
  | a :: l => true :: (spec a ++ listBits spec l)

/-- bits of `encode_list_with(bool)` -/
def boolsBits (l : List Bool) : List Bool := listBits (fun b => [b]) l

/-- bits of `Encoder::string` -/
def stringBits (cs : List Nat) : List Bool := listBits (fun c => bitsOf (wordBytes 10 c)) cs

theorem zigzag_lt (i : Int) (h1 : -(2 ^ 63) ≤ i) (h2 : i < 2 ^ 63) : zigzag i < 2 ^ 64 := by
  unfold zigzag; split <;> omega

theorem validScalar_lt {c : Nat} (h : Dec.validScalar c = true) : c < 2 ^ 32 := by
  simp only [Dec.validScalar, Bool.decide_or, Bool.decide_and, Bool.or_eq_true, Bool.and_eq_true,
    decide_eq_true_eq] at h
  omega

/-- what each Rust type guarantees about a value handed to the encoder; for `bits` there is no type,
    it is the caller's obligation documented at `Encoder::bits` -/
def Value.WF : Value → Prop
  | .bits n v => 1 ≤ n ∧ n ≤ 8 ∧ v.toNat < 2 ^ n     -- "num_bits ≥ bits required by the value"
  | .word w => w < 2 ^ 64                             -- usize
  | .int i => -(2 ^ 63) ≤ i ∧ i < 2 ^ 63              -- isize
  | .char c => Dec.validScalar c = true                   -- char
  | .utf8 bs => validUtf8 bs = true                   -- &str
  | .string cs => ∀ c ∈ cs, Dec.validScalar c = true      -- &str, as scalar values
  | _ => True

instance : DecidablePred Value.WF := fun v => by
  cases v <;> simp only [Value.WF] <;> infer_instance

/-- the bit string of a value that starts at bit offset `off` (byte strings depend on it through
    the filler) -/
def Value.spec (off : Nat) : Value → List Bool
  | .bool b => [b]
  | .u8 x => byteBits x
  | .bits n v => (byteBits v).drop (8 - n)
  | .word w => bitsOf (wordBytes 10 w)
  | .int i => bitsOf (wordBytes 10 (zigzag i))
  | .char c => bitsOf (wordBytes 10 c)
  | .bytes bs => fillerBits (off % 8) ++ bitsOf (Enc.blk bs)
  | .utf8 bs => fillerBits (off % 8) ++ bitsOf (Enc.blk bs)
  | .bools l => boolsBits l
  | .string cs => stringBits cs

def specSeq (off : Nat) : List Value → List Bool
  | [] => []
  | v :: vs => v.spec off ++ specSeq (off + (v.spec off).length) vs

end PallasVerif.Flat
