import PallasVerif.Proofs.P2PWire
import PallasVerif.Proofs.P2PInv
/-! C28, what one event does to the initiator as the connection model sees it, peer by peer (`CmdFacts`; `Pass` is the
    part of it that holds after any sequence of visits, `Handled.distinct` the part that needs each peer visited once;
    `inboundAll_recv` for a delivered batch), then the step-level statement of "own view permits" (`step_emit_permitted`). -/
namespace PallasVerif.P2P

/-- what one event that reaches the initiator in `s` and leaves it in `f` does, peer by peer: tracked
    records keep their protocol states (`fwd`), new records have the initial view (`new`), what is queued
    for a tracked peer is permitted by its record in `s` and has pairwise different protocols (`chain`),
    nothing is queued for an untracked peer, and `Connect` only goes to tracked peers -/
structure CmdFacts (s f : St) : Prop where
  fwd : ∀ q st0, s.peers q = some st0 → ∃ st, f.peers q = some st ∧ ProtoEq st0 st
  new : ∀ q st, f.peers q = some st → s.peers q = none → viewOf st = {}
  chain : ∀ q st0, s.peers q = some st0 → (∀ m, m ∈ sendsTo q f.out → Permits st0 m) ∧ Distinct (sendsTo q f.out)
  untracked : ∀ q, s.peers q = none → sendsTo q f.out = []
  conn : ∀ q, Out.connect q ∈ f.out → f.peers q ≠ none

/-- adding fresh records -/
structure Grows (s f : St) : Prop where
  out : f.out = s.out
  keep : ∀ q st, s.peers q = some st → f.peers q = some st
  new : ∀ q st, f.peers q = some st → s.peers q = none → viewOf st = {}

theorem Grows.of_eq {s f : St} (hp : f.peers = s.peers) (ho : f.out = s.out) : Grows s f :=
  ⟨ho, fun _ _ h => hp ▸ h, fun q st h hn => (by rw [hp, hn] at h; cases h)⟩

theorem Grows.trans {a b c : St} (h1 : Grows a b) (h2 : Grows b c) : Grows a c := by
  refine ⟨h2.out.trans h1.out, fun q st h => h2.keep q st (h1.keep q st h), ?_⟩
  intro q st hc hn
  cases hb : b.peers q with
  | none => exact h2.new q st hc hb
  | some stb =>
    have := h2.keep q stb hb
    rw [hc] at this; cases this
    exact h1.new q st hb hn

theorem onDiscovered_grows {s f : St} {p : Nat} (hn : s.peers p = none) (h : onDiscovered s p = some f) : Grows s f := by
  obtain ⟨st1, hpeers, hout, hv, -⟩ := onDiscovered_spec h
  refine ⟨hout, ?_, ?_⟩
  · intro q st hq
    rw [hpeers]
    by_cases e : q = p
    · subst e; rw [hn] at hq; cases hq
    · rw [setPeer_other _ _ e, hq]
  · intro q st hq hnq
    rw [hpeers] at hq
    by_cases e : q = p
    · subst e; rw [setPeer_same] at hq; cases hq; exact hv
    · rw [setPeer_other _ _ e, hnq] at hq; cases hq

theorem moveDiscovered_grows {s f : St} {taken : List Nat} (h : moveDiscovered s taken = some f) : Grows s f := by
  unfold moveDiscovered at h
  split at h
  · cases h
  · split at h
    · cases h; exact Grows.of_eq rfl rfl
    · refine discAll_preserves (I := Grows s) (fun _ hi hn h1 => hi.trans (onDiscovered_grows hn h1)) _ ?_ h
      exact Grows.of_eq rfl rfl

/-- what the handlers of an event that arrived in `s0` have done so far, in any order and with repetitions:
    `CmdFacts s0 s` but for the `Distinct` of `chain`, which is what needs an order without repetition -/
structure Pass (s0 s : St) : Prop where
  peers : ∀ q, Option.Rel ProtoEq (s0.peers q) (s.peers q)
  send : ∀ q m, Out.send q m ∈ s.out → ∃ st0, s0.peers q = some st0 ∧ Permits st0 m
  conn : ∀ q, Out.connect q ∈ s.out → s.peers q ≠ none

/-- `step` starts from `{ s0 with out := [] }` -/
theorem Pass.start {s0 s : St} (hp : s.peers = s0.peers) (ho : s.out = []) : Pass s0 s :=
  ⟨fun q => (by rw [hp]; cases s0.peers q <;> constructor; exact ProtoEq.refl _), fun q m h => (by rw [ho] at h; cases h),
   fun q h => (by rw [ho] at h; cases h)⟩

theorem Pass.facts {s0 s : St} (e : Pass s0 s) (hd : ∀ q, Distinct (sendsTo q s.out)) : CmdFacts s0 s := by
  refine ⟨?_, fun q st h hn => (by have := e.peers q; rw [hn, h] at this; cases this), ?_, ?_, e.conn⟩
  · intro q st0 h0
    have := e.peers q
    rw [h0] at this
    generalize s.peers q = r at this ⊢
    cases this with
    | some h => exact ⟨_, rfl, h⟩
  · intro q st0 h0
    refine ⟨fun m hm => ?_, hd q⟩
    obtain ⟨st0', h0', hp⟩ := e.send q m (mem_sendsTo.mp hm)
    rw [h0] at h0'; cases h0'; exact hp
  · intro q hn
    refine sendsTo_nil_of_nosend (fun m hm => ?_)
    obtain ⟨st0, h0, -⟩ := e.send q m hm
    rw [hn] at h0; cases h0

theorem cmdFacts_quiet {s f : St} (hp : f.peers = s.peers) (ho : f.out = []) : CmdFacts s f :=
  (Pass.start hp ho).facts (fun _ => by rw [ho]; exact List.Pairwise.nil)

theorem CmdFacts.grows {s s1 f : St} (c : CmdFacts s s1) (g : Grows s1 f) : CmdFacts s f := by
  refine ⟨?_, ?_, fun q st0 h => g.out ▸ c.chain q st0 h, fun q hn => g.out ▸ c.untracked q hn, ?_⟩
  · intro q st0 hq
    obtain ⟨st, hs, hpe⟩ := c.fwd q st0 hq
    exact ⟨st, g.keep q st hs, hpe⟩
  · intro q st hq hn
    cases h1 : s1.peers q with
    | none => exact g.new q st hq h1
    | some st1 => rw [g.keep q st1 h1] at hq; cases hq; exact c.new q st h1 hn
  · intro q hq
    rw [g.out] at hq
    cases h1 : s1.peers q with
    | none => exact absurd h1 (c.conn q hq)
    | some st1 => rw [g.keep q st1 h1]; exact Option.some_ne_none _

theorem cmdFacts_of_grows {s f : St} (g : Grows s f) (ho : s.out = []) : CmdFacts s f :=
  (cmdFacts_quiet rfl ho).grows g

theorem Handled.pass {s0 s f : St} {p : Nat} {gr : Peer → Peer} (h : Handled s p gr f)
    (hg : ∀ st, ProtoEq st (gr st)) (e : Pass s0 s) : Pass s0 f := by
  cases h with
  | untracked => exact e
  | @visit f st st1 new hpe v k =>
    -- the record of `p` when the event arrived
    have h0 := e.peers p
    rw [hpe] at h0
    generalize hs0 : s0.peers p = r0 at h0
    cases h0 with
    | @some st0 _ hpe' =>
      have hpe0 : ProtoEq st0 st1 := hpe'.trans ((hg st).trans k.proto)
      have hpeers : ∀ q, q ≠ p → f.peers q = s.peers q := fun q hq => by rw [v.peers, setPeer_other _ _ hq]
      have hp1 : f.peers p = some st1 := by rw [v.peers, setPeer_same]
      refine ⟨?_, ?_, ?_⟩
      · intro q
        by_cases hqp : q = p
        · rw [hqp, hs0, hp1]; exact .some hpe0
        · rw [hpeers q hqp]; exact e.peers q
      · intro q m hq
        rw [v.out, List.mem_append] at hq
        rcases hq with hh | hh
        · exact e.send q m hh
        · obtain ⟨rfl, hpm⟩ := k.send q m hh
          exact ⟨st0, hs0, hpe0.permits hpm⟩
      · intro q hq
        rw [v.out, List.mem_append] at hq
        by_cases hqp : q = p
        · rw [hqp, hp1]; exact Option.some_ne_none _
        · rw [hpeers q hqp]
          exact hq.elim (e.conn q) (fun hh => absurd (k.conn q hh).1 hqp)

/-- a visit queues for its own peer only, and what it queues for that one has pairwise different protocols; `hf`:
    nothing was queued for `p` before -/
theorem Handled.distinct {s f : St} {p : Nat} {g : Peer → Peer} (h : Handled s p g f) (hf : sendsTo p s.out = [])
    (hd : ∀ q, Distinct (sendsTo q s.out)) :
    (∀ q, Distinct (sendsTo q f.out)) ∧ ∀ q, q ≠ p → sendsTo q f.out = sendsTo q s.out := by
  cases h with
  | untracked => exact ⟨hd, fun _ _ => rfl⟩
  | @visit f st st1 new hpe v k =>
    have hother : ∀ q, q ≠ p → sendsTo q f.out = sendsTo q s.out := by
      intro q hq
      rw [v.out, sendsTo_append, sendsTo_nil_of_nosend (fun m hm => hq (k.send q m hm).1), List.append_nil]
    refine ⟨fun q => ?_, hother⟩
    by_cases hqp : q = p
    · subst hqp; rw [v.out, sendsTo_append, hf]; exact k.dist
    · rw [hother q hqp]; exact hd q

/-- `ord.Nodup`: a peer visited twice would get its requests twice; `hf`: the peers still to come have nothing queued -/
theorem hkAll_distinct (ord : List Nat) {s f : St} (h : hkAll s ord = some f) (hnd : ord.Nodup)
    (hf : ∀ p, p ∈ ord → sendsTo p s.out = []) (hd : ∀ q, Distinct (sendsTo q s.out)) : ∀ q, Distinct (sendsTo q f.out) := by
  fun_induction hkAll s ord with
  | case1 s => cases h; exact hd
  | case2 s p ps h1 => cases h  -- the visit panics
  | case3 s p ps s1 h1 ih =>
    obtain ⟨hp, hps⟩ := List.nodup_cons.mp hnd
    obtain ⟨hd1, hother⟩ := (hkPeer_spec h1).distinct (hf p (List.mem_cons_self ..)) hd
    exact ih h hps (fun q hq => (hother q (fun e => hp (e ▸ hq))).trans (hf q (List.mem_cons_of_mem _ hq))) hd1

theorem housekeeping_pass {s f : St} {ord taken : List Nat} (h : housekeeping { s with out := [] } ord taken = some f) :
    ∃ s1, hkAll { s with out := [] } ord = some s1 ∧ Pass s s1 ∧ Grows s1 f := by
  obtain ⟨s1, h1, h2⟩ := housekeeping_spec h
  exact ⟨s1, h1, hkAll_preserves (fun _ hi h1 => (hkPeer_spec h1).pass ProtoEq.refl hi) ord
    (Pass.start (s := { s with out := [] }) rfl rfl) h1,
    moveDiscovered_grows h2⟩

/-- one handler run on an empty queue, in a state with the records of `s0` -/
theorem Handled.facts {s0 s f : St} {p : Nat} {g : Peer → Peer} (h : Handled s p g f) (hg : ∀ st, ProtoEq st (g st))
    (hp : s.peers = s0.peers) (ho : s.out = []) : CmdFacts s0 f :=
  (h.pass hg (Pass.start hp ho)).facts
    (h.distinct (by rw [ho]; rfl) (fun _ => by rw [ho]; exact List.Pairwise.nil)).1

/-- `hok` says `ord.Nodup` for the two housekeeping events and nothing for the others -/
theorem cmd_facts {s f : St} {e : Ev} (hc : isCommand e = true) (hok : (SStep.cmd e).ok) (h : step s e = some f) :
    CmdFacts s f := by
  unfold step at h
  cases e with
  | includePeer p =>
    dsimp only at h
    split at h
    · cases h; exact cmdFacts_quiet rfl rfl
    · rename_i ht
      exact (cmdFacts_quiet (s := s) (f := { s with out := [] }) rfl rfl).grows (onDiscovered_grows (Option.not_isSome_iff_eq_none.mp ht) h)
  | housekeeping ord taken | idle ord taken =>
    obtain ⟨s1, h1, e, g⟩ := housekeeping_pass h
    exact (e.facts (hkAll_distinct ord h1 hok (fun _ _ => rfl) (fun _ => List.Pairwise.nil))).grows g
  | startSync | requestBlocks r | sendTx | fetchEb p eb | fetchEbTxs p eb => cases h; exact cmdFacts_quiet rfl rfl
  | continueSync p | demotePeer p =>
    cases h
    exact (onTagged_handled _ p _).facts (fun _ => ⟨rfl, rfl, rfl, rfl, rfl, rfl, rfl, rfl⟩) rfl rfl
  | banPeer p =>
    cases h
    split <;> exact (onTagged_handled _ p _).facts (fun _ => ⟨rfl, rfl, rfl, rfl, rfl, rfl, rfl, rfl⟩) rfl rfl
  | connected p | disconnected p | recv p ms | sent p m | error p => cases hc

theorem connected_facts {s f : St} {p : Nat} (h : step s (.connected p) = some f) : CmdFacts s f := by
  cases h
  exact (onConnected_handled _ p).facts (fun _ => ⟨rfl, rfl, rfl, rfl, rfl, rfl, rfl, rfl⟩) rfl rfl

theorem error_facts {s f : St} {p : Nat} (h : step s (.error p) = some f) : CmdFacts s f :=
  (onErrored_handled h).facts (fun _ => ⟨rfl, rfl, rfl, rfl, rfl, rfl, rfl, rfl⟩) rfl rfl

/-- a delivered batch that the responder's table permits, message by message: the view follows the table, a
    peer-sharing state `Idle(Empty)` stays if no message of the batch is peer-sharing, other records are untouched -/
theorem inboundAll_recv (ms : List Msg) {s f : St} {p : Nat} {st : Peer} {v : Wire} (hp : s.peers p = some st)
    (ha : advServer (viewOf st) ms = some v) (h : inboundAll s p ms = some f) :
    (∃ st', f.peers p = some st' ∧ viewOf st' = v ∧
      (st.ps = .idle none → (∀ m, m ∈ ms → m.proto ≠ .ps) → st'.ps = .idle none)) ∧
    ∀ q, q ≠ p → f.peers q = s.peers q := by
  fun_induction inboundAll s p ms generalizing st with
  | case1 s => cases h; cases ha; exact ⟨⟨st, hp, rfl, fun hps _ => hps⟩, fun _ _ => rfl⟩
  | case2 s m ms h1 => cases h  -- `inboundMsg` panics
  | case3 s m ms s1 h1 ih =>
    obtain ⟨v1, hs, ha⟩ := advServer_cons.mp ha
    obtain ⟨hn, -⟩ | ⟨st0, st1, new, hp0, v1, k1⟩ := inboundMsg_spec h1
    · rw [hp] at hn; cases hn
    cases hp.symm.trans hp0
    have hv1 := k1.view
    have hp1 : s1.peers p = some st1 := by rw [v1.peers, setPeer_same]
    have hfr1 : ∀ q, q ≠ p → s1.peers q = s.peers q := fun q hq => by rw [v1.peers, setPeer_other _ _ hq]
    rw [applyMsg_view (Or.inr hs)] at hv1
    obtain ⟨⟨st', hst', hv', hps'⟩, hfr⟩ := ih hp1 (by rw [hv1]; exact ha) h
    refine ⟨⟨st', hst', hv', fun hps hne => ?_⟩, fun q hq => (hfr q hq).trans (hfr1 q hq)⟩
    exact hps' (k1.ps (by rw [applyMsg_ps_other (hne m (List.mem_cons_self ..))]; exact hps))
      (fun m' hm' => hne m' (List.mem_cons_of_mem _ hm'))

theorem step_sent (s : St) (p : Nat) (m : Msg) : step s (.sent p m) = some (outboundMsg { s with out := [] } p m) := rfl

theorem outboundMsg_peer {s : St} {p : Nat} {st : Peer} (m : Msg) (h : s.peers p = some st) :
    (outboundMsg s p m).peers p = some (st.applyMsg m) := by
  unfold outboundMsg; simp only [h, setPeer, if_true]

theorem outboundMsg_other (s : St) {p q : Nat} (m : Msg) (hq : q ≠ p) : (outboundMsg s p m).peers q = s.peers q := by
  unfold outboundMsg; split
  · rfl
  · simp only [setPeer, hq, if_false]

theorem outboundMsg_out (s : St) (p : Nat) (m : Msg) : (outboundMsg s p m).out = s.out := by
  unfold outboundMsg; split <;> rfl

theorem step_recv (s : St) (p : Nat) (ms : List Msg) : step s (.recv p ms) = inboundAll { s with out := [] } p ms := rfl
theorem step_disconnected (s : St) (p : Nat) :
    step s (.disconnected p) = some (onDisconnected { s with out := [] } p) := rfl

theorem onDisconnected_spec (s : St) (p : Nat) :
    (onDisconnected s p).out = s.out ∧ (∀ q, q ≠ p → (onDisconnected s p).peers q = s.peers q) ∧
      (∀ st, (onDisconnected s p).peers p = some st → viewOf st = {}) := by
  unfold onDisconnected
  split
  · rename_i hn
    exact ⟨rfl, fun _ _ => rfl, fun st hst => by rw [hn] at hst; cases hst⟩
  · rename_i st0 _
    refine ⟨rfl, fun q hq => by simp [setPeer, leiosfetchPurge, hq], ?_⟩
    intro st hst
    have : setPeer (leiosfetchPurge s p).peers p st0.reset p = some st := hst
    simp only [setPeer, if_true, Option.some.injEq] at this
    subst this; rfl

theorem step_emit_permitted {s s' : St} {e : Ev} (h : step s e = some s') :
    ∀ p m, Out.send p m ∈ s'.out → ∃ st, s.peers p = some st ∧ Permits st m := by
  intro p m hm
  have of_facts : CmdFacts s s' → ∃ st, s.peers p = some st ∧ Permits st m := by
    intro cf
    cases hp : s.peers p with
    | none => rw [← mem_sendsTo, cf.untracked p hp] at hm; cases hm
    | some st => exact ⟨st, rfl, (cf.chain p st hp).1 m (mem_sendsTo.mpr hm)⟩
  have nil : Out.send p m ∉ ({ s with out := [] } : St).out := fun hh => nomatch hh
  cases e with
  | housekeeping ord taken | idle ord taken =>
    -- any iteration order, repetitions included
    obtain ⟨s1, -, e, g⟩ := housekeeping_pass h
    exact e.send p m (g.out ▸ hm)
  | recv q ms =>
    exact absurd hm ((inboundAll_quiet ms h quiet_nil).1 p m)
  | sent q m' => cases h; exact absurd (outboundMsg_out _ q m' ▸ hm) nil
  | disconnected q => cases h; exact absurd ((onDisconnected_spec _ q).1 ▸ hm) nil
  | connected q => exact of_facts (connected_facts h)
  | error q => exact of_facts (error_facts h)
  | _ => exact of_facts (cmd_facts rfl (by trivial) h)

/-- the general schedule step that a lock-step step begins with -/
def SStep.toSched : SStep → Sched
  | .cmd e => .ev e
  | .connect p => .connect p
  | .reply p x k => .reply p x k
  | .deliver p n => .deliver p n
  | .drop p => .drop p
  | .fail p => .fail p

end PallasVerif.P2P
