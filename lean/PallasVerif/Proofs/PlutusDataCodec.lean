import PallasVerif.Model.PlutusData
import PallasVerif.Proofs.Cbor
import PallasVerif.Proofs.PlutusDataTags
/-!
  Codec lemmas for PlutusData (C07): 64-byte chunking, well-formedness of the emitted concrete
  syntax tree, decode ∘ encode, and what `normAny` leaves unchanged.
-/
namespace PallasVerif.PlutusData
open PallasVerif.Cbor

theorem u64Bound_eq : u64Bound = 2 ^ 64 := by decide

theorem chunksAux_nil (fuel n : Nat) : chunksAux fuel n [] = [] := by
  cases fuel <;> rfl

theorem chunksAux_cons (fuel n : Nat) (b : UInt8) (bs : Bytes) :
    chunksAux (fuel + 1) n (b :: bs) = (b :: bs).take n :: chunksAux fuel n ((b :: bs).drop n) := rfl

theorem chunksAux_join (n : Nat) (hn : 0 < n) : ∀ (fuel : Nat) (bs : Bytes), bs.length ≤ fuel →
    (chunksAux fuel n bs).flatten = bs
  | fuel, [], _ => by rw [chunksAux_nil]; rfl
  | fuel + 1, b :: bs, h => by
    rw [chunksAux_cons, List.flatten_cons,
      chunksAux_join n hn fuel _ (by simp only [List.length_drop, List.length_cons] at h ⊢; omega),
      List.take_append_drop]

theorem chunks_join (n : Nat) (hn : 0 < n) (bs : Bytes) : (chunks n bs).flatten = bs :=
  chunksAux_join n hn _ bs (Nat.le_refl _)

theorem chunksAux_sizes (n : Nat) (hn : 0 < n) : ∀ (fuel : Nat) (bs : Bytes),
    ∀ c ∈ chunksAux fuel n bs, 0 < c.length ∧ c.length ≤ n
  | fuel, [] => by rw [chunksAux_nil]; simp
  | 0, _ :: _ => by simp [chunksAux]
  | fuel + 1, b :: bs => by
    rw [chunksAux_cons]
    intro c hc
    rcases List.mem_cons.mp hc with rfl | hc
    · simp [List.length_take]; omega
    · exact chunksAux_sizes n hn fuel _ c hc

theorem chunks_sizes (n : Nat) (hn : 0 < n) (bs : Bytes) : ∀ c ∈ chunks n bs, 0 < c.length ∧ c.length ≤ n :=
  chunksAux_sizes n hn _ bs

/-- the shape `slice.chunks(n)` produces: full chunks, then at most one shorter non-empty one (for C07's
    `chunks_shape` only) -/
def fullThenRest (n : Nat) : List Bytes → Bool
  | [] => true
  | [c] => decide (0 < c.length) && decide (c.length ≤ n)
  | c :: c' :: cs => decide (c.length = n) && fullThenRest n (c' :: cs)

theorem chunksAux_full (n : Nat) (hn : 0 < n) : ∀ (fuel : Nat) (bs : Bytes), bs.length ≤ fuel →
    fullThenRest n (chunksAux fuel n bs) = true
  | fuel, [], _ => by rw [chunksAux_nil]; rfl
  | fuel + 1, b :: bs, h => by
    have hlen : ((b :: bs).drop n).length ≤ fuel := by
      simp only [List.length_drop, List.length_cons] at h ⊢; omega
    have ih := chunksAux_full n hn fuel _ hlen
    rw [chunksAux_cons]
    cases hd : (b :: bs).drop n with
    | nil =>
      -- the last chunk: non-empty, at most `n` bytes
      rw [chunksAux_nil]
      simp [fullThenRest, List.length_take]; omega
    | cons c cs =>
      -- a chunk with more behind it is full
      have hn' : n < (b :: bs).length := by
        have := congrArg List.length hd
        simp only [List.length_drop, List.length_cons] at this ⊢; omega
      rw [hd] at ih hlen
      obtain ⟨f, rfl⟩ : ∃ f, fuel = f + 1 := ⟨fuel - 1, by simp only [List.length_cons] at hlen; omega⟩
      rw [chunksAux_cons] at ih ⊢
      simp only [fullThenRest, Bool.and_eq_true, decide_eq_true_eq]
      exact ⟨by simp only [List.length_take]; omega, ih⟩

theorem chunksPayload_map (cs : List Bytes) :
    chunksPayload (cs.map fun c => (minHead 2 c.length, c)) = cs.flatten := by
  induction cs with
  | nil => rfl
  | cons c cs ih => simp [chunksPayload, ih]

theorem minHead_val_u64 (m n : Nat) (hn : n < u64Bound) : (minHead m n).val = n :=
  minHead_val m n (u64Bound_eq ▸ hn)

theorem chunksWf_map (cs : List Bytes) (h : ∀ c ∈ cs, c.length ≤ 64) :
    chunksWf 2 (cs.map fun c => (minHead 2 c.length, c)) = true := by
  induction cs with
  | nil => rfl
  | cons c cs ih =>
    have hc : c.length ≤ 64 := h c (by simp)
    simp only [List.map_cons, chunksWf, chunkWf, minHead_wf 2 _ (by decide), minHead_major,
      minHead_val 2 c.length (by omega), Bool.and_eq_true, decide_eq_true_eq]
    exact ⟨by simpa using minHead_ai_ne 2 c.length, ih fun c' hc' => h c' (by simp [hc'])⟩

theorem bbItem_wf (bs : Bytes) (h : bs.length < u64Bound) : (bbItem bs).wf = true := by
  unfold bbItem
  split
  · exact mkBytes_wf bs h
  · simp only [Item.wf, decide_true, Bool.true_or, Bool.true_and]
    exact chunksWf_map _ fun c hc => (chunks_sizes 64 (by decide) bs c hc).2

theorem bbItem_payload (bs : Bytes) : (bbItem bs).strPayload? 2 = some bs := by
  unfold bbItem
  split
  · simp [mkBytes, Item.strPayload?, minHead_major]
  · simp [Item.strPayload?, chunksPayload_map, chunks_join]

theorem arrItem_wf (df : Bool) (xs : List Item) (hl : xs.length < u64Bound) (hx : wfList xs = true) :
    (arrItem df xs).wf = true := by
  unfold arrItem
  split
  · exact mkArray_wf xs hl hx
  · simp [Item.wf, hx]

theorem bigItem_wf (b : BigInt) (h : b.fits = true) : (bigItem b).wf = true := by
  cases b with
  | int i => exact mkInt_wf i
  | bigU bs | bigN bs =>
    simp only [BigInt.fits, decide_eq_true_eq] at h
    exact mkTag_wf _ _ (bbItem_wf bs h)

theorem toItems_length : ∀ xs : List PData, (toItems xs).length = xs.length
  | [] => rfl
  | x :: xs => by simp [toItems, toItems_length xs]

theorem toFlat_length : ∀ xs : List (PData × PData), (toFlat xs).length = 2 * xs.length
  | [] => rfl
  | (k, v) :: xs => by simp [toFlat, toFlat_length xs]; omega

mutual
theorem toItem_wf : ∀ d : PData, fits d = true → (toItem d).wf = true
  | .constr t a df fs => by
    intro h
    simp only [fits, Bool.and_eq_true, decide_eq_true_eq] at h
    obtain ⟨⟨⟨ht, ha⟩, hl⟩, hfs⟩ := h
    have hf := arrItem_wf df (toItems fs) (by rw [toItems_length]; exact hl) (toItems_wf fs hfs)
    simp only [toItem]
    split
    · apply mkTag_wf _ _
      apply mkArray_wf _ (by simp)
      simp [wfList, mkUInt_wf _, hf]
    · exact mkTag_wf _ _ hf
  | .map df kvs => by
    intro h
    simp only [fits, Bool.and_eq_true, decide_eq_true_eq] at h
    simp only [toItem]
    split
    · simp [Item.wf, minHead_wf 5 _ (by decide), minHead_major, minHead_ai_ne, minHead_val_u64 5 _ h.1, seqCount,
        toFlat_length, toFlat_wf kvs h.2]
    · simp [Item.wf, toFlat_length, toFlat_wf kvs h.2]
  | .array df xs => by
    intro h
    simp only [fits, Bool.and_eq_true, decide_eq_true_eq] at h
    exact arrItem_wf df (toItems xs) (by rw [toItems_length]; exact h.1) (toItems_wf xs h.2)
  | .int b => by intro h; exact bigItem_wf b h
  | .bytes bs => by
    intro h
    simp only [fits, decide_eq_true_eq] at h
    exact bbItem_wf bs h
theorem toItems_wf : ∀ xs : List PData, fitsList xs = true → wfList (toItems xs) = true
  | [] => by simp [toItems, wfList]
  | x :: xs => by
    intro h
    simp only [fitsList, Bool.and_eq_true] at h
    simp [toItems, wfList, toItem_wf x h.1, toItems_wf xs h.2]
theorem toFlat_wf : ∀ xs : List (PData × PData), fitsKvs xs = true → wfList (toFlat xs) = true
  | [] => by simp [toFlat, wfList]
  | (k, v) :: xs => by
    intro h
    simp only [fitsKvs, Bool.and_eq_true] at h
    simp [toFlat, wfList, toItem_wf k h.1.1, toItem_wf v h.1.2, toFlat_wf xs h.2]
end

theorem ofItem_mkInt (i : Int) (h : -(u64Bound : Int) ≤ i ∧ i < (u64Bound : Int)) :
    ofItem (mkInt i) = some (.int (.int i)) := by
  unfold mkInt
  split
  · simp only [ofItem, minHead_major, minHead_val_u64 0 i.toNat (by omega)]
    simp; omega
  · simp only [ofItem, minHead_major, minHead_val_u64 1 (-1 - i).toNat (by omega)]
    simp; omega

theorem ofItem_bigItem (b : BigInt) (h : b.fits = true) : ofItem (bigItem b) = some (.int b) := by
  cases b with
  | int i =>
    simp only [BigInt.fits, Bool.and_eq_true, decide_eq_true_eq] at h
    exact ofItem_mkInt i h
  | bigU bs => simp [bigItem, mkTag, ofItem, minHead_val 6 2 (by decide), bbItem_payload]
  | bigN bs => simp [bigItem, mkTag, ofItem, minHead_val 6 3 (by decide), bbItem_payload]

theorem ofItem_bbItem (bs : Bytes) : ofItem (bbItem bs) = some (.bytes bs) := by
  unfold bbItem
  split
  · simp [mkBytes, ofItem, minHead_major]
  · simp [ofItem, chunksPayload_map, chunks_join]

theorem ofItem_arrItem (df : Bool) (xs : List Item) :
    ofItem (arrItem df xs) = (ofItems xs).map (.array df) := by
  cases df <;> simp [arrItem, mkArray, ofItem, minHead_major]

theorem ofItem_constr (t : Nat) (ht : t < u64Bound) (hc : isConstrTag t = true) (df : Bool) (xs : List Item) :
    ofItem (mkTag t (arrItem df xs)) = (ofItems xs).map (.constr t none df) := by
  have h4 := minHead_val_u64 6 t ht
  have h2 : t ≠ 2 := by rw [isConstrTag_iff] at hc; omega
  have h3 : t ≠ 3 := by rw [isConstrTag_iff] at hc; omega
  cases df <;> simp [mkTag, arrItem, mkArray, ofItem, h4, h2, h3, hc, minHead_major]

theorem ofItem_constr102 (n : Nat) (hn : n < u64Bound) (df : Bool) (xs : List Item) :
    ofItem (mkTag 102 (mkArray [mkUInt n, arrItem df xs])) = (ofItems xs).map (.constr 102 (some n) df) := by
  have h4 := minHead_val 6 102 (by decide)
  have u4 := minHead_val_u64 0 n hn
  have hc : isConstrTag 102 = false := by decide
  cases df <;>
    simp [mkTag, arrItem, mkArray, ofItem, h4, hc, minHead_major, mkUInt, Item.uint?, u4]

mutual
theorem ofItem_toItem : ∀ d : PData, fits d = true → wfTag d = true → ofItem (toItem d) = some (normAny d)
  | .constr t a df fs => by
    intro h hw
    simp only [fits, Bool.and_eq_true, decide_eq_true_eq] at h
    obtain ⟨⟨⟨ht, ha⟩, _⟩, hfs⟩ := h
    simp only [wfTag, Bool.and_eq_true] at hw
    have ih := ofItems_toItems fs hfs hw.2
    rcases (constrIndex_isSome t a).1 hw.1 with hc | ⟨rfl, ha'⟩
    · have h102 : t ≠ 102 := by rw [isConstrTag_iff] at hc; omega
      simp only [toItem, normAny, if_neg h102]
      rw [ofItem_constr t ht hc, ih]; simp
    · obtain ⟨n, rfl⟩ := Option.isSome_iff_exists.1 ha'
      simp only [toItem, normAny, if_true, Option.getD_some] at ha ⊢
      rw [ofItem_constr102 n ha, ih]; simp
  | .map df kvs => by
    intro h hw
    simp only [fits, Bool.and_eq_true, decide_eq_true_eq] at h
    simp only [wfTag] at hw
    have ih := ofPairs_toFlat kvs h.2 hw
    cases df <;> simp [toItem, normAny, ofItem, minHead_major, ih]
  | .array df xs => by
    intro h hw
    simp only [fits, Bool.and_eq_true, decide_eq_true_eq] at h
    simp only [wfTag] at hw
    simp only [toItem, normAny, ofItem_arrItem, ofItems_toItems xs h.2 hw]; simp
  | .int b => by intro h _; exact ofItem_bigItem b h
  | .bytes bs => by intro _ _; exact ofItem_bbItem bs
theorem ofItems_toItems : ∀ xs : List PData, fitsList xs = true → wfTagList xs = true →
    ofItems (toItems xs) = some (normAnyList xs)
  | [] => by simp [toItems, ofItems, normAnyList]
  | x :: xs => by
    intro h hw
    simp only [fitsList, wfTagList, Bool.and_eq_true] at h hw
    simp [toItems, ofItems, normAnyList, ofItem_toItem x h.1 hw.1, ofItems_toItems xs h.2 hw.2]
theorem ofPairs_toFlat : ∀ xs : List (PData × PData), fitsKvs xs = true → wfTagKvs xs = true →
    ofPairs (toFlat xs) = some (normAnyKvs xs)
  | [] => by simp [toFlat, ofPairs, normAnyKvs]
  | (k, v) :: xs => by
    intro h hw
    simp only [fitsKvs, wfTagKvs, Bool.and_eq_true] at h hw
    simp [toFlat, ofPairs, normAnyKvs, ofItem_toItem k h.1.1 hw.1.1, ofItem_toItem v h.1.2 hw.1.2,
      ofPairs_toFlat xs h.2 hw.2]
end

theorem decode_encode (d : PData) (r : Bytes) (h : fits d = true) (hw : wfTag d = true) :
    decode (encode d ++ r) = some (normAny d) := by
  unfold decode encode
  rw [parseItem_encode _ r (toItem_wf d h)]
  exact ofItem_toItem d h hw

mutual
theorem normAny_idem : ∀ d : PData, normAny (normAny d) = normAny d
  | .constr t a df fs => by
    simp only [normAny, normAnyList_idem fs]
    by_cases h : t = 102 <;> simp [h]
  | .map df kvs => by simp only [normAny, normAnyKvs_idem kvs]
  | .array df xs => by simp only [normAny, normAnyList_idem xs]
  | .int _ | .bytes _ => rfl
theorem normAnyList_idem : ∀ xs : List PData, normAnyList (normAnyList xs) = normAnyList xs
  | [] => rfl
  | x :: xs => by simp only [normAnyList, normAny_idem x, normAnyList_idem xs]
theorem normAnyKvs_idem : ∀ xs : List (PData × PData), normAnyKvs (normAnyKvs xs) = normAnyKvs xs
  | [] => rfl
  | (k, v) :: xs => by simp only [normAnyKvs, normAny_idem k, normAny_idem v, normAnyKvs_idem xs]
end

theorem normAnyKvs_length : ∀ xs : List (PData × PData), (normAnyKvs xs).length = xs.length
  | [] => rfl
  | (k, v) :: xs => by simp [normAnyKvs, normAnyKvs_length xs]

mutual
/-- `toItem` reads `any_constructor` beside tag 102 only, where `normAny` keeps it -/
theorem toItem_normAny : ∀ d : PData, toItem (normAny d) = toItem d
  | .constr t a df fs => by
    simp only [normAny, toItem, toItems_normAny_eq fs]
    by_cases h : t = 102 <;> simp [h]
  | .map df kvs => by simp only [normAny, toItem, toFlat_normAny_eq kvs, normAnyKvs_length]
  | .array df xs => by simp only [normAny, toItem, toItems_normAny_eq xs]
  | .int _ | .bytes _ => rfl
theorem toItems_normAny_eq : ∀ xs : List PData, toItems (normAnyList xs) = toItems xs
  | [] => rfl
  | x :: xs => by simp only [normAnyList, toItems, toItem_normAny x, toItems_normAny_eq xs]
theorem toFlat_normAny_eq : ∀ xs : List (PData × PData), toFlat (normAnyKvs xs) = toFlat xs
  | [] => rfl
  | (k, v) :: xs => by
    simp only [normAnyKvs, toFlat, toItem_normAny k, toItem_normAny v, toFlat_normAny_eq xs]
end

theorem toItems_normAny : ∀ xs : List PData, wfTagList xs = true → toItems (normAnyList xs) = toItems xs :=
  fun xs _ => toItems_normAny_eq xs
theorem toFlat_normAny : ∀ xs : List (PData × PData), wfTagKvs xs = true → toFlat (normAnyKvs xs) = toFlat xs :=
  fun xs _ => toFlat_normAny_eq xs

end PallasVerif.PlutusData
