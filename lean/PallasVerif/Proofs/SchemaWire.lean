import PallasVerif.Proofs.Schema
import PallasVerif.Proofs.SchemaLookup
/-!
  What the container encoders write and what the decoders read of it, before any contract; `Proofs/SchemaNodes.lean`
  (`Good`) and `Proofs/SchemaIso.lean` (`IsoOn`) both rest on it. Map entries and `BTreeMap` insertion, one step of the
  array layout of derived structs, the map layout through the assignments `resOf`, and the decoder on the `mk*` form
  its encoder produces for tuple, set, tagged struct and the three sums. For `vec`, `btmap`, `kvPairs`, `tagWrap`,
  `cborWrap`, `zeroOrOne` both halves unfold the decoder in place.
-/
namespace PallasVerif.Schema
open PallasVerif.Cbor

def isPair : Value → Bool
  | .list [_, _] => true
  | _ => false

/-- every element is an entry, so that `insertEntry` / `insertKV` take their pair branch -/
def allPairs : List Value → Bool
  | [] => true
  | x :: r => isPair x && allPairs r

theorem isPair_elim {x : Value} (h : isPair x = true) : ∃ k v, x = .list [k, v] := by
  unfold isPair at h
  split at h
  · exact ⟨_, _, rfl⟩
  · simp at h

theorem encPair_some {ek ev : Value → Option Item} {x : Value} {p : Item × Item} (h : encPair ek ev x = some p) :
    ∃ a b, x = .list [a, b] ∧ ek a = some p.1 ∧ ev b = some p.2 := by
  unfold encPair at h
  split at h
  · rename_i a b
    cases ha : ek a <;> cases hb : ev b <;> simp [ha, hb] at h
    subst h
    exact ⟨a, b, rfl, ha, hb⟩
  · cases h

theorem mapOpt_encPair_allPairs {ek ev} : ∀ kvs ps, mapOpt (encPair ek ev) kvs = some ps → allPairs kvs = true := by
  intro kvs ps he
  fun_induction mapOpt (encPair ek ev) kvs generalizing ps with
  | case1 => rfl
  | case2 x xs p ys h2 h1 ih =>
    obtain ⟨a, b, rfl, _⟩ := encPair_some h1
    simp [allPairs, isPair, ih ys h2]
  | case3 => cases he

theorem decPair_some {dk dv : Item → Option Value} {p : Item × Item} {w : Value} (h : decPair dk dv p = some w) :
    ∃ a b, dk p.1 = some a ∧ dv p.2 = some b ∧ w = .list [a, b] := by
  obtain ⟨x, y⟩ := p
  simp only [decPair] at h
  cases ha : dk x <;> cases hb : dv y <;> simp [ha, hb] at h
  exact ⟨_, _, rfl, rfl, h.symm⟩

theorem flatten_pairUp_even : ∀ (xs : List Item), xs.length % 2 = 0 → flattenPairs (pairUp xs) = xs
  | [], _ => rfl
  | [_], h => by simp at h
  | k :: v :: r, h => by
    simp only [List.length_cons] at h
    simp [pairUp, flattenPairs, flatten_pairUp_even r (by omega)]

theorem allPairs_append (a b : List Value) : allPairs (a ++ b) = (allPairs a && allPairs b) := by
  induction a with
  | nil => rfl
  | cons x r ih => simp [allPairs, ih, Bool.and_assoc]

theorem insertKV_append (k v : Value) : ∀ acc, allPairs acc = true →
    (∀ a, a ∈ acc → (keyOf a).lt k = true) → insertKV k v acc = acc ++ [.list [k, v]] := by
  intro acc
  induction acc with
  | nil => intro _ _; rfl
  | cons a rest ih =>
    intro hp hl
    simp only [allPairs, Bool.and_eq_true] at hp
    obtain ⟨k', v', rfl⟩ := isPair_elim hp.1
    have h1 : k'.lt k = true := by simpa [keyOf] using hl (.list [k', v']) (by simp)
    simp only [insertKV, h1, if_true, List.cons_append]
    rw [ih hp.2 (fun a ha => hl a (by simp [ha]))]

theorem strictSorted_iff (l : List Value) : strictSorted l = true ↔ l.Pairwise fun a b => a.lt b = true := by
  induction l with
  | nil => simp [strictSorted]
  | cons k r ih => simp [strictSorted, ih]

/-- the hypotheses speak of `acc ++ kvs`, which a step of the fold leaves as it is -/
theorem foldl_insert_sorted : ∀ kvs acc, allPairs (acc ++ kvs) = true →
    strictSorted ((acc ++ kvs).map keyOf) = true → kvs.foldl insertEntry acc = acc ++ kvs
  | [], acc, _, _ => by simp
  | x :: r, acc, hp, hs => by
    rw [List.append_cons] at hp hs ⊢
    have hp' := hp
    simp only [allPairs_append, allPairs, Bool.and_eq_true, Bool.and_true] at hp'
    obtain ⟨k, v, rfl⟩ := isPair_elim hp'.1.2
    have hlt := (List.pairwise_append.mp (List.pairwise_map.mp ((strictSorted_iff _).mp hs))).1
    have hins : insertEntry acc (.list [k, v]) = acc ++ [.list [k, v]] :=
      insertKV_append k v acc hp'.1.1 fun a ha => (List.pairwise_append.mp hlt).2.2 a ha (.list [k, v]) (by simp)
    rw [List.foldl_cons, hins]
    exact foldl_insert_sorted r _ hp hs

theorem foldl_insert_sorted_nil (kvs : List Value) (hp : allPairs kvs = true) (hs : strictSorted (kvs.map keyOf) = true) :
    kvs.foldl insertEntry [] = kvs := foldl_insert_sorted kvs [] hp hs

theorem decTuple_mkArray (d : Schema → Item → Option Value) (fs : List Schema) (xs : List Item) :
    decTuple d fs (mkArray xs) = (zipOpt d fs xs).map .list := by
  simp [decTuple, mkArray, minHead_major]

theorem decSet_mkTag (d : Item → Option Value) (a : Item) : decSet d (mkTag 258 a) = decVec d a := by
  have hv : (minHead 6 258).val = 258 := minHead_val 6 258 (by decide)
  simp [decSet, mkTag, typeOf, hv]

theorem unwrapTag_wrapTag (t : Option Nat) (x : Item) (ht : ∀ n, t = some n → n < 2 ^ 64) :
    unwrapTag t (wrapTag t x) = some x := by
  cases t with
  | none => rfl
  | some n =>
    have hv : (minHead 6 n).val = n := minHead_val 6 n (ht n rfl)
    simp [unwrapTag, wrapTag, mkTag, hv]

theorem decSumFixed_mkArray (d : Schema → Item → Option Value) (b : Nat) (vs : List (Nat × List Schema)) (n : Nat)
    (xs : List Item) (hn : n < 2 ^ 64) :
    decSumFixed d b vs (mkArray (mkUInt n :: xs)) =
      if n < 2 ^ b then
        match findVariant (n : Int) 0 vs with
        | some (pos, fs) => (zipOpt d fs xs).map (.variant pos)
        | none => none
      else none := by
  simp only [decSumFixed, mkArray, minHead_major, mkUInt_uint n hn, if_true]
  rfl

theorem decSumOther_mkArray (d : Schema → Item → Option Value) (b : Nat) (vs : List (Nat × List Schema)) (o : List Schema)
    (n : Nat) (xs : List Item) (hn : n < 2 ^ 64) :
    decSumOther d b vs o (mkArray (mkUInt n :: xs)) =
      if n < 2 ^ b then
        match findVariant (n : Int) 0 vs with
        | some (pos, fs) => (zipOpt d fs xs).map (.variant pos)
        | none => (zipOpt d o xs).map (fun ws => .variant vs.length (.nat n :: ws))
      else none := by
  simp only [decSumOther, mkArray, minHead_major, mkUInt_uint n hn, if_true]
  rfl

/-- on a listed variant number the two sums decode alike (`encSumOther` writes a listed variant with `encSumFixed`) -/
theorem decSumOther_of_decSumFixed {d : Schema → Item → Option Value} {b : Nat} {vs : List (Nat × List Schema)}
    (o : List Schema) {it : Item} {v : Value} : decSumFixed d b vs it = some v → decSumOther d b vs o it = some v := by
  fun_cases decSumFixed d b vs it with
  | case1 h x xs hm n hx hn pos fs hf => simp [decSumOther, hm, hx, hn, hf] -- `n` is found in `vs`
  | _ => nofun

theorem decEnumFlat_mkArray (d : Schema → Item → Option Value) (vs : List (Nat × List (Nat × Schema))) (n : Nat)
    (xs : List Item) (hn : n < 2 ^ 64) :
    decEnumFlat d vs (mkArray (mkUInt n :: xs)) =
      if intInBits 64 (n : Int) then
        match findVariant (n : Int) 0 vs with
        | some (pos, fs) => if fs.isEmpty && !xs.isEmpty then none else (decArr d 0 fs xs).map (.variant pos)
        | none => none
      else none := by
  simp only [decEnumFlat, mkArray, minHead_major, mkUInt_int n hn, if_true]
  rfl

theorem isNilField_elim {s : Schema} {v : Value} (h : isNilField s v = true) : s.isOpt = true ∧ v = .none := by
  simp only [isNilField, Bool.and_eq_true] at h
  refine ⟨h.1, ?_⟩
  have := h.2
  cases v <;> simp at this
  rfl

theorem isNilField_strip (s : Schema) (v : Value) : isNilField s v.strip = isNilField s v := by
  cases v <;> simp [isNilField, Value.strip]

theorem wfList_replicate_null (n : Nat) : wfList (List.replicate n mkNull) = true := by
  induction n with
  | zero => rfl
  | succ n ih => simp [List.replicate, wfList, ih, mkNull_wf]

theorem utf8Ok_replicate_null (n : Nat) : utf8OkList (List.replicate n mkNull) = true := by
  induction n with
  | zero => rfl
  | succ n ih =>
    have h1 : itemUtf8Ok mkNull = true := by simp [itemUtf8Ok, mkNull]
    simp only [List.replicate_succ, utf8OkList, h1, ih, Bool.and_self]

/-- a field with index `idx` met at position `pos` is preceded by `idx - pos` nulls -/
theorem decArr_gap (d : Schema → Item → Option Value) (pos idx : Nat) (s : Schema) (fs : List (Nat × Schema))
    (it : Item) (rest : List Item) :
    decArr d pos ((idx, s) :: fs) (List.replicate (idx - pos) mkNull ++ it :: rest) =
      (d s it).bind fun v => (decArr d (idx + 1) fs rest).map (v :: ·) := by
  simp only [decArr, List.drop_left' List.length_replicate, List.take_left' List.length_replicate,
    utf8Ok_replicate_null, if_true]
  cases d s it <;> cases decArr d (idx + 1) fs rest <;> rfl

theorem encArr_gap (e : Schema → Value → Option Item) (trunc : Bool) (pos idx : Nat) (s : Schema) (fs : List (Nat × Schema))
    (v : Value) (vs : List Value) (hn : (trunc && allNil ((idx, s) :: fs) (v :: vs)) = false) (hle : pos ≤ idx) :
    encArr e trunc pos ((idx, s) :: fs) (v :: vs) =
      (e s v).bind fun it => (encArr e trunc (idx + 1) fs vs).map (List.replicate (idx - pos) mkNull ++ it :: ·) := by
  have hlt : ¬ idx < pos := by omega
  simp only [encArr, hn, Bool.false_eq_true, if_false, hlt]
  cases e s v <;> cases encArr e trunc (idx + 1) fs vs <;> rfl

theorem decArr_nil_inv {d : Schema → Item → Option Value} {pos : Nat} {xs : List Item} {vs : List Value}
    (h : decArr d pos [] xs = some vs) : vs = [] := by
  simp only [decArr] at h
  split at h
  · simp only [Option.some.injEq] at h; exact h.symm
  · simp at h

theorem decArr_allNil (d : Schema → Item → Option Value) (fs : List (Nat × Schema)) (vs : List Value) (pos : Nat)
    (h : allNil fs vs = true) : decArr d pos fs [] = some vs ∧ stripList vs = vs := by
  fun_induction allNil fs vs generalizing pos with
  | case1 => exact ⟨rfl, rfl⟩
  | case2 idx s fs v vs ih =>
    simp only [Bool.and_eq_true] at h
    obtain ⟨ho, rfl⟩ := isNilField_elim h.1
    obtain ⟨d1, s1⟩ := ih (idx + 1) h.2
    exact ⟨by simp [decArr, ho, d1, utf8OkList], by simp [stripList, Value.strip, s1]⟩
  | case3 => cases h

/-- one `(index, value)` per non-nil field: the assignments `decMapEntries` returns for what `encMapFields` wrote
    (`encMapFields_good`, `encMapFields_iso`, which need the parts' contracts); here only what `collectFields` makes of them -/
def resOf : List (Nat × Schema) → List Value → List (Nat × Value)
  | (idx, s) :: fs, v :: vs => if isNilField s v then resOf fs vs else (idx, v) :: resOf fs vs
  | _, _ => []

theorem decMapEntries_key (d : Schema → Item → Option Value) (FS : List (Nat × Schema)) {idx : Nat} {s : Schema}
    (hf : findField (idx : Int) FS = some (idx, s)) (hidx : idx < 2 ^ 63) (v : Item) (es : List (Item × Item)) :
    decMapEntries d FS ((mkUInt idx, v) :: es) = (d s v).bind fun x => (decMapEntries d FS es).map ((idx, x) :: ·) := by
  simp only [decMapEntries, mkUInt_int idx (by omega), intInBits_nat idx hidx, if_true, hf]
  cases d s v <;> cases decMapEntries d FS es <;> rfl

theorem collectFields_cons_other (k : Nat) (v : Value) (res : List (Nat × Value)) :
    ∀ (fs : List (Nat × Schema)), (∀ p, p ∈ fs → k ≠ p.1) → collectFields ((k, v) :: res) fs = collectFields res fs := by
  intro fs
  induction fs with
  | nil => intro _; rfl
  | cons q fs ih =>
    intro h
    have hne : ¬ k = q.1 := h q (by simp)
    simp only [collectFields, lookupLast, hne, if_false, ih (fun p hp => h p (by simp [hp]))]
    cases lookupLast q.1 res <;> rfl

theorem lookupLast_resOf_none (fs : List (Nat × Schema)) (vs : List Value) (k lo : Nat)
    (hi : increasingFrom lo fs = true) (hk : k < lo) : lookupLast k (resOf fs vs) = none := by
  fun_induction resOf fs vs generalizing lo with
  | case1 idx s fs v vs _ ih => -- a nil field: no assignment
    rw [increasingFrom_cons] at hi
    exact ih (idx + 1) hi.2.2 (by omega)
  | case2 idx s fs v vs _ ih => -- the assignment `(idx, v)`
    rw [increasingFrom_cons] at hi
    have hne : ¬ idx = k := by omega
    simp [lookupLast, ih (idx + 1) hi.2.2 (by omega), hne]
  | case3 => rfl

theorem collectFields_resOf : ∀ (fs : List (Nat × Schema)) lo vs, increasingFrom lo fs = true →
    vs.length = fs.length → collectFields (resOf fs vs) fs = some vs := by
  intro fs
  induction fs with
  | nil =>
    intro lo vs _ hl
    cases vs with
    | nil => rfl
    | cons _ _ => simp at hl
  | cons q fs ih =>
    intro lo vs hi hl
    obtain ⟨idx, s⟩ := q
    rw [increasingFrom_cons] at hi
    cases vs with
    | nil => simp at hl
    | cons v vs =>
      simp only [List.length_cons, Nat.add_right_cancel_iff] at hl
      have hR := lookupLast_resOf_none fs vs idx (idx + 1) hi.2.2 (by omega)
      have hc := ih (idx + 1) vs hi.2.2 hl
      simp only [resOf]
      split
      · rename_i hn
        obtain ⟨ho, rfl⟩ := isNilField_elim hn
        simp [collectFields, hR, hc, ho]
      · have hlt : ∀ p, p ∈ fs → idx ≠ p.1 := fun p hp => by
          have := ((increasingFrom_pairwise fs (idx + 1) hi.2.2).1 p hp).1
          omega
        simp [collectFields, lookupLast, hR, collectFields_cons_other idx v _ fs hlt, hc]

end PallasVerif.Schema
