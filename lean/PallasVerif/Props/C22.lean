import PallasVerif.Proofs.NetMsg
import PallasVerif.Proofs.NetSkipFull
import PallasVerif.Gen.MsgLabels
/-!
# C22 — Mini-protocol messages round-trip as single well-formed CBOR items

For every mini-protocol message type of both network stacks (`Model/NetMsg.lean`: encoder = the
tree of `minicbor::Encoder` calls with the code's own labels and declared lengths, decoder = the
hand-written decoder transcribed on a byte-level model of `minicbor::Decoder`) and **every**
representable message value `m` (unbounded lists, byte strings and payloads; `valid` = the ranges
of the Rust field types + the representable field combinations of the property):

* `Good`: the encoder succeeds with a tree `e` such that
  - every declared container length equals the number of items that follow (`e.lensOk`),
  - the bytes are exactly one well-formed data item for the strict generic parser
    (`isSingleItem e.encode`, i.e. `parseItem` consumes them completely), and
  - the decoder reads the bytes back to `m` itself.

**Partial**: the local-tx-submission reject reason is an opaque item here; the type pallas really
uses (`TxValidationError`) is not modelled and its *encoders* in pallas violate the property
(`localtxsubmission_partial`, `txvalidationerror_reencoding_not_an_item`, known findings).

Opaque `AnyCbor` payloads (local-state query/result, opaque reject reasons, Leios bodies / votes /
transactions) are arbitrary byte strings accepted by `okAny`: exactly one well-formed item
(`isSingleItem`) whose text strings are UTF-8. `Decoder::skip` (the counting / stack loop of
minicbor, which `AnyCbor::decode` relies on) is proved to go over exactly such an item, indefinite
arrays and maps at any depth included (`Proofs/NetSkipFull.lean`, `skip_exact`). The UTF-8 clause is
not an artefact: `skip` validates text, so an `AnyCbor` holding a text string that is not UTF-8 can
be encoded but not decoded back (`anycbor_invalid_utf8_is_rejected`).

`Gen/MsgLabels.lean` is regenerated from the Rust sources on every run (label and declared arity of
every `e.array(n)?.u16(k)?` arm of both stacks); `labels_match_sources` compares it with the labels
and arities of this model by `decide`.
-/
namespace PallasVerif.Props.C22
open PallasVerif.Cbor PallasVerif.NetCodec PallasVerif.NetMsg

/-- the property for one message value -/
def Good {α : Type} (enc : α → Option E) (dec : Dec α) (a : α) : Prop :=
  ∃ e, enc a = some e ∧ e.lensOk = true ∧ isSingleItem e.encode = true ∧ dec e.encode = .ok a []

theorem good_of_specO {α : Type} {enc : α → Option E} {dec : Dec α} {a : α} (h : SpecO enc dec a) : Good enc dec a := by
  obtain ⟨e, he, hok, hdec⟩ := h
  exact ⟨e, he, E.lensOk_of_ok e hok, E.single e hok, by simpa using hdec []⟩

theorem good_of_spec {α : Type} {enc : α → E} {dec : Dec α} {a : α} (h : Spec enc dec a) : Good (fun x => some (enc x)) dec a :=
  good_of_specO ⟨_, rfl, h⟩

/-- opaque payloads the theorems cover: any one well-formed item with UTF-8 text, shorter than `2^62` bytes
    (`skip_exact_of_utf8Ok` needs only `2^64`) -/
def okAny (bs : Bytes) : Bool := isSingleItem bs && utf8Ok (leafItem bs) && decide (bs.length < 2 ^ 62)

theorem okAny_ok : AnyOk okAny := by
  intro bs h
  simp only [okAny, Bool.and_eq_true, decide_eq_true_eq] at h
  obtain ⟨⟨h1, h2⟩, h3⟩ := h
  refine ⟨h1, ?_⟩
  obtain ⟨w, e⟩ := leafItem_spec bs h1
  rw [e] at h3 ⊢
  exact skip_exact _ w h2 h3

/-! ## the property, per message type (both stacks share the codecs; `portMax` is the only difference) -/

theorem handshake_n2n (m : Handshake.Msg N2NData) (h : m.valid N2NData.valid = true) :
    Good (fun m => some (Handshake.Msg.enc N2NData.enc m)) (Handshake.Msg.dec N2NData.dec) m :=
  good_of_spec (Handshake.Msg.spec _ _ _ N2NData.spec m h)

theorem handshake_n2c (m : Handshake.Msg N2CData) (h : m.valid N2CData.valid = true) :
    Good (fun m => some (Handshake.Msg.enc N2CData.enc m)) (Handshake.Msg.dec N2CData.dec) m :=
  good_of_spec (Handshake.Msg.spec _ _ _ N2CData.spec m h)

theorem chainsync_headers (m : ChainSync.Msg HeaderContent) (h : m.valid HeaderContent.valid = true) :
    Good (ChainSync.Msg.enc HeaderContent.enc) (ChainSync.Msg.dec HeaderContent.dec) m :=
  good_of_specO (ChainSync.Msg.spec _ _ _ HeaderContent.spec m h)

theorem chainsync_blocks (m : ChainSync.Msg Bytes) (h : m.valid (fun b => lt64 b.length) = true) :
    Good (ChainSync.Msg.enc blockContentEnc) (ChainSync.Msg.dec blockContentDec) m :=
  good_of_specO (ChainSync.Msg.spec _ _ _ blockContent_spec m h)

theorem chainsync_skipped (m : ChainSync.Msg Unit) (h : m.valid (fun _ => true) = true) :
    Good (ChainSync.Msg.enc skippedEnc) (ChainSync.Msg.dec skippedDec) m :=
  good_of_specO (ChainSync.Msg.spec _ _ _ (fun u _ => skipped_spec u) m h)

theorem blockfetch (m : BlockFetch.Msg) (h : m.valid = true) :
    Good (fun m => some (BlockFetch.Msg.enc m)) BlockFetch.Msg.dec m :=
  good_of_spec (BlockFetch.Msg.spec m h)

theorem txsubmission (m : TxSubmission.Msg) (h : m.valid = true) :
    Good (fun m => some (TxSubmission.Msg.enc m)) TxSubmission.Msg.dec m :=
  good_of_spec (TxSubmission.Msg.spec m h)

theorem keepalive (m : KeepAlive.Msg) (h : m.valid = true) :
    Good (fun m => some (KeepAlive.Msg.enc m)) KeepAlive.Msg.dec m :=
  good_of_spec (KeepAlive.Msg.spec m h)

/-- pallas-network: `Port = u32` -/
theorem peersharing_n1 (m : PeerSharing.Msg) (h : m.valid U32MAX = true) :
    Good (fun m => some (PeerSharing.Msg.enc m)) (PeerSharing.Msg.dec U32MAX) m :=
  good_of_spec (PeerSharing.Msg.spec U32MAX (by decide) m h)

/-- pallas-network2: `Port = u16` -/
theorem peersharing_n2 (m : PeerSharing.Msg) (h : m.valid U16MAX = true) :
    Good (fun m => some (PeerSharing.Msg.enc m)) (PeerSharing.Msg.dec U16MAX) m :=
  good_of_spec (PeerSharing.Msg.spec U16MAX (by decide) m h)

theorem txmonitor (m : TxMonitor.Msg) (h : m.valid = true) :
    Good (fun m => some (TxMonitor.Msg.enc m)) TxMonitor.Msg.dec m :=
  good_of_spec (TxMonitor.Msg.spec m h)

theorem localstate (m : LocalState.Msg) (h : m.valid okAny = true) :
    Good (fun m => some (LocalState.Msg.enc m)) LocalState.Msg.dec m :=
  good_of_spec (LocalState.Msg.spec okAny okAny_ok m h)

/-- **full statement for local-tx-submission**: the envelope `Message<Tx, Reject>` is `Good` for every
    transaction / reject codec that is itself a faithful pair (`Spec`). -/
def FullStatement_localtxsubmission (Tx Rej : Type) (encTx : Tx → E) (decTx : Dec Tx) (vTx : Tx → Bool)
    (encRej : Rej → E) (decRej : Dec Rej) (vRej : Rej → Bool) (ofString : Bytes → Rej) : Prop :=
  ∀ m : LocalTx.Msg Tx Rej, m.valid vTx vRej = true →
    Good (fun m => some (LocalTx.Msg.enc encTx encRej m)) (LocalTx.Msg.dec decTx decRej ofString) m

theorem localtxsubmission_envelope {Tx Rej : Type} (encTx : Tx → E) (decTx : Dec Tx) (vTx : Tx → Bool)
    (encRej : Rej → E) (decRej : Dec Rej) (vRej : Rej → Bool) (ofString : Bytes → Rej)
    (hTx : ∀ t, vTx t = true → Spec encTx decTx t) (hRej : ∀ x, vRej x = true → Spec encRej decRej x) :
    FullStatement_localtxsubmission Tx Rej encTx decTx vTx encRej decRej vRej ofString :=
  fun m h => good_of_spec (LocalTx.Msg.spec _ _ _ _ _ _ _ hTx hRej m h)

/-- node-to-client instance, **partial**: the reject reason is an opaque well-formed item. For the
    reject type pallas really uses (`TxValidationError`, not modelled) the hypothesis `hRej` of
    `localtxsubmission_envelope` is *false* for pallas' encoders — see the witness below and
    known_findings.d/C22.json (`C22-txvalidationerror-*`). -/
theorem localtxsubmission_partial (m : LocalTx.Msg EraTx OpaqueReject) (h : m.valid EraTx.valid (OpaqueReject.valid okAny) = true) :
    Good (fun m => some (LocalTx.Msg.enc EraTx.enc OpaqueReject.enc m)) (LocalTx.Msg.dec EraTx.dec OpaqueReject.dec .text) m :=
  localtxsubmission_envelope _ _ _ _ _ _ _ EraTx.spec (OpaqueReject.spec okAny okAny_ok) m h

/-- witness (reject reason 51 of the repo's tests, decoded and re-encoded by pallas as
    `Message<EraTx, TxValidationError>`): an inner encoder declares `array(2)` + label 2 where the
    decoder reads `array(3)` + label 3 with two fields — the bytes are not one CBOR item. -/
theorem txvalidationerror_reencoding_not_an_item :
    isSingleItem [0x82, 0x02, 0x81, 0x82, 0x06, 0x82, 0x82, 0x07, 0x61, 0x3c, 0x82, 0x02, 0x82, 0x01, 0x82, 0x02,
      0x82, 0x02, 0x1a, 0x00, 0x07, 0xaf, 0x38, 0x1a, 0x00, 0x06, 0x28, 0x0e] = false := by decide

/-- DMQ local message submission = the same envelope over `DmqMsg` / `DmqMsgValidationError` -/
theorem localmsgsubmission (m : LocalTx.Msg DmqMsg DmqReject) (h : m.valid DmqMsg.valid DmqReject.valid = true) :
    Good (fun m => some (LocalTx.Msg.enc DmqMsg.enc DmqReject.enc m)) (LocalTx.Msg.dec DmqMsg.dec DmqReject.dec .other) m :=
  localtxsubmission_envelope _ _ _ _ _ _ _ DmqMsg.spec DmqReject.spec m h

theorem localmsgnotification (m : LocalMsgNotification.Msg) (h : m.valid = true) :
    Good (fun m => some (LocalMsgNotification.Msg.enc m)) LocalMsgNotification.Msg.dec m :=
  good_of_spec (LocalMsgNotification.Msg.spec m h)

theorem leiosnotify (m : LeiosNotify.Msg) (h : m.valid okAny = true) :
    Good (fun m => some (LeiosNotify.Msg.enc m)) LeiosNotify.Msg.dec m :=
  good_of_spec (LeiosNotify.Msg.spec okAny okAny_ok m h)

theorem leiosfetch (m : LeiosFetch.Msg) (h : m.valid okAny = true) :
    Good (fun m => some (LeiosFetch.Msg.enc m)) LeiosFetch.Msg.dec m :=
  good_of_spec (LeiosFetch.Msg.spec okAny okAny_ok m h)

/-- whatever a message is, the strict parser sees every container exactly as long as the encoder
    declared it -/
theorem declared_len_matches {α : Type} (enc : α → Option E) (dec : Dec α) (a : α) (h : Good enc dec a) :
    ∃ e, enc a = some e ∧ e.lensOk = true ∧ ∃ i : Item, i.wf = true ∧ e.encode = i.encode := by
  obtain ⟨e, he, hl, hs, _⟩ := h
  exact ⟨e, he, hl, (isSingleItem_iff _).mp hs⟩

/-- a payload that is a well-formed item but holds a non-UTF-8 text string: `skip` (hence
    `AnyCbor::decode`) rejects it, so it cannot round-trip — the reason for the UTF-8 clause of `okAny` -/
theorem anycbor_invalid_utf8_is_rejected : isSingleItem [0x61, 0xff] = true ∧ anyCbor [0x61, 0xff] = .err := by decide

/-! ## a declared length that does not match the items is not an item: witnesses -/

/-- `PeerAddress::V6` written with `array(8)` declared for its six items: not an item for a strict parser -/
theorem v6_array8_is_not_an_item :
    isSingleItem [0x88, 0x01, 0x1a, 0x20, 0x01, 0x0d, 0xb8, 0x00, 0x00, 0x01, 0x19, 0x0b, 0xb9] = false := by decide

/-- the same address as `PeerAddress::encode` writes it, with `array(6)` -/
theorem v6_array6_is_an_item :
    (PeerAddress.enc (.v6 0x20010db8000000000000000000000001 3001)).encode =
      [0x86, 0x01, 0x1a, 0x20, 0x01, 0x0d, 0xb8, 0x00, 0x00, 0x01, 0x19, 0x0b, 0xb9] := by decide

/-- `ReplyMessagesBlocking` written with `array(3)` declared for label + list -/
theorem replyBlocking_array3_is_not_an_item : isSingleItem [0x83, 0x02, 0x9f, 0xff] = false := by decide

/-! ## tx-monitor `ResponseNextTx(None)` does not depend on what follows the message

The decoder decides between `None` and `Some` by the declared array length, not by peeking at the
item after the label, so `[6]` followed by another message reads back as `None` whatever follows
(finding `C21-txmonitor-next-tx-lookahead`). -/

theorem txmonitor_none_independent_of_what_follows (r : Bytes) :
    TxMonitor.Msg.dec ((TxMonitor.Msg.enc (.responseNextTx none)).encode ++ r) = .ok (.responseNextTx none) r :=
  (TxMonitor.Msg.spec (.responseNextTx none) rfl).2 r

/-- local-tx-submission: an empty or truncated buffer is "need more bytes", not an empty rejection -/
theorem localtx_empty_input_is_eoi : LocalTx.Msg.dec EraTx.dec OpaqueReject.dec OpaqueReject.text [] = .eoi := by decide

/-! ## the labels and declared arities of this model are those extracted from the Rust sources (DESIGN §2.2, tie A) -/

/-- (label, declared arity) of the outer array of an encoding -/
def labelArity : E → Option (Nat × Nat)
  | .arr n (.uint k :: _) => some (k, n)
  | _ => none

/-- (label, arity) of each listed message under `enc`; `laO` for encoders that can fail -/
def la {α : Type} (enc : α → E) (ms : List α) : List (Nat × Nat) := ms.filterMap fun m => labelArity (enc m)
def laO {α : Type} (enc : α → Option E) (ms : List α) : List (Nat × Nat) := ms.filterMap fun m => (enc m).bind labelArity

/-- a point and a tip to fill the arms that carry one -/
def pO : Point := .origin
def tO : Tip := ⟨.origin, 0⟩

/-- one representative per encoder arm, in source order of the `match` -/
def modelTable : List (String × List (Nat × Nat)) := [
  ("blockfetch", la BlockFetch.Msg.enc [.requestRange pO pO, .clientDone, .startBatch, .noBlocks, .block [], .batchDone]),
  ("chainsync", laO (ChainSync.Msg.enc blockContentEnc)
      [.requestNext, .awaitReply, .rollForward [] tO, .rollBackward pO tO, .findIntersect [], .intersectFound pO tO, .intersectNotFound tO, .done]),
  ("handshake", la (Handshake.Msg.enc N2CData.enc) [.propose [], .accept 0 ⟨0, none⟩, .refuse (.refused 0 []), .queryReply []]),
  ("refusereason", la RefuseReason.enc [.versionMismatch [], .handshakeDecodeError 0 [], .refused 0 []]),
  ("keepalive", la KeepAlive.Msg.enc [.keepAlive 0, .responseKeepAlive 0, .done]),
  ("peeraddress", la PeerAddress.enc [.v4 0 0, .v6 0 0]),
  ("peersharing", la PeerSharing.Msg.enc [.shareRequest 0, .sharePeers [], .done]),
  ("txsubmission", la TxSubmission.Msg.enc [.init, .requestTxIds false 0 0, .replyTxIds [], .requestTxs [], .replyTxs [], .done]),
  ("txmonitor", la TxMonitor.Msg.enc [.done, .acquire, .acquired 0, .release, .awaitAcquire, .requestNextTx, .responseNextTx none,
      .responseNextTx (some (0, [])), .requestHasTx [], .responseHasTx false, .requestSizeAndCapacity, .responseSizeAndCapacity 0 0 0]),
  ("localstate", la LocalState.Msg.enc [.acquire (some pO), .acquire none, .acquired, .failure .pointTooOld, .query [], .result [],
      .reAcquire (some pO), .reAcquire none, .release, .done]),
  ("localtxsubmission", la (LocalTx.Msg.enc EraTx.enc OpaqueReject.enc) [.submitTx ⟨0, []⟩, .acceptTx, .rejectTx (.cbor []), .done]),
  ("localmsgnotification", la LocalMsgNotification.Msg.enc [.requestNonBlocking, .replyNonBlocking [] false, .requestBlocking, .replyBlocking [], .clientDone]),
  ("dmqrejectreason", la DmqReject.enc [.invalid [], .alreadyReceived, .expired, .other []]),
  ("leiosnotify", la LeiosNotify.Msg.enc [.requestNext, .blockAnnouncement [], .blockOffer pO 0, .blockTxsOffer pO, .votes [], .done]),
  ("leiosfetch", la LeiosFetch.Msg.enc [.blockRequest pO, .block [], .blockTxsRequest pO [], .blockTxs pO [] [], .done])]

def lookup (name : String) (t : List (String × List (Nat × Nat))) : Option (List (Nat × Nat)) :=
  (t.find? (·.1 = name)).map (·.2)

/-- every extracted encoder (both crates) has the labels and declared arities of the model -/
def tablesAgree : Bool :=
  Gen.MsgLabels.extracted.all fun row => lookup row.2.1 modelTable == some row.2.2

theorem labels_match_sources : tablesAgree = true := by decide

/-- the translator classified every `e.array(..)` arm it found in the codec files -/
theorem translator_no_unknowns : Gen.MsgLabels.unknowns = [] := by decide

/-- and it found all the encoders the model covers (fail closed on a missing file / renamed enum) -/
theorem translator_found_all : Gen.MsgLabels.extracted.length = Gen.MsgLabels.expectedEncoders := by decide

/-! ## non-vacuity: the hypotheses have non-trivial inhabitants -/

example : (ChainSync.Msg.rollForward (⟨0, some (1, 2), [0x82, 0x01]⟩ : HeaderContent) ⟨.specific 7 [0xaa, 0xbb], 3⟩).valid HeaderContent.valid = true := by decide
example : (ChainSync.Msg.findIntersect [.origin, .specific 18446744073709551615 [1, 2, 3]] : ChainSync.Msg Bytes).valid (fun b => lt64 b.length) = true := by decide
example : (Handshake.Msg.propose [(7, (⟨764824073, true, none, none⟩ : N2NData)), (13, ⟨764824073, false, some 1, some false⟩)]).valid N2NData.valid = true := by decide
example : (Handshake.Msg.refuse (.refused 13 [0xce, 0xbb]) : Handshake.Msg N2CData).valid N2CData.valid = true := by decide
example : (PeerSharing.Msg.sharePeers [.v6 0x20010db8000000000000000000000001 3001, .v4 0x7f000001 65535]).valid U16MAX = true := by decide
example : (TxSubmission.Msg.replyTxIds [⟨⟨6, [1, 2, 3]⟩, 4294967295⟩]).valid = true := by decide
example : (LocalState.Msg.query [0x82, 0x00, 0x81, 0x18, 0x2a]).valid okAny = true := by decide
/-- indefinite containers nested in definite ones and vice versa, indefinite strings, tags -/
example : (LocalState.Msg.result [0x9f, 0x82, 0x01, 0x9f, 0xff, 0xbf, 0x61, 0x61, 0x5f, 0x41, 0x00, 0xff, 0xff, 0xc1, 0x83, 0x9f, 0xff, 0x01, 0x02, 0xff]).valid okAny = true := by decide
example : (LeiosFetch.Msg.blockTxs (.specific 5 [9]) [(0, 18446744073709551615), (3, 1)] [[0xa1, 0x01, 0x61, 0x61], [0xd8, 0x18, 0x41, 0x00]]).valid okAny = true := by decide
example : (LocalMsgNotification.Msg.replyBlocking [⟨[1], ⟨[2], 3, 4⟩, [5], ⟨[6], 7, 8, [9]⟩, [10]⟩]).valid = true := by decide
/-- an unrepresentable combination is excluded, not silently accepted -/
example : (⟨1, true, some 1, none⟩ : N2NData).valid = false := by decide

end PallasVerif.Props.C22
