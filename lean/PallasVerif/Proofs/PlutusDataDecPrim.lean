import PallasVerif.Model.PlutusDataDec
import PallasVerif.Proofs.PlutusDataDecGraph
/-!
  The minicbor primitives the PlutusData decoder calls (`Model/PlutusDataDec.lean`), in terms of the
  strict parser's `decodeHead`: each read is one unconditional equation (`…_eq`, as `parse_atom` … `parse_tag` of
  `Proofs/Cbor` are for `parse`), the chunk loop is `parseChunks`, and `BoundedBytes` is the strict parser
  followed by `strPayload? 2` (`decBounded_eq`), so both of its directions are `parse_encode` and `encode_parse`.
  What the input a primitive accepts looks like, and conversely, is its `…_some` form (soundness uses `.1`);
  where completeness applies the converse more than once it has a name, `…_encode`.
-/
namespace PallasVerif.PlutusData.Dec
open PallasVerif.Cbor PallasVerif.PlutusData

theorem decodeHead_byte {b : UInt8} {rest r : Bytes} {h : Head} (hd : decodeHead (b :: rest) = some (h, r)) :
    b.toNat / 32 = h.major ∧ b.toNat % 32 = h.ai := by
  obtain ⟨w, e⟩ := decodeHead_iff.1 hd
  rw [Head.encode, List.cons_append, List.cons.injEq] at e
  rw [e.1]; exact Head.byte_div_mod w

theorem decodeHead_indef {b : UInt8} (rest : Bytes) (h31 : b.toNat % 32 = 31) :
    decodeHead (b :: rest) = some (⟨b.toNat / 32, 31, []⟩, rest) := by
  simp [decodeHead, h31, argLen]

/-- what every definite read does after `decodeHead`: refuse the indefinite marker, return the value -/
def defArg (p : Head × Bytes) : Option (Nat × Bytes) := if p.1.ai = 31 then none else some (p.1.val, p.2)

theorem unsigned_eq (b : UInt8) (rest : Bytes) :
    unsigned (b.toNat % 32) rest = (decodeHead (b :: rest)).bind defArg := by
  have slice : ∀ n, (readSlice n rest).map (fun x : Bytes × Bytes => (ofBe x.1, x.2)) =
      if rest.length < n then none else some (ofBe (rest.take n), rest.drop n) := by
    intro n; unfold readSlice; split <;> rfl
  unfold unsigned decodeHead argLen
  simp only [slice]
  generalize b.toNat % 32 = ai
  by_cases h : ai < 24
  · simp [h, defArg, Head.val, Nat.ne_of_lt (Nat.lt_trans h (by decide : 24 < 31))]
  · by_cases h1 : ai = 24 ∨ ai = 25 ∨ ai = 26 ∨ ai = 27
    · rcases h1 with rfl | rfl | rfl | rfl <;>
        simp only [Nat.lt_irrefl, Nat.reduceLT, Nat.reduceEqDiff, if_true, if_false] <;> split <;>
        simp [defArg, Head.val]
    · by_cases h31 : ai = 31
      · subst h31; simp [defArg]
      · have : ¬ ai = 24 ∧ ¬ ai = 25 ∧ ¬ ai = 26 ∧ ¬ ai = 27 := by omega
        simp [h, this, h31]

theorem readHead_eq (m : Nat) (bs : Bytes) :
    readHead m bs = (decodeHead bs).bind fun p => if p.1.major = m then defArg p else none := by
  cases bs with
  | nil => rfl
  | cons b rest =>
    rw [readHead, unsigned_eq]
    cases hd : decodeHead (b :: rest) with
    | none => simp
    | some p => simp [(decodeHead_byte hd).1]

theorem readSeqHead_eq (m : Nat) (bs : Bytes) :
    readSeqHead m bs = (decodeHead bs).bind fun p =>
      if p.1.major = m then some (if p.1.ai = 31 then none else some p.1.val, p.2) else none := by
  cases bs with
  | nil => rfl
  | cons b rest =>
    rw [readSeqHead, unsigned_eq]
    by_cases h31 : b.toNat % 32 = 31
    · simp [decodeHead_indef rest h31, h31]
    · cases hd : decodeHead (b :: rest) with
      | none => simp [h31]
      | some p =>
        obtain ⟨b1, b2⟩ := decodeHead_byte hd
        rw [b2] at h31
        simp [b1, b2, defArg, h31]

theorem readInt_eq (bs : Bytes) : readInt bs = (decodeHead bs).bind fun p =>
    if p.1.ai = 31 then none else (Item.atom p.1).int?.map (·, p.2) := by
  cases bs with
  | nil => rfl
  | cons b rest =>
    rw [readInt, unsigned_eq]
    cases hd : decodeHead (b :: rest) with
    | none => simp
    | some p =>
      simp only [(decodeHead_byte hd).1, Option.bind_some, defArg, Item.int?]
      by_cases h31 : p.1.ai = 31
      · simp [h31]
      · simp only [h31, if_false, Option.map_some]
        split
        · rfl
        · split <;> rfl

theorem readBytes_eq (bs : Bytes) : readBytes bs = (decodeHead bs).bind fun p =>
    if p.1.major = 2 ∧ p.1.ai ≠ 31 then readSlice p.1.val p.2 else none := by
  cases bs with
  | nil => rfl
  | cons b rest =>
    rw [readBytes, unsigned_eq]
    cases hd : decodeHead (b :: rest) with
    | none => simp
    | some p =>
      obtain ⟨b1, b2⟩ := decodeHead_byte hd
      simp only [b1, b2, Option.bind_some, defArg]
      split
      · rename_i h; simp [h.2]
      · rfl

theorem readChunks_eq : ∀ (f : Nat) (bs : Bytes),
    readChunks f bs = (parseChunks f 2 bs).map fun p => (chunksPayload p.1, p.2)
  | 0, _ => rfl
  | _ + 1, [] => rfl
  | f + 1, b :: rest => by
    rw [readChunks, parseChunks, readBytes_eq]
    split
    · rfl
    cases hd : decodeHead (b :: rest) with
    | none => rfl
    | some p =>
      simp only [Option.bind_some, readSlice, readChunks_eq f]
      -- `hc` is the condition on which `parseChunks` refuses a chunk
      by_cases hc : p.1.major ≠ 2 ∨ p.1.ai = 31 ∨ p.2.length < p.1.val
      · rw [if_pos hc]
        split
        · rfl
        · rename_i c r he
          split at he
          · split at he
            · cases he
            · omega
          · cases he
      · have : (p.1.major = 2 ∧ p.1.ai ≠ 31) ∧ ¬ p.2.length < p.1.val := by omega
        rw [if_neg hc, if_pos this.1, if_neg this.2]
        dsimp only
        cases parseChunks f 2 (p.2.drop p.1.val) <;> rfl

/-- every read begins with `decodeHead` (the `…_eq` equations), so what it accepts begins with a well-formed head -/
theorem decodeHead_bind_some {α : Type} {k : Head × Bytes → Option α} {bs : Bytes} {x : α} :
    (decodeHead bs).bind k = some x ↔ ∃ h r, h.wf = true ∧ bs = h.encode ++ r ∧ k (h, r) = some x := by
  simp only [Option.bind_eq_some_iff, Prod.exists, decodeHead_iff, and_assoc]

theorem readHead_some {m n : Nat} {bs r : Bytes} : readHead m bs = some (n, r) ↔
    ∃ h : Head, h.definite m ∧ bs = h.encode ++ r ∧ h.val = n := by
  simp only [readHead_eq, decodeHead_bind_some, defArg, Option.ite_none_right_eq_some, Option.ite_none_left_eq_some,
    Option.some.injEq, Prod.mk.injEq, Head.definite]
  constructor
  · rintro ⟨h, _, w, e, hm, h31, v, rfl⟩; exact ⟨h, ⟨w, hm, h31⟩, e, v⟩
  · rintro ⟨h, ⟨w, hm, h31⟩, e, v⟩; exact ⟨h, r, w, e, hm, h31, v, rfl⟩

theorem readHead_encode {h : Head} {m : Nat} (hd : h.definite m) (r : Bytes) :
    readHead m (h.encode ++ r) = some (h.val, r) :=
  readHead_some.2 ⟨h, hd, rfl, rfl⟩

theorem readSeqHead_some_def {m n : Nat} {bs r : Bytes} : readSeqHead m bs = some (some n, r) ↔
    ∃ h : Head, h.definite m ∧ bs = h.encode ++ r ∧ h.val = n := by
  rw [← readHead_some, readSeqHead_eq, readHead_eq]
  cases decodeHead bs with
  | none => simp
  | some p =>
    simp only [Option.bind_some, defArg]
    by_cases hm : p.1.major = m
    · by_cases h31 : p.1.ai = 31 <;> simp [hm, h31]
    · simp [hm]

theorem readSeqHead_some_indef {m : Nat} {bs r : Bytes} :
    readSeqHead m bs = some (none, r) ↔ m < 8 ∧ bs = initByte m 31 :: r := by
  simp only [readSeqHead_eq, decodeHead_bind_some, Option.ite_none_right_eq_some, Option.some.injEq, Prod.mk.injEq,
    ite_eq_left_iff, reduceCtorEq, imp_false, Decidable.not_not]
  constructor
  · rintro ⟨h, _, w, e, rfl, h31, rfl⟩
    rw [Head.encode_indef h w h31] at e
    exact ⟨(Head.wf_lt w).1, e⟩
  · rintro ⟨hm, e⟩
    exact ⟨⟨m, 31, []⟩, r, indefHead_wf m hm, e, rfl, rfl, rfl⟩

theorem readSeqHead_encode {h : Head} {m : Nat} (hd : h.definite m) (r : Bytes) :
    readSeqHead m (h.encode ++ r) = some (some h.val, r) :=
  readSeqHead_some_def.2 ⟨h, hd, rfl, rfl⟩

theorem readSeqHead_encode_indef (m : Nat) (hm : m < 8) (r : Bytes) :
    readSeqHead m (initByte m 31 :: r) = some (none, r) :=
  readSeqHead_some_indef.2 ⟨hm, rfl⟩

theorem readInt_some {bs r : Bytes} {n : Int} : readInt bs = some (n, r) ↔
    ∃ h : Head, (Item.atom h).wf = true ∧ bs = h.encode ++ r ∧ (Item.atom h).int? = some n := by
  -- `int?` answers on major types 0 and 1 only
  have hm : ∀ h : Head, (Item.atom h).int? = some n → h.major = 0 ∨ h.major = 1 ∨ h.major = 7 := by
    intro h hk
    simp only [Item.int?] at hk
    split at hk
    · exact .inl ‹_›
    · split at hk
      · exact .inr (.inl ‹_›)
      · cases hk
  simp only [readInt_eq, decodeHead_bind_some, Option.ite_none_left_eq_some, Option.map_eq_some_iff, Prod.mk.injEq,
    Item.wf_atom_iff]
  constructor
  · rintro ⟨h, _, w, e, h31, k, hk, rfl, rfl⟩; exact ⟨h, ⟨w, hm h hk, h31⟩, e, hk⟩
  · rintro ⟨h, ⟨w, _, h31⟩, e, hk⟩; exact ⟨h, r, w, e, h31, n, hk, rfl, rfl⟩

/-- the class of a head with a definite argument, by major type -/
def tyDef : Nat → Ty
  | 0 => .int | 1 => .int | 2 => .bytes | 4 => .array | 5 => .map | 6 => .tag | _ => .other

/-- the class of an initial byte with additional information 31, by major type -/
def tyIndef : Nat → Ty
  | 2 => .bytesIndef | 4 => .arrayIndef | 5 => .mapIndef | _ => .other

/-- the class `Decoder::datatype` reports at a head (`datatype_eq`) -/
def headTy (h : Head) : Ty := if h.ai = 31 then tyIndef h.major else tyDef h.major

/-- `typeOfByte` on definite heads; `e` says that no byte follows the initial one. A negative integer with
    a following argument is the one case in which minicbor looks at the next byte. -/
theorem typeOfByte_def : ∀ n, n < 256 → n % 32 ≤ 27 → ∀ e : Bool, (n / 32 = 1 → 24 ≤ n % 32 → e = false) →
    typeOfByte n e = some (tyDef (n / 32)) := by
  decide +kernel

theorem typeOfByte_indef : ∀ m, m < 8 → ∀ e : Bool, typeOfByte (m * 32 + 31) e = some (tyIndef m) := by
  decide

theorem datatype_eq {bs r : Bytes} {h : Head} (hd : decodeHead bs = some (h, r)) :
    datatype bs = some (headTy h) := by
  obtain ⟨w, rfl⟩ := decodeHead_iff.1 hd
  obtain ⟨b1, b2⟩ := Head.byte_div_mod w
  rw [Head.encode, List.cons_append, datatype, headTy]
  split
  · rename_i h31
    rw [Head.initByte_toNat h w, h31]
    exact typeOfByte_indef _ (Head.wf_lt w).1 _
  · rename_i h31
    have := typeOfByte_def _ (initByte h.major h.ai).toNat_lt (by rw [b2]; exact Head.ai_le_of_wf w h31)
      (h.arg ++ r).isEmpty (fun _ h24 => by
        -- an argument follows: `ai ≥ 24` and `ai ≠ 31` leave the widths 1, 2, 4, 8
        have : 0 < h.arg.length := by
          rcases argLen_cases _ _ ((Head.wf_iff h).1 w).2.2 with c | c | c | c | c | c <;> omega
        simp [List.ne_nil_of_length_pos this])
    rwa [b1] at this

theorem decodeHead_item (i : Item) (hw : i.wf = true) (r : Bytes) :
    ∃ rest, decodeHead (i.encode ++ r) = some (itemHead i, rest) := by
  obtain ⟨w, _, body, e⟩ := encode_itemHead i hw
  exact ⟨body ++ r, by rw [e, List.append_assoc]; exact decodeHead_encode _ _ w⟩

theorem datatype_encode (i : Item) (hw : i.wf = true) (r : Bytes) :
    datatype (i.encode ++ r) = some (headTy (itemHead i)) := by
  obtain ⟨_, hd⟩ := decodeHead_item i hw r
  exact datatype_eq hd

theorem datatype_seq {m : Nat} {i : Item} {df : Bool} {xs : List Item} (hs : SeqShape m i df xs)
    (hw : i.wf = true) (r : Bytes) : datatype (i.encode ++ r) = some (if df then tyDef m else tyIndef m) := by
  rw [datatype_encode i hw r]
  rcases hs with ⟨h, rfl, hm, rfl⟩ | ⟨rfl, rfl⟩
  · rw [itemHead, headTy, if_neg ((Item.wf_seq_iff h xs).1 hw).2.2.1, hm]; rfl
  · rfl

theorem strPayload_major {i : Item} {x : Bytes} (h : i.strPayload? 2 = some x) : (itemHead i).major = 2 := by
  cases i <;> simp [Item.strPayload?] at h <;> exact h.1

theorem decBounded_eq (f : Nat) (bs : Bytes) :
    decBounded f bs = (parse (f + 1) bs).bind fun p => (p.1.strPayload? 2).map (·, p.2) := by
  cases bs with
  | nil => rfl
  | cons b rest =>
    rw [decBounded, unsigned_eq]
    cases hd : decodeHead (b :: rest) with
    | none =>
      have : ¬ b.toNat % 32 = 31 := fun h31 => by rw [decodeHead_indef rest h31] at hd; cases hd
      simp [this, parse, hd]
    | some p =>
      obtain ⟨h, r⟩ := p
      obtain ⟨b1, b2⟩ := decodeHead_byte hd
      rw [b1, b2]
      by_cases hm : h.major = 2
      · by_cases h31 : h.ai = 31
        · have hr : r = rest := by
            have := decodeHead_indef rest (b2.trans h31)
            rw [hd] at this; cases this; rfl
          rw [if_pos hm, if_pos h31, parse_strIndef hd (.inl hm) h31, readChunks_eq, hm, hr, Option.bind_map]
          cases parseChunks f 2 rest <;> simp [Item.strPayload?]
        · rw [if_pos hm, if_neg h31, parse_str hd (.inl hm) h31]
          simp only [Option.bind_some, defArg, h31, if_false, readSlice]
          split <;> simp [Item.strPayload?, hm]
      · -- the parser may well succeed, but what it returns begins with this head, so is no byte string
        rw [if_neg hm]
        cases hp : parse (f + 1) (b :: rest) with
        | none => rfl
        | some q =>
          obtain ⟨e, w⟩ := encode_parse _ _ _ _ hp
          obtain ⟨_, hd'⟩ := decodeHead_item q.1 w q.2
          rw [← e, hd] at hd'
          cases hs : q.1.strPayload? 2 with
          | none => simp [hs]
          | some x => exact absurd (by cases hd'; exact strPayload_major hs) hm

/-- on a string the decoder's fuel measure is the strict parser's -/
theorem decBounded_refines (i : Item) (bs r : Bytes) (fuel : Nat) (hw : i.wf = true)
    (hp : i.strPayload? 2 = some bs) (hf : dsize i ≤ fuel + 1) :
    decBounded fuel (i.encode ++ r) = some (bs, r) := by
  have hs : size i = dsize i := by cases i <;> first | rfl | cases hp
  rw [decBounded_eq, parse_encode i _ r hw (hs ▸ hf), Option.bind_some, hp]; rfl

theorem decBounded_sound (fuel : Nat) (bs out r : Bytes) (h : decBounded fuel bs = some (out, r)) :
    ∃ i : Item, i.wf = true ∧ i.strPayload? 2 = some out ∧ bs = i.encode ++ r := by
  rw [decBounded_eq] at h
  obtain ⟨⟨i, r'⟩, hp, hm⟩ := Option.bind_eq_some_iff.1 h
  obtain ⟨x, hx, ⟨⟩⟩ := Option.map_eq_some_iff.1 hm
  obtain ⟨e, w⟩ := encode_parse _ _ _ _ hp
  exact ⟨i, w, hx, e⟩

end PallasVerif.PlutusData.Dec
