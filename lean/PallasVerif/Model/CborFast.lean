import PallasVerif.Model.Cbor
/-
  Compiler-only speed-up of the strict CBOR parser of `Model/Cbor.lean`: the reference functions
  test `rest.length < n` (linear in the *remaining input* for every head, hence quadratic on an
  80 kB block); the copies below test it with `lenLt` (linear in `n`). Each copy is PROVED equal to
  the reference function and registered with `@[csimp]`, so compiled code (the driver) runs the
  fast copy while every definition and theorem keeps talking about the reference parser.
  Import-free (Model only).
-/
namespace PallasVerif.Cbor

/-- `l.length < n` without walking all of `l` -/
def lenLt {α} : List α → Nat → Bool
  | _, 0 => false
  | [], _ + 1 => true
  | _ :: xs, n + 1 => lenLt xs n

theorem lenLt_eq {α} (l : List α) (n : Nat) : lenLt l n = decide (l.length < n) := by
  induction l generalizing n with
  | nil => cases n <;> simp [lenLt]
  | cons x xs ih => cases n <;> simp [lenLt, ih]

def decodeHeadF : Bytes → Option (Head × Bytes)
  | [] => none
  | b :: rest =>
    match argLen (b.toNat % 32) with
    | none => none
    | some n =>
      if lenLt rest n then none
      else some (⟨b.toNat / 32, b.toNat % 32, rest.take n⟩, rest.drop n)

@[csimp] theorem decodeHead_eq_fast : @decodeHead = @decodeHeadF := by
  funext bs
  cases bs with
  | nil => rfl
  | cons b rest =>
    simp only [decodeHead, decodeHeadF, lenLt_eq, decide_eq_true_eq]
    rfl

def parseChunksF : Nat → Nat → Bytes → Option (List (Head × Bytes) × Bytes)
  | 0, _, _ => none
  | _ + 1, _, [] => none
  | fuel + 1, m, b :: rest =>
    if b = 0xff then some ([], rest)
    else
      match decodeHeadF (b :: rest) with
      | none => none
      | some (h, r) =>
        if h.major ≠ m ∨ h.ai = 31 ∨ lenLt r h.val then none
        else
          match parseChunksF fuel m (r.drop h.val) with
          | none => none
          | some (cs, r') => some ((h, r.take h.val) :: cs, r')

theorem parseChunks_eq_fast' (fuel m : Nat) (bs : Bytes) : parseChunks fuel m bs = parseChunksF fuel m bs := by
  induction fuel generalizing bs with
  | zero => rfl
  | succ fuel ih =>
    cases bs with
    | nil => rfl
    | cons b rest =>
      simp only [parseChunks, parseChunksF, ← decodeHead_eq_fast, lenLt_eq, decide_eq_true_eq, ih]
      rfl

@[csimp] theorem parseChunks_eq_fast : @parseChunks = @parseChunksF := by
  funext fuel m bs; exact parseChunks_eq_fast' fuel m bs

mutual
def parseF : Nat → Bytes → Option (Item × Bytes)
  | 0, _ => none
  | fuel + 1, bs =>
    match decodeHeadF bs with
    | none => none
    | some (h, rest) =>
      if h.major = 0 ∨ h.major = 1 ∨ h.major = 7 then
        if h.ai = 31 then none else some (.atom h, rest)
      else if h.major = 2 ∨ h.major = 3 then
        if h.ai = 31 then
          match parseChunksF fuel h.major rest with
          | none => none
          | some (cs, r) => some (.strIndef h.major cs, r)
        else if lenLt rest h.val then none
        else some (.str h (rest.take h.val), rest.drop h.val)
      else if h.major = 4 ∨ h.major = 5 then
        if h.ai = 31 then
          match parseBreakF fuel rest with
          | none => none
          | some (xs, r) =>
            if h.major = 5 ∧ xs.length % 2 ≠ 0 then none else some (.seqIndef h.major xs, r)
        else
          match parseNF fuel (seqCount h) rest with
          | none => none
          | some (xs, r) => some (.seq h xs, r)
      else
        if h.ai = 31 then none
        else
          match parseF fuel rest with
          | none => none
          | some (i, r) => some (.tag h i, r)
def parseNF : Nat → Nat → Bytes → Option (List Item × Bytes)
  | _, 0, bs => some ([], bs)
  | 0, _ + 1, _ => none
  | fuel + 1, n + 1, bs =>
    match parseF fuel bs with
    | none => none
    | some (x, r) =>
      match parseNF fuel n r with
      | none => none
      | some (xs, r') => some (x :: xs, r')
def parseBreakF : Nat → Bytes → Option (List Item × Bytes)
  | 0, _ => none
  | _ + 1, [] => none
  | fuel + 1, b :: rest =>
    if b = 0xff then some ([], rest)
    else
      match parseF fuel (b :: rest) with
      | none => none
      | some (x, r) =>
        match parseBreakF fuel r with
        | none => none
        | some (xs, r') => some (x :: xs, r')
end

theorem parse_eq_fast_all (fuel : Nat) :
    (∀ bs, parse fuel bs = parseF fuel bs) ∧ (∀ n bs, parseN fuel n bs = parseNF fuel n bs) ∧
    (∀ bs, parseBreak fuel bs = parseBreakF fuel bs) := by
  induction fuel with
  | zero =>
    refine ⟨fun bs => by simp [parse, parseF], fun n bs => ?_, fun bs => by simp [parseBreak, parseBreakF]⟩
    cases n <;> simp [parseN, parseNF]
  | succ fuel ih =>
    obtain ⟨ih1, ih2, ih3⟩ := ih
    refine ⟨fun bs => ?_, fun n bs => ?_, fun bs => ?_⟩
    · simp only [parse, parseF, ← decodeHead_eq_fast, ← parseChunks_eq_fast, lenLt_eq, decide_eq_true_eq, ih1, ih2, ih3]
      rfl
    · cases n with
      | zero => simp [parseN, parseNF]
      | succ n => simp only [parseN, parseNF, ih1, ih2]; rfl
    · cases bs with
      | nil => simp [parseBreak, parseBreakF]
      | cons b rest => simp only [parseBreak, parseBreakF, ih1, ih3]; rfl

@[csimp] theorem parse_eq_fast : @parse = @parseF := by
  funext fuel bs; exact (parse_eq_fast_all fuel).1 bs

@[csimp] theorem parseN_eq_fast : @parseN = @parseNF := by
  funext fuel n bs; exact (parse_eq_fast_all fuel).2.1 n bs

@[csimp] theorem parseBreak_eq_fast : @parseBreak = @parseBreakF := by
  funext fuel bs; exact (parse_eq_fast_all fuel).2.2 bs

-- same body as `parseItem`: that one was compiled before the `csimp` lemmas above existed, so it still calls
-- the reference `parse`; likewise `firstSpanF` below
def parseItemF (bs : Bytes) : Option (Item × Bytes) := parseF (fuelFor bs) bs

@[csimp] theorem parseItem_eq_fast : @parseItem = @parseItemF := by
  funext bs; simp only [parseItem, parseItemF, parse_eq_fast]

def firstSpanF (bs : Bytes) : Option Bytes :=
  match parseItemF bs with
  | some (_, r) => some (bs.take (bs.length - r.length))
  | none => none

@[csimp] theorem firstSpan_eq_fast : @firstSpan = @firstSpanF := by
  funext bs; simp only [firstSpan, firstSpanF, parseItem_eq_fast]; rfl

end PallasVerif.Cbor
