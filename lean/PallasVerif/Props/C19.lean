import PallasVerif.Proofs.Byron
import PallasVerif.Proofs.CborContainers
/-!
# C19 — Byron addresses round-trip and corrupted addresses are rejected

Model: `Model/Byron.lean` — CRC-32/ISO-HDLC bit by bit, the `ByronAddress` codec generated by
`#[derive(Encode, Decode)]` (array struct: any array head, extra elements skipped), `from_bytes` after
`fix: Byron address parsing verifies the CRC32 of the payload`, `from_base58`, the Byron branch of
`Address::from_bytes` (`parse_type_8`).

* **rejection**: whatever an entry point returns has a checksum that matches its payload, and an input
  whose checksum does not match is rejected with `InvalidByronCbor(message)`;
* **single-bit corruption**: for a valid address of *any* payload (any length), replacing the checksum by any other
  value, or flipping *any* bit of the payload, gives bytes that `from_bytes` rejects — the latter
  rests on `crc32_detects_single_bit_errors`: CRC-32 detects every single-bit error (a corollary of `Byron.crc32_set_ne`:
  every corruption confined to one byte), proved from the injectivity of the register update, for all lengths;
* **round trip**: `from_bytes(to_vec(a)) = a` for every address built from a payload, and through base58
  under the codec law of the base58 crate (a hypothesis: the crate is a dependency, and its decoder has a
  132-byte buffer, so the law — and with it the property — fails for addresses longer than that: known
  finding `C19-base58-long-address`, reproduced by the stream); the payload structure itself round-trips.
-/
namespace PallasVerif.Props.C19
open PallasVerif.Cbor PallasVerif.Minicbor PallasVerif.Wrappers PallasVerif.Byron

/-- the standard check value of CRC-32/ISO-HDLC: `"123456789"` ↦ `0xCBF43926` -/
theorem crc32_check_value : crc32 [0x31, 0x32, 0x33, 0x34, 0x35, 0x36, 0x37, 0x38, 0x39] = 0xCBF43926 := by
  decide +kernel

/-- `ByronAddress::from_bytes` only returns addresses whose checksum matches -/
theorem from_bytes_checks_crc (bs : Bytes) (a : ByronAddress) (h : fromBytes bs = .ok a) : crc32 a.payload = a.crc := by
  simp only [fromBytes] at h
  split at h
  · cases h
  · split at h
    · cases h
    · rename_i hc; simp only [Except.ok.injEq] at h; subst h; simpa using hc

/-- `Address::from_bytes` (Byron branch, `parse_type_8`) likewise -/
theorem address_from_bytes_checks_crc (bs : Bytes) (a : ByronAddress) (h : addressFromBytes bs = .ok a) :
    crc32 a.payload = a.crc := by
  simp only [addressFromBytes] at h
  split at h
  · cases h
  · split at h
    · exact from_bytes_checks_crc _ a h
    · cases h

/-- `ByronAddress::from_base58` likewise, whatever the base58 decoder returns -/
theorem from_base58_checks_crc (s : String) (a : ByronAddress) (h : fromBase58 s = .ok a) : crc32 a.payload = a.crc := by
  simp only [fromBase58] at h
  split at h
  · cases h
  · exact from_bytes_checks_crc _ a h

/-- bytes that decode to an address whose checksum differs from the payload's are rejected, with the
    CBOR `message` error -/
theorem mismatch_rejected (bs : Bytes) (a : ByronAddress) (r : Bytes) (hd : ByronAddress.dec bs = .ok a r)
    (hne : crc32 a.payload ≠ a.crc) : fromBytes bs = .error (.cbor .msg) := by
  simp [fromBytes, hd, hne]

/-- what it was before the fix: `from_bytes` accepted a mismatching checksum (witness: payload `01` with checksum 1, while
    `crc32 [0x01] = 0xA505DF1B`) -/
theorem from_bytes_before_fix_fails_at_witness :
    ¬ (∀ bs a, fromBytesBefore bs = .ok a → crc32 a.payload = a.crc) := by
  intro h
  have := h (ByronAddress.enc ⟨[0x01], 1⟩) ⟨[0x01], 1⟩ (by decide +kernel)
  revert this; decide +kernel

/-- an address built from any payload bytes (`from_decoded` = `new(payload, CRC(payload))`) decodes back
    from its CBOR and passes the checksum test -/
theorem byron_roundtrip_cbor (payload : Bytes) (hp : payload.length < 2 ^ 64) :
    fromBytes (ofPayloadBytes payload).toVec = .ok (ofPayloadBytes payload) := by
  rw [ByronAddress.toVec, fromBytes_enc _ hp (crc32_lt payload)]
  exact if_pos rfl

/-- the same through `Address::from_bytes` / `Address::to_vec` -/
theorem byron_roundtrip_address_bytes (payload : Bytes) (hp : payload.length < 2 ^ 64) :
    addressFromBytes (ofPayloadBytes payload).toVec = .ok (ofPayloadBytes payload) := by
  have h := byron_roundtrip_cbor payload hp
  -- the first byte is `0x82`, whose header nibble 8 sends `Address::from_bytes` to the Byron branch
  have hb : (ofPayloadBytes payload).toVec = 0x82 :: ((ofPayloadBytes payload).toVec).tail := by
    simp [ByronAddress.toVec, ByronAddress.enc, encArrayHead, encHead, minHead, Head.encode, initByte]
  rw [hb] at h ⊢
  simp only [addressFromBytes]
  rw [if_pos (by decide)]
  exact h

/-- `from_base58` with the base58 decoder as a parameter -/
def fromBase58With (dec : String → Option Bytes) (s : String) : Except AddrErr ByronAddress :=
  match dec s with
  | none => .error .base58
  | some bs => fromBytes bs

theorem fromBase58_eq (s : String) : fromBase58 s = fromBase58With b58dec s := rfl

/-- through base58, under the codec law of the base58 implementation at this address -/
theorem byron_roundtrip_base58 (enc : Bytes → String) (dec : String → Option Bytes) (payload : Bytes)
    (hp : payload.length < 2 ^ 64)
    (hcodec : dec (enc (ofPayloadBytes payload).toVec) = some (ofPayloadBytes payload).toVec) :
    fromBase58With dec (enc (ofPayloadBytes payload).toVec) = .ok (ofPayloadBytes payload) := by
  simp [fromBase58With, hcodec, byron_roundtrip_cbor payload hp]

/-- `from_decoded` of a payload structure is `ofPayloadBytes` of its encoding, so the above apply to
    every `AddressPayload` (all address types, any attributes) -/
theorem from_decoded_roundtrip (p : AddressPayload) (hp : p.enc.length < 2 ^ 64) :
    fromBytes (fromDecoded p).toVec = .ok (fromDecoded p) := byron_roundtrip_cbor p.enc hp

/-- the CRC fact `payload_bit_flip_rejected` rests on: no single-bit error goes undetected, at any length -/
theorem crc32_detects_single_bit_errors (bs : Bytes) (i : Nat) (hi : i < 8 * bs.length) : crc32 (flipBit bs i) ≠ crc32 bs := by
  have hj : i / 8 < bs.length := by omega
  unfold flipBit
  apply crc32_set_ne bs (i / 8) hj
  have e : bs.getD (i / 8) 0 = bs[i / 8] := by simp [List.getD, hj]
  rw [e]
  exact flipped_byte_ne _ _ (Nat.mod_lt _ (by omega))

/-- flipping any one bit of the payload of a valid address (any payload, any position) gives an
    address that `from_bytes` rejects -/
theorem payload_bit_flip_rejected (payload : Bytes) (hp : payload.length < 2 ^ 64) (i : Nat) (hi : i < 8 * payload.length) :
    fromBytes (ByronAddress.enc ⟨flipBit payload i, crc32 payload⟩) = .error (.cbor .msg) := by
  have hlen : (flipBit payload i).length < 2 ^ 64 := by rw [flipBit_length]; exact hp
  rw [fromBytes_enc _ hlen (crc32_lt payload)]
  exact if_neg (crc32_detects_single_bit_errors payload i hi)

/-- replacing the checksum of a valid address by any other 32-bit value (in particular flipping any
    one of its bits) gives an address that `from_bytes` rejects -/
theorem checksum_corruption_rejected (payload : Bytes) (hp : payload.length < 2 ^ 64) (c : Nat) (hc : c < 2 ^ 32)
    (hne : c ≠ crc32 payload) : fromBytes (ByronAddress.enc ⟨payload, c⟩) = .error (.cbor .msg) := by
  rw [fromBytes_enc _ hp hc]
  exact if_neg (fun e => hne e.symm)

/-- a flipped checksum bit is such a value -/
theorem checksum_bit_flip_differs (c k : Nat) (hc : c < 2 ^ 32) (hk : k < 32) : c ^^^ 2 ^ k < 2 ^ 32 ∧ c ^^^ 2 ^ k ≠ c :=
  ⟨Nat.xor_lt_two_pow hc (Nat.pow_lt_pow_right (by omega) hk), xor_two_pow_ne c k⟩

/-- an `AddressPayload` (any address type, any list of attributes — repeated and out-of-order ones
    included) decodes back from its encoding -/
theorem payload_roundtrip (p : AddressPayload) (hw : p.wf) (r : Bytes) : AddressPayload.dec (p.enc ++ r) = .ok p r := by
  obtain ⟨h1, h2, h3, h4⟩ := hw
  have e0 := hash28_enc p.root (OPP.enc cAddrAttr p.attributes ++ (encUInt p.addrtype ++ r)) h1
  have e1 : OPP.dec cAddrAttr (OPP.enc cAddrAttr p.attributes ++ (encUInt p.addrtype ++ r))
      = .ok p.attributes (encUInt p.addrtype ++ r) := opp_rt cAddrAttr AddrAttr.wf addrAttr_rt p.attributes ⟨h2, h3⟩ _
  have e2 : Minicbor.u32 (encUInt p.addrtype ++ r) = _ := uintN_enc 32 _ r (by omega) h4
  have hlen : 3 ≤ (encBytes p.root ++ (OPP.enc cAddrAttr p.attributes ++ (encUInt p.addrtype ++ r))).length := by
    simp only [encBytes, OPP.enc, encMapHead, encUInt, encHead_eq, List.length_append, List.length_cons]
    omega
  simp only [AddressPayload.dec, AddressPayload.enc, structArray3, List.append_assoc, array_enc 3 _ (by omega), Res.andThen_ok]
  generalize (encBytes p.root ++ (OPP.enc cAddrAttr p.attributes ++ (encUInt p.addrtype ++ r))).length = L at hlen
  obtain ⟨f, rfl⟩ : ∃ f, L = f + 3 := ⟨L - 3, by omega⟩
  simp [fields3Def, e0, e1, e2]

theorem decode_of_from_decoded (p : AddressPayload) (hw : p.wf) : (fromDecoded p).decode = .ok p := by
  have := payload_roundtrip p hw []
  simp only [List.append_nil] at this
  simp [ByronAddress.decode, fromDecoded, ofPayloadBytes, decodeTop, this]

/-- **characterisation over every head width** (of a definite two-element array; the derived decoder also accepts longer
    arrays, one is among the examples below, and indefinite ones: neither is covered here): write the array, the tag, the
    payload byte string and the checksum each with *any* well-formed definite head, minimal or not.
    `from_bytes` then accepts exactly when the checksum *value on the wire*
    fits 32 bits and equals the CRC-32 of the payload; a value of 2^32 or more (only expressible with the
    8-byte head) is rejected with the `overflow` class, any other mismatch with `message`. In particular a
    corruption in the upper four bytes of an 8-byte checksum field is rejected. -/
theorem from_bytes_any_head_widths (ha ht hb hc : Head) (payload : Bytes)
    (h1 : headOk ha 4) (h1v : ha.val = 2) (h2 : headOk ht 6) (h3 : headOk hb 2) (h3v : hb.val = payload.length)
    (h4 : headOk hc 0) :
    fromBytes (encWith ha ht hb hc payload) =
      if hc.val < 2 ^ 32 then (if crc32 payload = hc.val then .ok ⟨payload, hc.val⟩ else .error (.cbor .msg))
      else .error (.cbor .overflow) := by
  have hd := byronAddress_dec_encWith ha ht hb hc payload [] h1 h1v h2 h3 h3v h4
  simp only [List.append_nil] at hd
  simp only [fromBytes, hd]
  by_cases hv : hc.val < 2 ^ 32
  · by_cases hc' : crc32 payload = hc.val <;> simp [hv, hc']
  · simp [hv]

/-- so no encoding of a wrong checksum value gets through, whatever its width -/
theorem wrong_checksum_rejected_any_width (ha ht hb hc : Head) (payload : Bytes)
    (h1 : headOk ha 4) (h1v : ha.val = 2) (h2 : headOk ht 6) (h3 : headOk hb 2) (h3v : hb.val = payload.length)
    (h4 : headOk hc 0) (hne : hc.val ≠ crc32 payload) :
    ∃ e, fromBytes (encWith ha ht hb hc payload) = .error e := by
  rw [from_bytes_any_head_widths ha ht hb hc payload h1 h1v h2 h3 h3v h4]
  by_cases hv : hc.val < 2 ^ 32
  · have : ¬ crc32 payload = hc.val := fun e => hne e.symm
    exact ⟨.cbor .msg, by simp [hv, this]⟩
  · exact ⟨.cbor .overflow, by simp [hv]⟩

/-! ## non-vacuity -/

example : crc32 [] = 0 := by decide +kernel
example : (ofPayloadBytes [0x83, 0x01]).toVec = [0x82, 0xd8, 0x18, 0x42, 0x83, 0x01] ++ encUInt (crc32 [0x83, 0x01]) := rfl
example : flipBit [0x00, 0xff] 9 = [0x00, 0xfd] := by decide +kernel
example : fromBytes (ofPayloadBytes [0x83, 0x01]).toVec = .ok (ofPayloadBytes [0x83, 0x01]) := by decide +kernel
example : fromBytes (ByronAddress.enc ⟨flipBit [0x83, 0x01] 3, crc32 [0x83, 0x01]⟩) = .error (.cbor .msg) := by decide +kernel
/-- the derive accepts a longer array (the extra element `f6` is skipped); the checksum is still enforced -/
example : (ByronAddress.dec [0x83, 0xd8, 0x18, 0x41, 0x01, 0x05, 0xf6]).map (·.crc) = .ok 5 [] := by decide +kernel
example : fromBytes [0x83, 0xd8, 0x18, 0x41, 0x01, 0x05, 0xf6] = .error (.cbor .msg) := by decide +kernel

/-- an 8-byte checksum head whose low half is the right CRC and whose bit 63 is set: rejected (`overflow`);
    the same address with the checksum in a non-minimal 8-byte head and clean upper half: accepted -/
example : fromBytes ([0x82, 0xd8, 0x18, 0x42, 0x83, 0x01] ++ 0x1b :: be 8 (2 ^ 63 + crc32 [0x83, 0x01])) = .error (.cbor .overflow) := by
  decide +kernel
example : fromBytes ([0x98, 0x02, 0xd9, 0x00, 0x18, 0x58, 0x02, 0x83, 0x01] ++ 0x1b :: be 8 (crc32 [0x83, 0x01]))
    = .ok (ofPayloadBytes [0x83, 0x01]) := by decide +kernel
example : headOk ⟨0, 27, be 8 (2 ^ 63 + 5)⟩ 0 ∧ (⟨0, 27, be 8 (2 ^ 63 + 5)⟩ : Head).val = 2 ^ 63 + 5 := by
  unfold headOk; decide +kernel

end PallasVerif.Props.C19
