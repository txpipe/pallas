import PallasVerif.Proofs.P2PSync
/-! The connection model's own steps (`Model/P2PNet.lean`): routing of an initiator step's outputs into the links
    (`absorb_apply`), the two steps whose exact result is needed (`sysStep_confirm`, `sysStep_arrive`), runs
    (`sysRun_append`). The walks of `sysStep` and `syncStep` themselves (`gen_step`, `syncStep_is_schedule`) go by the
    functions' own case principles. -/
namespace PallasVerif.P2P

theorem setLink_same (f : Nat → LinkSt) (p : Nat) (l : LinkSt) : setLink f p l p = l := by simp [setLink]
theorem setLink_other (f : Nat → LinkSt) {p q : Nat} (l : LinkSt) (h : q ≠ p) : setLink f p l q = f q := by
  simp [setLink, h]

theorem absorb_apply : ∀ (outs : List Out) (links : Nat → LinkSt) (p : Nat), absorb links outs p =
    match links p with
    | .up l => .up { l with unconfirmed := l.unconfirmed ++ sendsTo p outs, toResp := l.toResp ++ sendsTo p outs }
    | .pending => .pending
    | .down => if Out.connect p ∈ outs then .pending else .down := by
  intro outs
  induction outs with
  | nil => intro links p; cases hl : links p <;> simp [absorb, sendsTo, hl]
  | cons o os ih =>
    intro links p
    cases o with
    | disconnect q | event ev => simp only [absorb, ih]; cases links p <;> simp [sendsTo]
    | connect q | send q m =>
      simp only [absorb]
      by_cases e : q = p
      · subst e
        cases hl : links q <;> simp [ih, setLink, sendsTo, hl]
      · split <;> rw [ih] <;> cases hl : links p <;> simp [setLink, sendsTo, e, Ne.symm e, hl]

theorem absorb_quiet {outs : List Out} (links : Nat → LinkSt) (h : Quiet outs) : absorb links outs = links := by
  obtain ⟨h1, h2⟩ := h
  funext p
  rw [absorb_apply, sendsTo_nil_of_nosend (h1 p)]
  cases hl : links p with
  | up l => simp only [List.append_nil]
  | pending => rfl
  | down => simp only [h2 p, if_false]

theorem feed_some {y y' : Sys} {e : Ev} (h : feed y e = some y') :
    ∃ f, step y.st e = some f ∧ y' = { y with st := f, links := absorb y.links f.out } := by
  unfold feed at h
  cases hst : step y.st e with
  | none => simp only [hst] at h; cases h
  | some f => simp only [hst, Option.some.injEq] at h; exact ⟨f, rfl, h.symm⟩

theorem sysStep_confirm {y : Sys} {p : Nat} {l : Link} {m : Msg} {u : List Msg} (hl : y.links p = .up l)
    (hu : l.unconfirmed = m :: u) :
    sysStep y (.confirm p) = some { y with st := outboundMsg { y.st with out := [] } p m,
                                           links := setLink y.links p (.up { l with unconfirmed := u }) } := by
  simp only [sysStep, hl, hu, feed, step_sent]
  rw [outboundMsg_out]
  rfl

theorem sysStep_arrive {y y2 : Sys} {p : Nat} {l : Link} {m : Msg} {a : List Msg} (hl : y.links p = .up l)
    (ha : l.toResp = m :: a) (h : sysStep y (.arrive p) = some y2) :
    ∃ l2, y2.links = setLink y.links p (.up l2) ∧ l2.unconfirmed = l.unconfirmed ∧ l2.toResp = a := by
  simp only [sysStep, hl, ha] at h
  cases hc : clientStep l.w m <;> (simp only [hc, Option.some.injEq] at h; subst h; exact ⟨_, rfl, rfl, rfl⟩)

theorem sysRun_cons (y : Sys) (a : Sched) (as : List Sched) :
    sysRun y (a :: as) = (sysStep y a).bind (fun y1 => sysRun y1 as) := by
  simp only [sysRun]; cases sysStep y a <;> rfl

theorem sysRun_append (a b : List Sched) : ∀ (y : Sys), sysRun y (a ++ b) = (sysRun y a).bind (fun y' => sysRun y' b) := by
  induction a with
  | nil => intro y; rfl
  | cons x xs ih =>
    intro y
    simp only [List.cons_append, sysRun]
    cases sysStep y x with
    | none => rfl
    | some y1 => exact ih y1

end PallasVerif.P2P
