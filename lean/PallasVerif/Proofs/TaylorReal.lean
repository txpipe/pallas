import Mathlib.Analysis.Complex.Exponential
import PallasVerif.Proofs.TaylorTerms
import PallasVerif.Proofs.DecimalReal
/-! Real-number reading of the fixed-point Taylor terms `tterm` and partial sums `psum` that both
    `ref_exp_cmp` (C16) and `mp_exp_taylor` (C15) compute: every term is rounded DOWN, so the partial sums never
    exceed `Real.exp x` for `x ≥ 0`; and for `|x| ≤ 1` each term is within 3 ulp of the true one, which bounds
    how far a partial sum is from `e^x` (`exp_sub_psum_le`) and so how wrong a verdict can be. -/
namespace PallasVerif.Proofs.ExpCmp
open PallasVerif.Decimal PallasVerif.Proofs.Decimal Finset

theorem taylorTerm_succ (r : ℝ) (i : ℕ) :
    r ^ (i + 1 + 1) / ((i + 1 + 1).factorial : ℝ) =
      r ^ (i + 1) / ((i + 1).factorial : ℝ) * r / ((i : ℝ) + 2) := by
  have e : ((i + 1 + 1 : ℕ) : ℝ) = (i : ℝ) + 2 := by push_cast; ring
  rw [Nat.factorial_succ (i + 1), pow_succ, Nat.cast_mul, e, div_mul_eq_mul_div, div_div,
    mul_comm ((i : ℝ) + 2)]

theorem cast_add_two (i : Nat) : (((i : Int) + 2 : Int) : ℝ) = (i : ℝ) + 2 := by push_cast; rfl

/-- for `0 ≤ x` every operation of a step rounds down -/
theorem tterm_le (x : Int) (hx : 0 ≤ x) (i : Nat) :
    toReal (tterm x i) ≤ toReal x ^ (i + 1) / ((i + 1).factorial : ℝ) := by
  induction i with
  | zero => simp [tterm]
  | succ i ih =>
    have ht := tterm_nonneg x hx i
    rw [tterm_succ, taylorTerm_succ, ← cast_add_two]
    exact toReal_tdiv_le (scale_nonneg _ (Int.mul_nonneg ht hx)) (by omega)
      (toReal_scale_mul_le_of_le ht hx ih le_rfl)

/-- either sign: an error of 3 ulp passes through the product with `|x| ≤ 1`, gains one ulp, is halved by the
    division by `i + 2 ≥ 2` and gains another: `1 + (1 + 3)/2 = 3` -/
theorem tterm_abs (x : Int) (hx : |toReal x| ≤ 1) (i : Nat) :
    |toReal (tterm x i) - toReal x ^ (i + 1) / ((i + 1).factorial : ℝ)| ≤ 3 * (1 / (P : ℝ)) := by
  induction i with
  | zero =>
    simpa only [tterm, zero_add, pow_one, Nat.factorial_one, Nat.cast_one, div_one, sub_self, abs_zero] using
      (mul_pos three_pos (one_div_pos.mpr P_real_pos)).le
  | succ i ih =>
    rw [tterm_succ, taylorTerm_succ, ← cast_add_two]
    exact (toReal_tdiv_near (by omega) (toReal_scale_mul_near hx ih)).trans_eq (by ring)

/-- the error of a partial sum is the sum of the errors of its terms; `tterm x i` is the series' term of index
    `i + 1`, the leading `1` its term `0` -/
theorem psum_sub (x : Int) (n : Nat) :
    toReal (psum x n) - ∑ m ∈ range (n + 1), toReal x ^ m / (m.factorial : ℝ) =
      ∑ i ∈ range n, (toReal (tterm x i) - toReal x ^ (i + 1) / ((i + 1).factorial : ℝ)) := by
  induction n with
  | zero =>
    rw [sum_range_zero, sum_range_one, pow_zero, Nat.factorial_zero, Nat.cast_one, div_one, psum, toReal_ONE, sub_self]
  | succ n ih => rw [sum_range_succ _ n, ← ih, sum_range_succ _ (n + 1), psum, toReal_add, add_sub_add_comm]

/-- every term is rounded down (`tterm_le`) -/
theorem psum_le_exp (x : Int) (hx : 0 ≤ x) (n : Nat) : toReal (psum x n) ≤ Real.exp (toReal x) := by
  have := sum_nonpos fun i (_ : i ∈ range n) => sub_nonpos.mpr (tterm_le x hx i)
  exact (sub_nonpos.mp ((psum_sub x n).trans_le this)).trans (Real.sum_le_exp_of_nonneg (toReal_nonneg hx) (n + 1))

theorem psum_abs (x : Int) (hx : |toReal x| ≤ 1) (n : Nat) :
    |toReal (psum x n) - ∑ m ∈ range (n + 1), toReal x ^ m / (m.factorial : ℝ)| ≤ 3 * (n : ℝ) / (P : ℝ) := by
  rw [psum_sub]
  refine (abs_sum_le_sum_abs _ _).trans ((sum_le_sum (fun i _ => tterm_abs x hx i)).trans_eq ?_)
  rw [sum_const, card_range, nsmul_eq_mul]; ring

/-- Mathlib's `Real.exp_bound`, whose right-hand side opens the `calc`; `(k+2)/(k+1) ≤ 2` -/
theorem exp_sub_prefix_le (r : ℝ) (hr : |r| ≤ 1) (k : ℕ) :
    |Real.exp r - ∑ m ∈ range (k + 1), r ^ m / (m.factorial : ℝ)| ≤
      2 * |r ^ (k + 1) / ((k + 1).factorial : ℝ)| := by
  refine (Real.exp_bound hr (Nat.succ_pos k)).trans ?_
  have hf : (0 : ℝ) < ((k + 1).factorial : ℝ) := by positivity
  have hk : (0 : ℝ) < ((k + 1 : ℕ) : ℝ) := by positivity
  have h2 : (((k + 1).succ : ℕ) : ℝ) / ((k + 1 : ℕ) : ℝ) ≤ 2 := by
    rw [div_le_iff₀ hk]; push_cast; linarith [(Nat.cast_nonneg k : (0 : ℝ) ≤ k)]
  calc |r| ^ (k + 1) * ((((k + 1).succ : ℕ) : ℝ) / (((k + 1).factorial : ℝ) * ((k + 1 : ℕ) : ℝ)))
      = |r ^ (k + 1) / ((k + 1).factorial : ℝ)| * ((((k + 1).succ : ℕ) : ℝ) / ((k + 1 : ℕ) : ℝ)) := by
        rw [abs_div, abs_pow, abs_of_pos hf, div_mul_div_comm, mul_div_assoc]
    _ ≤ |r ^ (k + 1) / ((k + 1).factorial : ℝ)| * 2 := mul_le_mul_of_nonneg_left h2 (abs_nonneg _)
    _ = 2 * |r ^ (k + 1) / ((k + 1).factorial : ℝ)| := mul_comm _ _

/-- prefix error `3k` ulp (`psum_abs`); remainder `≤ 2|τ| ≤ b|τ|` (`exp_sub_prefix_le`), and the true term `τ`
    of index `k + 1` is within 3 ulp of `tterm x k` (`tterm_abs`) -/
theorem exp_sub_psum_le (x : Int) (hx : |toReal x| ≤ 1) (b : ℝ) (hb : 2 ≤ b) (k : Nat) :
    |Real.exp (toReal x) - toReal (psum x k)| ≤
      b * |toReal (tterm x k)| + (3 * (k : ℝ) + 3 * b) / (P : ℝ) := by
  have hS := psum_abs x hx k
  have hT := tterm_abs x hx k
  have hE := exp_sub_prefix_le (toReal x) hx k
  generalize toReal x ^ (k + 1) / ((k + 1).factorial : ℝ) = τ at hT hE
  generalize ∑ m ∈ range (k + 1), toReal x ^ m / (m.factorial : ℝ) = S at hS hE
  have hτ : |τ| ≤ |toReal (tterm x k)| + 3 * (1 / (P : ℝ)) :=
    sub_le_iff_le_add'.mp ((abs_sub_abs_le_abs_sub τ _).trans (abs_sub_comm τ _ ▸ hT))
  have hbτ : 2 * |τ| ≤ b * (|toReal (tterm x k)| + 3 * (1 / (P : ℝ))) :=
    (mul_le_mul_of_nonneg_right hb (abs_nonneg τ)).trans
      (mul_le_mul_of_nonneg_left hτ (two_pos.le.trans hb))
  calc |Real.exp (toReal x) - toReal (psum x k)|
      ≤ |Real.exp (toReal x) - S| + |S - toReal (psum x k)| := abs_sub_le _ _ _
    _ ≤ 2 * |τ| + 3 * (k : ℝ) / (P : ℝ) := add_le_add hE (abs_sub_comm S _ ▸ hS)
    _ ≤ b * (|toReal (tterm x k)| + 3 * (1 / (P : ℝ))) + 3 * (k : ℝ) / (P : ℝ) :=
        add_le_add_left hbτ _
    _ = b * |toReal (tterm x k)| + (3 * (k : ℝ) + 3 * b) / (P : ℝ) := by ring

/-- `exp_sub_psum_le` with `b = bound`, read for the two integer comparisons the loop makes at index `k` -/
theorem verdict_slack (x bound cmp : Int) (hx : |toReal x| ≤ 1) (hb : 2 ≤ bound) (k : Nat) :
    (cmp > psum x k + ((tterm x k * bound).natAbs : Int) →
      Real.exp (toReal x) < toReal cmp + (3 * (k : ℝ) + 3 * (bound : ℝ)) / (P : ℝ)) ∧
    (cmp < psum x k - ((tterm x k * bound).natAbs : Int) →
      toReal cmp - (3 * (k : ℝ) + 3 * (bound : ℝ)) / (P : ℝ) < Real.exp (toReal x)) := by
  have hbr : (2 : ℝ) ≤ (bound : ℝ) := by exact_mod_cast hb
  have het : toReal ((tterm x k * bound).natAbs : Int) = (bound : ℝ) * |toReal (tterm x k)| := by
    rw [toReal_natAbs, toReal_mul_int, abs_mul, abs_of_nonneg (by linarith : (0 : ℝ) ≤ (bound : ℝ)), mul_comm]
  have h := abs_le.mp (exp_sub_psum_le x hx bound hbr k)
  constructor
  · intro hc
    have := toReal_lt hc
    rw [toReal_add, het] at this
    linarith only [this, h.2]
  · intro hc
    have := toReal_lt hc
    rw [toReal_sub, het] at this
    linarith only [this, h.1]

end PallasVerif.Proofs.ExpCmp
