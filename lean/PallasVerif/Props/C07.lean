import PallasVerif.Proofs.PlutusDataOrd
import PallasVerif.Proofs.PlutusDataCodec
import PallasVerif.Proofs.PlutusDataDecSound
/-!
# C07 — PlutusData round-trips; its comparison is a total order

Model: `Model/PlutusData.lean` (transcription of `pallas-primitives/src/plutus_data.rs`).
`cmp?` is the faithful comparison (`none` = the Rust panics in `Constr::constr_index`).

Quantifier. All theorems hold for **every** value of any depth and width with valid constructor tags
(`wfTag`: every `Constr` node has a tag in 121..127 ∪ 1280..1400, or tag 102 with `any_constructor`
present). On any other tag `constr_index` panics, so `cmp`/`==` is not a function there at all
(`cmp_panics_on_invalid_tag`, `cmp_panics_on_missing_any_constructor`); such values are constructible
through the public fields but are never produced by the decoder and lie outside the property's
quantifier (DESIGN §6 #7). The codec theorems additionally assume `fits` — the value inhabits the
Rust types (`u64` tags / lengths, minicbor's 65-bit `Int`) — which is no restriction on Rust values.

What "equal" means: `cmp? a b = some .eq`. It is coarser than structural equality: it ignores the
definite/indefinite flags (`eq_ignores_def_indef`), `any_constructor` when the tag is not 102 (`normAny`, which
drops it, gives an equal value: `normAny_equiv`, used in `pdata_roundtrip`), the tag-102 spelling of a constructor
index (`Constr 102 (some 0)` = `Constr 121`: an `example` below), and the representation
of integers (`Int 14` = `BigUInt [0, 14]`; `BigNInt bs` is ranked as `−bs`, not CBOR's `−1−bs`; the
repository's unit tests fix this reading). "Antisymmetric up to equality" is `cmp_swap`.

The claim itself is `cmp_refl`, `cmp_swap`, `cmp_trans`, `bigint_cmp_is_compare_rank`,
`eq_ignores_def_indef`, `chunks_join` and `pdata_roundtrip`; the other theorems sharpen these
(congruence of equality, the byte-level decoder, the structural round trip).
-/
namespace PallasVerif.Props.C07
open PallasVerif.Cbor PallasVerif.PlutusData

/-- on valid tags the comparison never panics -/
theorem cmp_total (a b : PData) (ha : wfTag a = true) (hb : wfTag b = true) :
    ∃ o, cmp? a b = some o := ⟨_, cmp?_eq_cmp a b ha hb⟩

theorem cmp_refl (a : PData) (ha : wfTag a = true) : cmp? a a = some .eq := by
  rw [cmp?_eq_cmp a a ha ha, Std.ReflCmp.compare_self (cmp := cmp)]

/-- total and antisymmetric up to equality: swapping the arguments swaps the outcome
    (`lt ↔ gt`, `eq ↔ eq`) -/
theorem cmp_swap (a b : PData) (ha : wfTag a = true) (hb : wfTag b = true) :
    cmp? a b = (cmp? b a).map Ordering.swap := by
  rw [cmp?_eq_cmp a b ha hb, cmp?_eq_cmp b a hb ha, PlutusData.cmp_swap a b]; rfl

theorem cmp?_eq_some_iff {a b : PData} (ha : wfTag a = true) (hb : wfTag b = true) (o : Ordering) :
    cmp? a b = some o ↔ cmp a b = o := by
  rw [cmp?_eq_cmp a b ha hb, Option.some.injEq]

/-- transitive, all outcomes: `<` then `<`, `=` then `=`, `>` then `>` -/
theorem cmp_trans (a b c : PData) (ha : wfTag a = true) (hb : wfTag b = true) (hc : wfTag c = true)
    (o : Ordering) (h1 : cmp? a b = some o) (h2 : cmp? b c = some o) : cmp? a c = some o := by
  rw [cmp?_eq_some_iff ha hb] at h1
  rw [cmp?_eq_some_iff hb hc] at h2
  rw [cmp?_eq_some_iff ha hc]
  cases o
  · exact Std.TransCmp.lt_trans h1 h2
  · exact Std.TransCmp.eq_trans h1 h2
  · exact Std.TransCmp.gt_trans h1 h2

/-- `≤` is transitive (mixed `<` / `=` chains) -/
theorem cmp_le_trans (a b c : PData) (ha : wfTag a = true) (hb : wfTag b = true) (hc : wfTag c = true)
    (h1 : cmp? a b ≠ some .gt) (h2 : cmp? b c ≠ some .gt) : cmp? a c ≠ some .gt := by
  rw [ne_eq, cmp?_eq_some_iff ha hb] at h1
  rw [ne_eq, cmp?_eq_some_iff hb hc] at h2
  rw [ne_eq, cmp?_eq_some_iff ha hc]
  rw [Ordering.ne_gt_iff_isLE] at h1 h2 ⊢
  exact Std.TransCmp.isLE_trans h1 h2

theorem cmp_eq_congr (a b c : PData) (ha : wfTag a = true) (hb : wfTag b = true) (hc : wfTag c = true)
    (h : cmp? a b = some .eq) : cmp? a c = cmp? b c ∧ cmp? c a = cmp? c b := by
  rw [cmp?_eq_some_iff ha hb] at h
  rw [cmp?_eq_cmp a c ha hc, cmp?_eq_cmp b c hb hc, cmp?_eq_cmp c a hc ha, cmp?_eq_cmp c b hc hb,
    Std.TransCmp.congr_left h, Std.TransCmp.congr_right h]
  exact ⟨rfl, rfl⟩

/-- `BigInt::cmp` is numeric comparison of `rank` (sign flag applied to the stripped magnitude), for
    all three representations and any number of leading zero bytes -/
theorem bigint_cmp_is_compare_rank (a b : BigInt) : cmpBig a b = compare a.rank b.rank :=
  cmpBig_eq_compare_rank a b

/-- the rank of an `Int` of the Rust type is the integer itself -/
theorem rank_int (i : Int) (h : (BigInt.int i).fits = true) : (BigInt.int i).rank = i := by
  simp only [BigInt.fits, Bool.and_eq_true, decide_eq_true_eq] at h
  have hb : (u64Bound : Int) = 18446744073709551616 := by simp [u64Bound]
  rw [hb] at h
  simp only [BigInt.rank, BigInt.mag, BigInt.toBytes, ofBe_stripZeros, ofBe_be]
  have : i.natAbs % 256 ^ 16 = i.natAbs := Nat.mod_eq_of_lt (by
    have : (256:Nat) ^ 16 = 340282366920938463463374607431768211456 := by decide
    omega)
  rw [this]
  by_cases hi : i < 0 <;> simp [hi] <;> omega

/-- the outcome does not depend on any definite/indefinite flag, at any depth -/
theorem cmp_ignores_def_indef (a b : PData) (ha : wfTag a = true) (hb : wfTag b = true) :
    cmp? (eraseDef a) (eraseDef b) = cmp? a b := by
  rw [cmp?_eq_cmp a b ha hb, cmp?_eq_cmp _ _ (by rw [wfTag_eraseDef]; exact ha) (by rw [wfTag_eraseDef]; exact hb),
    cmp_eraseDef]

theorem eq_ignores_def_indef (a b : PData) (ha : wfTag a = true) (hb : wfTag b = true)
    (h : eraseDef a = eraseDef b) : cmp? a b = some .eq := by
  rw [← cmp_ignores_def_indef a b ha hb, h]
  exact cmp_refl _ (by rw [wfTag_eraseDef]; exact hb)

/-! ## the panics that delimit the quantifier -/

theorem cmp_panics_on_invalid_tag (t : Nat) (a : Option Nat) (d : Bool) (fs : List PData)
    (h1 : ¬ (121 ≤ t ∧ t ≤ 127)) (h2 : ¬ (1280 ≤ t ∧ t ≤ 1400)) (h3 : t ≠ 102) :
    cmp? (.constr t a d fs) (.constr t a d fs) = none ∧
    (∀ t' a' d' fs', cmp? (.constr t a d fs) (.constr t' a' d' fs') = none) := by
  have : constrIndex t a = none := by simp [constrIndex, h1, h2, h3]
  constructor <;> intros <;> simp [cmp?, this]

theorem cmp_panics_on_missing_any_constructor (d : Bool) (fs : List PData) :
    cmp? (.constr 102 none d fs) (.constr 102 none d fs) = none := by
  simp [cmp?, constrIndex]

theorem chunks_join (bs : Bytes) : (chunks 64 bs).flatten = bs :=
  PlutusData.chunks_join 64 (by decide) bs

/-- chunk shape of the Haskell encoder: 64-byte blocks, then at most one shorter non-empty block -/
theorem chunks_shape (bs : Bytes) : fullThenRest 64 (chunks 64 bs) = true :=
  chunksAux_full 64 (by decide) _ bs (Nat.le_refl _)

/-- byte strings of at most 64 bytes are one definite string; longer ones are an indefinite string of
    the `chunks 64` blocks, each with a minimal head -/
theorem bytes_encoding (bs : Bytes) :
    encode (.bytes bs) =
      if bs.length ≤ 64 then (minHead 2 bs.length).encode ++ bs
      else 0x5f :: (encodeChunks ((chunks 64 bs).map fun c => (minHead 2 c.length, c)) ++ [0xff]) := by
  unfold encode
  simp only [toItem, bbItem]
  split <;> simp [mkBytes, Item.encode, initByte]

theorem encode_single_item (d : PData) (h : fits d = true) : isSingleItem (encode d) = true :=
  isSingleItem_encode _ (toItem_wf d h)

theorem normAny_equiv (d : PData) (hw : wfTag d = true) :
    cmp? (normAny d) d = some .eq ∧ encode (normAny d) = encode d :=
  ⟨by rw [cmp?_eq_cmp _ _ (wfTag_normAny d hw) hw, cmp_normAny_left, Std.ReflCmp.compare_self (cmp := cmp)],
   by unfold encode; rw [toItem_normAny d]⟩

/-- **round trip**: decoding the encoding yields a value that compares equal to the original and
    re-encodes to the same bytes (trailing input is ignored, as `minicbor::decode` does) -/
theorem pdata_roundtrip (d : PData) (r : Bytes) (h : fits d = true) (hw : wfTag d = true) :
    ∃ d', decode (encode d ++ r) = some d' ∧ cmp? d' d = some .eq ∧ encode d' = encode d :=
  ⟨normAny d, decode_encode d r h hw, normAny_equiv d hw⟩

/-- `any_constructor` is `None` on every constructor whose tag is not 102 (what decoding produces) -/
def anyCanonical (d : PData) : Prop := normAny d = d

/-- **round trip, structural**: on values in the decoder's normal form the result is the very same
    value, flags and integer representations included -/
theorem pdata_roundtrip_exact (d : PData) (h : fits d = true) (hw : wfTag d = true) (hc : anyCanonical d) :
    decode (encode d) = some d := by
  rw [← (encode d).append_nil, decode_encode d [] h hw, hc]

/-- decoded values are in normal form, so one round trip reaches the fixed point -/
theorem decode_encode_canonical (d : PData) : anyCanonical (normAny d) := normAny_idem d

/-! ## the byte-level decoder (transcription of the Rust `Decode` impls over minicbor's primitives) -/

/-- the byte-level decoder refines the tree decoder: on **any** valid encoding (canonical or not —
    any head widths, any chunking of byte strings and bignums, definite or indefinite containers)
    that `ofItem` maps to `d`, followed by arbitrary bytes, it returns `d` and stops after the item -/
theorem decoder_refines_tree (i : Item) (d : PData) (r : Bytes) (hw : i.wf = true) (ho : ofItem i = some d) :
    Dec.decodeBytes (i.encode ++ r) = some (d, r) := Dec.decodeBytes_refines i d r hw ho

theorem decodeBytes_encode (d : PData) (r : Bytes) (h : fits d = true) (hw : wfTag d = true) :
    Dec.decodeBytes (encode d ++ r) = some (normAny d, r) :=
  Dec.decodeBytes_refines _ _ r (toItem_wf d h) (ofItem_toItem d h hw)

/-- **round trip through the byte-level decoder**: the result compares equal to the original,
    re-encodes to the same bytes, and exactly the encoding is consumed -/
theorem pdata_roundtrip_bytes (d : PData) (r : Bytes) (h : fits d = true) (hw : wfTag d = true) :
    ∃ d', Dec.decodeBytes (encode d ++ r) = some (d', r) ∧ cmp? d' d = some .eq ∧ encode d' = encode d :=
  ⟨normAny d, decodeBytes_encode d r h hw, normAny_equiv d hw⟩

theorem pdata_roundtrip_bytes_exact (d : PData) (r : Bytes) (h : fits d = true) (hw : wfTag d = true)
    (hc : anyCanonical d) : Dec.decodeBytes (encode d ++ r) = some (d, r) := by
  rw [decodeBytes_encode d r h hw, hc]

/-- any chunking of a byte string decodes to the re-assembled bytes (not only the 64-byte one) -/
theorem bytes_any_chunking (cs : List (Head × Bytes)) (r : Bytes) (hw : chunksWf 2 cs = true) :
    Dec.decodeBytes ((Item.strIndef 2 cs).encode ++ r) = some (.bytes (chunksPayload cs), r) :=
  Dec.decodeBytes_refines _ _ r (by simp [Item.wf, hw]) (by simp [ofItem])

/-- **the decoder is exactly "strict CBOR parser, then the tree decoder"**: it accepts `bs` with
    value `d` and rest `r` iff the first well-formed CBOR item of `bs` is a tree that `ofItem` maps to
    `d` and `r` is what follows that item. (Both directions; nothing lenient, nothing stricter.) -/
theorem decoder_is_parse_then_tree (bs : Bytes) (d : PData) (r : Bytes) :
    Dec.decodeBytes bs = some (d, r) ↔ ∃ i : Item, parseItem bs = some (i, r) ∧ ofItem i = some d :=
  Dec.decodeBytes_iff bs d r

/-- the specification-level decoder and the byte-level decoder are the same function -/
theorem decode_eq_decodeBytes (bs : Bytes) : decode bs = (Dec.decodeBytes bs).map (·.1) :=
  Dec.decode_eq_decodeBytes bs

/-- what the decoder consumes is exactly one well-formed CBOR data item (so a raw span kept
    around a decoded value is that item's bytes, break bytes included) -/
theorem decoded_span_is_one_item (bs : Bytes) (d : PData) (r : Bytes) (h : Dec.decodeBytes bs = some (d, r)) :
    ∃ span, bs = span ++ r ∧ isSingleItem span = true := by
  obtain ⟨i, w, _, e⟩ := Dec.decodeBytes_sound bs d r h
  exact ⟨i.encode, e, isSingleItem_encode i w⟩

/-- **the decoder never leaves the quantifier**: whatever it returns, on any input (malformed,
    lenient, truncated-then-completed …), has valid constructor tags at every depth — so comparing
    decoded values cannot panic — and is in `any_constructor` normal form -/
theorem decoded_in_quantifier (bs : Bytes) (d : PData) (r : Bytes) (h : Dec.decodeBytes bs = some (d, r)) :
    wfTag d = true ∧ anyCanonical d := by
  obtain ⟨i, _, o, _⟩ := Dec.decodeBytes_sound bs d r h
  exact Dec.ofItem_good i d o

/-- decoded values are totally ordered by the library comparison -/
theorem decoded_cmp_total (bs bs' : Bytes) (a b : PData) (r r' : Bytes)
    (ha : Dec.decodeBytes bs = some (a, r)) (hb : Dec.decodeBytes bs' = some (b, r')) :
    ∃ o, cmp? a b = some o ∧ cmp? b a = some o.swap := by
  have wa := (decoded_in_quantifier bs a r ha).1
  have wb := (decoded_in_quantifier bs' b r' hb).1
  refine ⟨cmp a b, cmp?_eq_cmp a b wa wb, ?_⟩
  rw [cmp?_eq_cmp b a wb wa, PlutusData.cmp_swap b a]

/-- round trip from the byte side: re-encoding a decoded value and decoding again gives the very
    same value (`fits` holds for every in-memory Rust value) -/
theorem decode_reencode_stable (bs : Bytes) (d : PData) (r r' : Bytes)
    (h : Dec.decodeBytes bs = some (d, r)) (hf : fits d = true) :
    Dec.decodeBytes (encode d ++ r') = some (d, r') := by
  obtain ⟨hw, hc⟩ := decoded_in_quantifier bs d r h
  exact pdata_roundtrip_bytes_exact d r' hf hw hc

def ex1 : PData := .constr 121 none true [.int (.int 14), .bytes [1, 2, 3], .map false [(.int (.bigU [0, 14]), .array false [])]]
def ex2 : PData := .constr 102 (some 0) false [.int (.bigU [14]), .bytes [1, 2, 3], .map true [(.int (.int 14), .array true [])]]

example : wfTag ex1 = true ∧ wfTag ex2 = true ∧ fits ex1 = true := by decide
example : cmp? ex1 ex2 = some .eq := by decide
example : cmp? (.int (.int (-2))) (.int (.int (-1))) = some .lt := by decide
example : cmp? (.int (.bigN [])) (.int (.int 0)) = some .eq := by decide
example : cmp? (.int (.bigN [0, 5])) (.int (.int (-4))) = some .lt := by decide
example : cmp? (.constr 5 none true []) (.constr 5 none true []) = none := by decide
example : cmp? (.constr 126 none true [.int (.int 999)]) (.constr 1281 none true []) = some .lt := by decide
example : encode (.bytes (List.replicate 65 7)) =
    [0x5f, 0x58, 0x40] ++ List.replicate 64 7 ++ [0x41, 7, 0xff] := by decide
example : decode (encode ex1) = some ex1 := pdata_roundtrip_exact ex1 (by decide) (by decide) rfl
example : chunks 2 [1, 2, 3, 4, 5] = [[1, 2], [3, 4], [5]] := by decide
example : Dec.decodeBytes (encode ex1 ++ [0xaa]) = some (ex1, [0xaa]) :=
  pdata_roundtrip_bytes_exact ex1 [0xaa] (by decide) (by decide) rfl
-- alternative encoding: 2-byte head for the tag, indefinite bytes in chunks of 1 and 0, 8-byte int head
set_option maxRecDepth 8192 in
example : Dec.decodeBytes [0xd9, 0x00, 0x79, 0x9f, 0x5f, 0x41, 0x07, 0x40, 0xff, 0x1b, 0, 0, 0, 0, 0, 0, 0, 5, 0xff] =
    some (.constr 121 none false [.bytes [7], .int (.int 5)], []) := by rfl
-- tag 102: a definite array of exactly two items or an indefinite one closed by its break; other
-- lengths are rejected by both decoders
example : Dec.decodeBytes [0xd8, 0x66, 0x9f, 0x00, 0x80, 0xff, 0x05] = some (.constr 102 (some 0) true [], [0x05]) := by rfl
example : (decode [0xd8, 0x66, 0x9f, 0x00, 0x80, 0xff, 0x05]).isSome = true := by decide
example : Dec.decodeBytes [0xd8, 0x66, 0x83, 0x00, 0x80, 0x05] = none := by rfl
example : decode [0xd8, 0x66, 0x83, 0x00, 0x80, 0x05] = none := by decide
example : Dec.decodeBytes [0xd8, 0x66, 0x9f, 0x00, 0x80, 0x05, 0xff] = none := by rfl

end PallasVerif.Props.C07
