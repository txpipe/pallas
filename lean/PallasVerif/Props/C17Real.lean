import Mathlib.Analysis.Complex.Exponential
import PallasVerif.Props.C17
import PallasVerif.Proofs.DecimalRat
/-!
# C17 (continued) — the same statements on the exact rationals

`Props/C17.lean` states every clause cross-multiplied onto `Int` (core Lean only). Here each is
restated on `val x = data / 10^prec : ℚ` with Mathlib's floor / ceiling, so the theorems read like
the English property. All for every integer and every precision. `floor`, `ceil`, `trunc` store `10^prec`
times an integer quotient and `Mul` stores one (`floor_data`, `ceil_data`, `trunc_data`, `scale_eq_ediv`),
and each quotient has its cast equation in `Proofs/DecimalRat.lean` (`floor_val`, `ceil_val`, `truncQ_val`);
`val_round`, `val_div` and `val_print` are derived from the `Int` theorems of `Props/C17.lean`; the others
unfold the model directly.
-/
namespace PallasVerif.Props.C17Real
open PallasVerif.Decimal PallasVerif.Proofs.Decimal PallasVerif.Props.C17

theorem val_add (x y : Dec) (h : x.prec = y.prec) : val (add x y) = val x + val y := by
  simp only [val, add, ← h]; push_cast; ring

theorem val_sub (x y : Dec) (h : x.prec = y.prec) : val (sub x y) = val x - val y := by
  simp only [val, sub, ← h]; push_cast; ring

theorem val_neg (x : Dec) : val (neg x) = - val x := by
  simp only [val, neg]; push_cast; ring

theorem val_abs (x : Dec) : val (Decimal.abs x) = |val x| := by
  simp only [val, Decimal.abs]
  rw [abs_div, abs_of_pos (ten_pow_pos x.prec), Int.natCast_natAbs, Int.cast_abs]

theorem val_floor (x : Dec) : val (floor x) = (⌊val x⌋ : ℚ) := by
  rw [val_of_integral _ _ (floor_data x), floor_val]

theorem val_ceil (x : Dec) : val (ceil x) = (⌈val x⌉ : ℚ) := by
  rw [val_of_integral _ _ (ceil_data x), ceil_val]

theorem val_trunc (x : Dec) : val (trunc x) = (truncQ (val x) : ℚ) := by
  rw [val_of_integral _ _ (trunc_data x), truncQ_val]

theorem val_round (x : Dec) : (∃ n : Int, val (round x) = (n : ℚ)) ∧ |val (round x) - val x| ≤ 1 / 2 := by
  obtain ⟨hp, ⟨k, hk⟩, h1, h2⟩ := round_spec x
  have hpos := ten_pow_pos x.prec
  refine ⟨⟨k, val_of_integral (round x) k (by rw [hp]; exact hk)⟩, ?_⟩
  have e : val (round x) - val x = (((round x).data : ℚ) - (x.data : ℚ)) / (10 : ℚ) ^ x.prec := by
    rw [val, val, hp, ← sub_div]
  have e1 := (Int.cast_le (R := ℚ)).mpr h1
  have e2 := (Int.cast_le (R := ℚ)).mpr h2
  simp only [Int.cast_mul, Int.cast_sub, Int.cast_ofNat, mult_cast] at e1 e2
  rw [e, abs_le, le_div_iff₀ hpos, div_le_iff₀ hpos]
  exact ⟨by linarith only [e2], by linarith only [e1]⟩

theorem val_mul (x y : Dec) (hx : x.prec = 34) (hy : y.prec = 34) :
    val (mul x y) = (⌊val x * val y * (10 : ℚ) ^ 34⌋ : ℚ) / (10 : ℚ) ^ 34 := by
  -- `val x · val y · 10^34` is the product of the stored integers read at precision 34
  have e : val x * val y * (10 : ℚ) ^ 34 = val ⟨34, x.data * y.data⟩ := by
    simp only [val, hx, hy, Int.cast_mul]; field_simp
  have hP : mult 34 = P := mult_default
  rw [e, floor_val]
  simp only [val, mul, hx, scale_eq_ediv, hP]

theorem val_div (x y : Dec) (hx : x.prec = 34) (hy : y.prec = 34) :
    (y.data = 0 → divD x y = none) ∧
    (y.data ≠ 0 → ∃ z, divD x y = some z ∧ z.prec = 34 ∧
      val z = (truncQ (val x / val y * (10 : ℚ) ^ 34) : ℚ) / (10 : ℚ) ^ 34) := by
  obtain ⟨h1, h2⟩ := div_is_trunc x y
  refine ⟨h2, fun hne => ?_⟩
  refine ⟨_, h1 hne, hx, ?_⟩
  have e : val x / val y * (10 : ℚ) ^ 34 = ((x.data * P : Int) : ℚ) / (y.data : ℚ) := by
    simp only [val, hx, hy]; push_cast; rw [P_cast]; field_simp
  rw [e]
  simp only [val, hx]
  rw [truncQ_div]

theorem val_cmp (x y : Dec) (h : x.prec = y.prec) : partialCmp x y = some (compare (val x) (val y)) := by
  -- at a fixed precision `val` is strictly monotone in `data`, so it preserves `compare`
  have hmono : StrictMono (fun d : Int => (d : ℚ) / (10 : ℚ) ^ y.prec) :=
    fun a b hab => div_lt_div_of_pos_right (Int.cast_lt.mpr hab) (ten_pow_pos _)
  simp only [partialCmp, h, ne_eq, not_true_eq_false, if_false, Option.some.injEq, val]
  exact ((compare_iff _ _).2 (hmono.compares.2 ((compare_iff x.data y.data).1 rfl))).symm

theorem val_print (x : Dec) :
    ∃ (neg : Bool) (ip fp k : Nat), parseDecimal (showChars x) = some (neg, ip, fp, k) ∧
      (if neg then (-1 : ℚ) else 1) * ((ip : ℚ) + (fp : ℚ) / (10 : ℚ) ^ k) = val x := by
  obtain ⟨h1, h2⟩ := toString_exact x
  refine ⟨_, _, _, _, h1, ?_⟩
  have hpos := ten_pow_pos x.prec
  -- the stored integer as `± (ip · 10^prec + fp)`, read in ℚ
  have h2q := congrArg (Int.cast : Int → ℚ) h2
  rw [Int.cast_mul, Int.cast_add, Int.cast_mul, Int.cast_natCast, Int.cast_natCast, mult_cast,
    apply_ite Int.cast, Int.cast_neg, Int.cast_one] at h2q
  -- at precision 0 the fraction is 0, so printing it with one digit changes nothing
  have hb : (((x.data.tmod (mult x.prec)).natAbs : ℕ) : ℚ) / 10 ^ (if x.prec = 0 then 1 else x.prec) =
      ((x.data.tmod (mult x.prec)).natAbs : ℚ) / 10 ^ x.prec := by
    split
    · rename_i hp
      have h0 : (x.data.tmod (mult x.prec)).natAbs = 0 := by rw [hp]; exact congrArg _ (Int.tmod_one _)
      rw [h0, Nat.cast_zero, zero_div, zero_div]
    · rfl
  simp only [decide_eq_true_eq]
  rw [hb, val, ← h2q, mul_div_assoc, add_div, mul_div_cancel_right₀ _ hpos.ne']

end PallasVerif.Props.C17Real
