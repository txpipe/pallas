import PallasVerif.Model.PlutusData
/-!
  Which constructor tags `Constr::constr_index` accepts (`constrIndex`, its total version `cidx`, and the
  decoder's test `isConstrTag`), and that `normAny` — which drops `any_constructor` beside a tag other
  than 102, where `constr_index` does not look at it — changes none of this.
-/
namespace PallasVerif.PlutusData

theorem isConstrTag_iff (t : Nat) : isConstrTag t = true ↔ (121 ≤ t ∧ t ≤ 127) ∨ (1280 ≤ t ∧ t ≤ 1400) := by
  simp [isConstrTag]

/-- `constr_index` does not panic: a tag of one of the two ranges, or 102 with `any_constructor` -/
theorem constrIndex_isSome (t : Nat) (a : Option Nat) :
    (constrIndex t a).isSome = true ↔ isConstrTag t = true ∨ (t = 102 ∧ a.isSome = true) := by
  rw [isConstrTag_iff, constrIndex]
  by_cases h1 : 121 ≤ t ∧ t ≤ 127
  · simp [h1]
  · by_cases h2 : 1280 ≤ t ∧ t ≤ 1400
    · simp [h1, h2]
    · by_cases h3 : t = 102
      · simp [h3]
      · simp [h1, h2, h3]

theorem constrIndex_normAny (t : Nat) (a : Option Nat) :
    constrIndex t (if t = 102 then a else none) = constrIndex t a := by
  by_cases h : t = 102 <;> simp [h, constrIndex]

theorem cidx_of_some {t : Nat} {a : Option Nat} {i : Nat} (h : constrIndex t a = some i) : cidx t a = i := by
  simp [cidx, h]

theorem cidx_normAny (t : Nat) (a : Option Nat) : cidx t (if t = 102 then a else none) = cidx t a := by
  rw [cidx, constrIndex_normAny]; rfl

end PallasVerif.PlutusData
