import PallasVerif.Model.Decimal
import PallasVerif.Proofs.Decimal
import PallasVerif.Proofs.DecimalPrint
/-!
# C17 — Fixed-point arithmetic, rounding and printing are exact

Model: `Model/Decimal.lean` (`IBig` = `Int`, dashu `div_rem` = `tdiv`/`tmod`). A `Dec` with
fields `prec`, `data` denotes the rational `data / 10^prec`; every statement below is that
rational statement cross-multiplied by the (positive) denominators, so it lives on `Int` with no
division left. All theorems are for every `Int` / every precision (no bound).

* add/sub exact (`add_exact`, `sub_exact`, `neg_abs_exact`);
* `Mul` = floor of the exact product at 34 digits (`scale_is_floor`, `mul_is_floor_of_product`);
* `Div` = truncation of the exact quotient at 34 digits, panic iff divisor 0 (`div_is_trunc`; what
  truncation means for any integers: `tdiv_is_truncation`);
* floor / ceil / trunc / round return multiples of `10^prec` (`IsIntegral`) with the bounds their
  names prescribe (`floor_spec`, `ceil_spec`, `ceil_sub_floor`, `trunc_spec`, `round_spec` — round is
  within one half at EVERY precision for the repaired `round`; the unrepaired one is `roundOrig`,
  equal to `round` for `0 < prec` (`roundOrig_eq_round_of_pos`) and wrong at precision 0
  (`roundOrig_fails_at_prec0`));
* comparison = comparison of the rationals (`cmp_iff_rational`);
* printing is exact (`toString_exact`, on the character list `showChars`; `toStr` is
  `String.ofList` of it by definition).
-/
namespace PallasVerif.Props.C17
open PallasVerif.Decimal PallasVerif.Proofs.Decimal

/-- same precision: `data/10^p + data'/10^p = (data + data')/10^p` -/
theorem add_exact (x y : Dec) : (add x y).data = x.data + y.data ∧ (add x y).prec = x.prec := ⟨rfl, rfl⟩

theorem sub_exact (x y : Dec) : (sub x y).data = x.data - y.data ∧ (sub x y).prec = x.prec := ⟨rfl, rfl⟩

theorem neg_abs_exact (x : Dec) :
    (neg x).data = -x.data ∧ ((abs x).data = x.data ∨ (abs x).data = -x.data) ∧ 0 ≤ (abs x).data := by
  refine ⟨rfl, ?_, ?_⟩ <;> simp only [abs] <;> omega

theorem scale_is_floor (z : Int) : scale z = z / P ∧ scale z * P ≤ z ∧ z < (scale z + 1) * P :=
  ⟨scale_eq_ediv z, scale_bounds z⟩

/-- `r/10^34 ≤ (x/10^34)·(y/10^34) < (r+1)/10^34`, cross-multiplied -/
theorem mul_is_floor_of_product (x y : Dec) :
    (mul x y).data * P ≤ x.data * y.data ∧ x.data * y.data < ((mul x y).data + 1) * P ∧
    (mul x y).prec = x.prec :=
  ⟨(scale_bounds _).1, (scale_bounds _).2, rfl⟩

/-- the two-step `div` is the single truncating division of `x·10^34` by `y` -/
theorem div_is_trunc (x y : Dec) :
    (y.data ≠ 0 → divD x y = some { prec := x.prec, data := (x.data * P).tdiv y.data }) ∧
    (y.data = 0 → divD x y = none) := by
  constructor
  · intro h; simp [divD, div_eq_tdiv _ _ h]
  · intro h; simp [divD, h, div_zero]

/-- what truncation means: `q·y` is the multiple of `y` nearest to `n` on the zero side -/
theorem tdiv_is_truncation (n y : Int) (hy : y ≠ 0) :
    (n.tdiv y * y).natAbs ≤ n.natAbs ∧ n.natAbs < (n.tdiv y * y).natAbs + y.natAbs ∧
    (0 ≤ n → 0 ≤ n.tdiv y * y) ∧ (n ≤ 0 → n.tdiv y * y ≤ 0) := by
  -- negating `n` or `y` leaves the magnitudes and swaps at most the two sign clauses; on naturals it is `Nat` division
  induction y using Int.wlog_sign with
  | inv y => simp only [Int.tdiv_neg, Int.neg_mul_neg, Int.natAbs_neg, Int.neg_ne_zero]
  | w m =>
    induction n using Int.wlog_sign with
    | inv n =>
      simp only [Int.neg_tdiv, Int.neg_mul, Int.natAbs_neg, Int.neg_nonneg, Int.neg_le_zero_iff]
      exact and_congr_right' (and_congr_right' and_comm)
    | w k =>
      rw [← Int.ofNat_tdiv, ← Int.natCast_mul, Int.natAbs_natCast, Int.natAbs_natCast, Int.natAbs_natCast]
      exact ⟨Nat.div_mul_le_self k m, Nat.lt_div_mul_add (by omega), fun _ => Int.natCast_nonneg _,
        fun h => by have := Nat.div_mul_le_self k m; omega⟩

/-- `z` is an integer at precision `p`: a multiple of `10^p` -/
def IsIntegral (p : Nat) (z : Int) : Prop := ∃ k : Int, z = mult p * k

theorem floor_spec (x : Dec) :
    (floor x).prec = x.prec ∧ IsIntegral x.prec (floor x).data ∧
    (floor x).data ≤ x.data ∧ x.data < (floor x).data + mult x.prec := by
  have hm := mult_pos x.prec
  refine ⟨rfl, ⟨_, floor_data x⟩, ?_⟩
  rw [floor_data]
  exact ⟨Int.mul_ediv_self_le (by omega), Int.lt_mul_ediv_self_add hm⟩

theorem ceil_spec (x : Dec) :
    (ceil x).prec = x.prec ∧ IsIntegral x.prec (ceil x).data ∧
    x.data ≤ (ceil x).data ∧ (ceil x).data < x.data + mult x.prec := by
  have hm := mult_pos x.prec
  have h1 := Int.mul_ediv_self_le (x := -x.data) (show mult x.prec ≠ 0 by omega)
  have h2 := Int.lt_mul_ediv_self_add (x := -x.data) hm
  refine ⟨rfl, ⟨_, ceil_data x⟩, ?_⟩
  rw [ceil_data, Int.mul_neg]
  omega

theorem ceil_sub_floor (x : Dec) :
    (floor x).data ≤ x.data ∧ x.data ≤ (ceil x).data ∧
    ((ceil x).data - (floor x).data = 0 ∨ (ceil x).data - (floor x).data = mult x.prec) ∧
    ((ceil x).data = (floor x).data ↔ x.data.tmod (mult x.prec) = 0) := by
  have hm := mult_pos x.prec
  -- `-d / m = -(d / m)` when `m ∣ d`, one less otherwise
  have h : (ceil x).data - (floor x).data = if x.data.tmod (mult x.prec) = 0 then 0 else mult x.prec := by
    rw [ceil_data, Int.mul_neg, floor_data, Int.neg_ediv, Int.sign_eq_one_of_pos hm]
    simp only [Int.dvd_iff_tmod_eq_zero]
    split
    · rw [Int.sub_zero, Int.mul_neg]; omega
    · rw [Int.mul_sub, Int.mul_neg, Int.mul_one]; omega
  refine ⟨(floor_spec x).2.2.1, (ceil_spec x).2.2.1, ?_⟩
  split at h
  · exact ⟨Or.inl h, by omega⟩
  · exact ⟨Or.inr h, by omega⟩

theorem trunc_spec (x : Dec) :
    (trunc x).prec = x.prec ∧ IsIntegral x.prec (trunc x).data ∧
    (0 ≤ x.data → 0 ≤ (trunc x).data ∧ (trunc x).data ≤ x.data ∧ x.data < (trunc x).data + mult x.prec) ∧
    (x.data ≤ 0 → (trunc x).data ≤ 0 ∧ x.data ≤ (trunc x).data ∧ (trunc x).data - mult x.prec < x.data) := by
  have hm := mult_pos x.prec
  have hm' := Int.le_of_lt hm
  refine ⟨rfl, ⟨_, trunc_data x⟩, fun hz => ?_, fun hz => ?_⟩
  · rw [trunc_of_nonneg x hz]
    refine ⟨?_, (floor_spec x).2.2⟩
    rw [floor_data]
    exact Int.mul_nonneg hm' (Int.ediv_nonneg hz hm')
  · rw [trunc_of_nonpos x hz]
    obtain ⟨_, _, h1, h2⟩ := ceil_spec x
    refine ⟨?_, h1, by omega⟩
    rw [ceil_data, Int.mul_neg]
    have := Int.mul_nonneg hm' (Int.ediv_nonneg (show 0 ≤ -x.data by omega) hm')
    omega

theorem round_spec (x : Dec) :
    (round x).prec = x.prec ∧ IsIntegral x.prec (round x).data ∧
    2 * ((round x).data - x.data) ≤ mult x.prec ∧ 2 * (x.data - (round x).data) ≤ mult x.prec := by
  obtain ⟨j, hj, b1, b2⟩ := round_core x
  have h := Int.mul_tdiv_add_tmod x.data (mult x.prec)
  refine ⟨round_prec x, ⟨x.data.tdiv (mult x.prec) + j, ?_⟩, by omega, by omega⟩
  rw [Int.mul_add]; omega

/-- the unrepaired `round` agrees with the repaired one at every positive precision … -/
theorem roundOrig_eq_round_of_pos (x : Dec) (hp : 0 < x.prec) : roundOrig x = round x := by
  -- `half ≥ 5 > 0`, so a zero remainder never reaches it and the added test changes nothing
  obtain ⟨n, hn⟩ : ∃ n, x.prec = n + 1 := ⟨x.prec - 1, by omega⟩
  have hge : 10 ≤ mult x.prec := by
    have := mult_pos n
    rw [hn, mult, Int.pow_succ]; unfold mult at this; omega
  have hhalf : 0 < (mult x.prec).tdiv 2 := by
    rw [Int.tdiv_eq_ediv_of_nonneg (by omega)]; omega
  have hc : (x.data.tmod (mult x.prec) ≠ 0 ∧ ((x.data.tmod (mult x.prec)).natAbs : Int) ≥ (mult x.prec).tdiv 2) ↔
      ((x.data.tmod (mult x.prec)).natAbs : Int) ≥ (mult x.prec).tdiv 2 :=
    ⟨And.right, fun h => ⟨fun e => by rw [e] at h; omega, h⟩⟩
  simp only [roundOrig, round, hc]

/-- … and is wrong at precision 0 (DESIGN §6 #8): `round(5) = 6`, `round(-5) = -6` -/
theorem roundOrig_fails_at_prec0 :
    (roundOrig { prec := 0, data := 5 }).data = 6 ∧ (roundOrig { prec := 0, data := -5 }).data = -6 ∧
    ¬ (∀ x : Dec, 2 * ((roundOrig x).data - x.data) ≤ mult x.prec) := by
  refine ⟨by decide, by decide, fun h => ?_⟩
  have := h { prec := 0, data := 5 }
  revert this; decide

/-- cross-multiplied; `partial_cmp` answers only for equal precisions -/
theorem cmp_iff_rational (x y : Dec) :
    (x.prec = y.prec → partialCmp x y = some (compare (x.data * mult y.prec) (y.data * mult x.prec))) ∧
    (x.prec ≠ y.prec → partialCmp x y = none) ∧
    (eq x y = true ↔ x = y) := by
  refine ⟨fun h => ?_, fun h => by simp [partialCmp, h], ?_⟩
  · have hm := mult_pos y.prec
    simp only [partialCmp, h, ne_eq, not_true_eq_false, if_false, Option.some.injEq]
    simp only [compare, compareOfLessAndEq]
    have e1 : (x.data * mult y.prec < y.data * mult y.prec) ↔ x.data < y.data :=
      Int.mul_lt_mul_right hm
    have e2 : (x.data * mult y.prec = y.data * mult y.prec) ↔ x.data = y.data :=
      Int.mul_eq_mul_right_iff (by omega)
    simp only [e1, e2]
  · cases x; cases y; simp [eq]

/-- the printed characters parse (sign, digits, point, digits) to the stored value, including small
    negatives such as `-0.00…05`; the fraction has `prec` digits (one `0` at precision 0) -/
theorem toString_exact (x : Dec) :
    parseDecimal (showChars x) =
      some (decide (x.data < 0), (x.data.tdiv (mult x.prec)).natAbs, (x.data.tmod (mult x.prec)).natAbs,
            if x.prec = 0 then 1 else x.prec) ∧
    (if x.data < 0 then -1 else 1) *
      (((x.data.tdiv (mult x.prec)).natAbs : Int) * mult x.prec + ((x.data.tmod (mult x.prec)).natAbs : Int))
      = x.data := by
  have hm := mult_pos x.prec
  constructor
  · rw [← parse_print _ _ _ _ (Int.ofNat_lt.mp (by rw [Int.natCast_pow]; exact natAbs_tmod_lt _ _ hm))]
    simp only [showChars, decide_eq_true_eq, List.append_assoc, List.cons_append, List.nil_append]
  · have h := congrArg (Nat.cast (R := Int)) (natAbs_tdiv_tmod x.data (mult x.prec))
    rw [Int.natCast_add, Int.natCast_mul, Int.natAbs_of_nonneg (Int.le_of_lt hm)] at h
    rw [h]
    split <;> omega

/-! ## non-vacuity and concrete values (the hand-picked cases of the repository's tests, and the ones they
    lack: negative remainders, half-way points at other precisions, small negatives) -/
example : toStr { prec := 34, data := -5 } = "-0.0000000000000000000000000000000005" := by decide
example : toStr { prec := 0, data := 5 } = "5.0" := by decide
example : toStr { prec := 3, data := -1500 } = "-1.500" := by decide
example : (round { prec := 3, data := -1500 }).data = -2000 := by decide
example : (round { prec := 3, data := 1499 }).data = 1000 := by decide
example : (round { prec := 0, data := 5 }).data = 5 := by decide
example : (floor { prec := 3, data := -1 }).data = -1000 := by decide
example : (ceil { prec := 3, data := -1 }).data = 0 := by decide
example : (mul { prec := 34, data := -1 } { prec := 34, data := 1 }).data = -1 := by decide
example : divD { prec := 34, data := -1 } { prec := 34, data := 3 * P } = some { prec := 34, data := 0 } := by decide
example : divD { prec := 34, data := 1 } { prec := 34, data := 0 } = none := by decide
example : partialCmp { prec := 34, data := -1 } { prec := 34, data := 0 } = some .lt := by decide

end PallasVerif.Props.C17
