import PallasVerif.Proofs.SchemaMain
import PallasVerif.Model.SchemaHand
/-! The hand-modelled leaf codecs satisfy `CustomsGood`, the hypothesis of `enc_dec_good`. (The chain-half counterpart
    `customs_iso` holds for the empty reason that these codecs call no item canonical; it stands in `Props/C06.lean`.) -/
namespace PallasVerif.Schema

namespace Hand

theorem cmLookup_unknown (k : Nat) (hk : k < 3) : ∀ (unk : List Value), unk.all cmUnknownKey = true → cmLookup k unk = .none := by
  intro unk
  induction unk with
  | nil => intro _; rfl
  | cons x r ih =>
    intro h
    simp only [List.all_cons, Bool.and_eq_true] at h
    have hx := h.1
    unfold cmUnknownKey at hx
    split at hx
    · rename_i k' cm
      simp only [decide_eq_true_eq] at hx
      have hne : ¬ k' = k := by omega
      simp [cmLookup, hne, ih h.2]
    · simp at hx

theorem isOptVal_cases {a : Value} (h : isOptVal a = true) : a = .none ∨ ∃ x, a = .some x := by
  cases a <;> simp [isOptVal] at h
  · exact Or.inl rfl
  · exact Or.inr ⟨_, rfl⟩

theorem cmSplit_combine (v m : Value) (h : cmCombine v = some m) : cmSplit m = some v := by
  unfold cmCombine at h
  split at h
  · rename_i a b c unk
    simp only [Option.ite_none_right_eq_some, Bool.and_eq_true, Option.some.injEq] at h
    obtain ⟨⟨⟨⟨ha, hb⟩, hcc⟩, hu⟩, rfl⟩ := h
    have hf : unk.filter cmUnknownKey = unk :=
      List.filter_eq_self.mpr (by simpa [List.all_eq_true] using hu)
    have l0 := cmLookup_unknown 0 (by omega) unk hu
    have l1 := cmLookup_unknown 1 (by omega) unk hu
    have l2 := cmLookup_unknown 2 (by omega) unk hu
    rcases isOptVal_cases ha with rfl | ⟨x, rfl⟩ <;>
    rcases isOptVal_cases hb with rfl | ⟨y, rfl⟩ <;>
    rcases isOptVal_cases hcc with rfl | ⟨z, rfl⟩ <;>
    simp [cmSplit, cmEntry, cmLookup, l0, l1, l2, cmUnknownKey, hf]
  · simp at h

/-- a leaf: the encoder itself refuses values with raws, and the decoder returns the very value -/
theorem costModels_good : Good encCostModels decCostModels [.map] False := by
  apply Good.leaf; intro v it he
  unfold encCostModels at he
  cases hc : cmCombine v with
  | none => simp [hc] at he
  | some m =>
    simp only [hc, Option.ite_none_right_eq_some] at he
    obtain ⟨hm, he⟩ := he
    -- the map of cost models is a `BTreeMap<u64, Vec<i64>>` without raws; what is left is `cmSplit ∘ cmCombine`
    have hg := good_btmap (nrk := True) (nrv := True) (good_uint 64 True (by simp)) trivial
      (good_vec (good_sint 64 True (by simp)))
    obtain ⟨w, t, m', dd, _, nn⟩ := hg m it hm he
    cases nn trivial
    exact ⟨w, t, by simp [decCostModels, dd, cmSplit_combine v m hc]⟩

theorem customs_good (types : List EnvEntry) : CustomsGood ⟨types, customs⟩ := by
  intro i c hi
  cases i with
  | zero =>
    simp [customs] at hi
    subst hi
    exact costModels_good
  | succ i => simp [customs] at hi

end Hand
end PallasVerif.Schema
