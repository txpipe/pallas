import PallasVerif.Proofs.FlatEnc
import PallasVerif.Proofs.FlatDec
/-!
# C01 — Flat codec round-trips any sequence of values at any bit alignment

`Model/Flat.lean` is the transcription of `encoder.rs` / `decoder.rs` (`used_bits`, `current_byte`,
`pos`, the shifts and masks, the special arms of `bits`, the 255-byte chunking, the word loops) that
the stream `flat` runs against the real crate. The proofs relate that code to a bit-string
specification (`Value.spec`: which bits a value contributes when it starts at bit offset `off`), the two
sides separately: every encoder call appends exactly the specified bits (`Proofs/FlatEnc`;
`enc_appends`), and a decoder call on bits that start with them returns the value and advances by their
number (`Proofs/FlatDec`; `dec_reads`).

The property itself is `flat_roundtrip`: for **every** finite sequence of well-formed values
(booleans, bytes, `bits(n, v)`, words, signed integers, chars, byte strings, UTF-8 strings, boolean
lists, char strings), written one after another by a single encoder and terminated by the filler,
the same sequence of decoder calls returns exactly the same values, the final filler decodes, and
the decoder ends at `pos = len`, `used_bits = 0`. `flat_roundtrip_from` is the same from an
arbitrary earlier encoder state, i.e. for every starting bit offset 0..7 and any earlier content.
Well-formedness (`Value.WF`) is what the Rust types guarantee (`usize`, `isize`, `char`, `&str`) plus
`val < 2^num_bits` for `bits`.
-/
namespace PallasVerif.Props.C01
open PallasVerif.Flat

/-- zigzag round trip on all of `isize` (indeed on all integers) -/
theorem unzigzag_zigzag (i : Int) : unzigzag (zigzag i) = i := PallasVerif.Flat.unzigzag_zigzag i

theorem enc_appends (e : Enc) (h : e.Inv) (v : Value) (hv : v.WF) :
    ∃ e', e.value v = .ok e' ∧ e'.Inv ∧ e'.written = e.written ++ v.spec e.written.length :=
  Enc.value_ext e h v hv

theorem dec_reads (d : Dec) (hu : d.used < 8) (v : Value) (hv : v.WF) (rest : List Bool)
    (h : d.rem = v.spec d.cursor ++ rest) :
    ∃ d', d.value v.kind = .ok v d' ∧ d'.buf = d.buf ∧ d'.used < 8 ∧
      d'.cursor = d.cursor + (v.spec d.cursor).length ∧ d'.rem = rest :=
  ⟨_, Dec.value_reads d hu v hv rest h, (d.dropBits_buf _), (d.dropBits_used _), (d.dropBits_cursor _),
    Dec.rem_dropBits h⟩

/-- 255-byte chunking: a byte string of any length (0, 255, 256, 510, … are instances) is read back
    from its block encoding, wherever it sits in the buffer -/
theorem blk_roundtrip (pre bs post : List Byte) :
    ∃ d', (Dec.mk (pre ++ Enc.blk bs ++ post) pre.length 0).byteArray = .ok bs d' ∧
      d'.pos = pre.length + (Enc.blk bs).length ∧ d'.used = 0 := by
  have h : (Dec.mk (pre ++ Enc.blk bs ++ post) pre.length 0).rem = bitsOf (Enc.blk bs) ++ bitsOf post := by
    simp [Dec.rem, Dec.cursor]
  refine ⟨_, Dec.byteArray_reads _ rfl bs _ h, ?_, ?_⟩ <;> simp only [Dec.dropBits, bitsOf_length] <;> omega

/-- **C01 (general form).** From any encoder state `e0` (any earlier content, any bit offset
    `e0.used ∈ 0..7`): encode `vs`, terminate with the filler; a decoder placed where `e0` stood
    decodes exactly `vs` with the same sequence of calls, then the filler, and ends exactly at the
    end of the buffer. -/
theorem flat_roundtrip_from (e0 : Enc) (h0 : e0.Inv) (vs : List Value) (hvs : ∀ v ∈ vs, v.WF) :
    ∃ e, e0.seq vs = .ok e ∧
      ∃ d d', (Dec.mk e.filler.buf e0.buf.length e0.used).seq (vs.map Value.kind) = .ok vs d ∧
        d.filler = .ok () d' ∧ d'.pos = d'.buf.length ∧ d'.used = 0 := by
  obtain ⟨e, he, hinv, hw⟩ := Enc.seq_ext e0 h0 vs hvs
  refine ⟨e, he, ?_⟩
  let d0 : Dec := ⟨e.filler.buf, e0.buf.length, e0.used⟩
  have hc0 : d0.cursor = e0.written.length := by simp [d0, Dec.cursor, Enc.written_length e0 h0.1]
  have hB : bitsOf d0.buf = e0.written ++ (specSeq d0.cursor vs ++ fillerBits e.used) := by
    rw [hc0, show d0.buf = e.filler.buf from rfl, Enc.filler_buf e hinv, hw, List.append_assoc]
  have hr0 : d0.rem = specSeq d0.cursor vs ++ fillerBits e.used := by
    rw [Dec.rem, hB]
    exact List.drop_left' hc0.symm
  exact ⟨_, _, Dec.seq_reads d0 h0.1 vs hvs _ hr0, Dec.filler_ends (d0.dropBits_used _) (Dec.rem_dropBits hr0)⟩

/-- **C01.** Any sequence of well-formed values written by a fresh encoder and terminated by the
    filler decodes, with the same sequence of decoder calls, to exactly the same values, and
    decoding consumes the whole buffer. -/
theorem flat_roundtrip (vs : List Value) (hvs : ∀ v ∈ vs, v.WF) :
    ∃ e, Enc.new.seq vs = .ok e ∧
      ∃ d d', (Dec.new e.filler.buf).seq (vs.map Value.kind) = .ok vs d ∧
        d.filler = .ok () d' ∧ d'.pos = d'.buf.length ∧ d'.used = 0 :=
  flat_roundtrip_from Enc.new Enc.inv_new vs hvs

/-- `flat::decode(&flat::encode(&v)) = Ok(v)` for the top-level functions of `mod.rs` -/
theorem encode_decode_top (v : Value) (hv : v.WF) :
    ∃ bytes d, encodeTop v = some bytes ∧ decodeTop v.kind bytes = .ok v d ∧ d.pos = bytes.length ∧ d.used = 0 := by
  obtain ⟨e, he, hinv, hw⟩ := Enc.value_ext Enc.new Enc.inv_new v hv
  have hr0 : (Dec.new e.filler.buf).rem = v.spec (Dec.new e.filler.buf).cursor ++ fillerBits e.used := by
    show List.drop 0 (bitsOf e.filler.buf) = _
    rw [Enc.filler_buf e hinv, hw]
    rfl
  have hd := Dec.value_reads (Dec.new e.filler.buf) (Nat.zero_lt_succ 7) v hv _ hr0
  obtain ⟨hf, hp, hu⟩ := Dec.filler_ends (Dec.dropBits_used _ _) (Dec.rem_dropBits hr0)
  exact ⟨e.filler.buf, _, by simp [encodeTop, he], by simp [decodeTop, hd, hf], hp, hu⟩

/-- the encoder never fails or panics on well-formed values (`Result`s are `Ok`, no shift traps) and
    keeps its invariant -/
theorem enc_total (e0 : Enc) (h0 : e0.Inv) (vs : List Value) (hvs : ∀ v ∈ vs, v.WF) :
    ∃ e, e0.seq vs = .ok e ∧ e.Inv :=
  let ⟨e, he, hi, _⟩ := Enc.seq_ext e0 h0 vs hvs
  ⟨e, he, hi⟩

/-- **lists with any element codec.** If the element encoder appends `spec a` and the element decoder
    reads `spec a` back (for the items of the list), then `encode_list_with` / `decode_list_with`
    round-trip the list at any bit offset, in front of any following bits. -/
theorem list_roundtrip_generic {α : Type} (f : Enc → α → Option Enc) (g : Dec → Res α) (spec : α → List Bool)
    (items : List α)
    (hf : ∀ a ∈ items, ∀ e : Enc, e.Inv → ∃ e', f e a = some e' ∧ e'.Inv ∧ e'.written = e.written ++ spec a)
    (hg : ∀ a ∈ items, ∀ (d : Dec) (rest : List Bool), d.used < 8 → d.rem = spec a ++ rest →
      ∃ d', g d = .ok a d' ∧ d'.buf = d.buf ∧ d'.used < 8 ∧ d'.cursor = d.cursor + (spec a).length)
    (e : Enc) (he : e.Inv) :
    ∃ e', Enc.list f e items = some e' ∧ e'.Inv ∧ e'.written = e.written ++ listBits spec items ∧
      ∀ (d : Dec) (rest : List Bool), d.used < 8 → d.rem = listBits spec items ++ rest →
        ∃ d', Dec.list g d = .ok items d' ∧ d'.buf = d.buf ∧ d'.used < 8 ∧
          d'.cursor = d.cursor + (listBits spec items).length := by
  obtain ⟨e', h1, h2, h3⟩ := Enc.list_ext f spec items hf e he
  refine ⟨e', h1, h2, h3, fun d rest hu hr => ⟨_, Dec.list_reads g spec items ?_ d hu rest hr, rfl, d.dropBits_used _,
    d.dropBits_cursor _⟩⟩
  intro a ha d hu rest hr
  obtain ⟨d', hb, h1, h2, h3⟩ := hg a ha d rest hu hr
  rw [hb, Dec.eq_dropBits h1 h2 h3]

/-- **wire format.** The buffer produced for `vs` is, bit for bit, the concatenation of the specified
    encodings followed by the filler — independent of `used_bits` / `current_byte` bookkeeping. -/
theorem enc_wire_format (vs : List Value) (hvs : ∀ v ∈ vs, v.WF) :
    ∃ e, Enc.new.seq vs = .ok e ∧
      bitsOf e.filler.buf = specSeq 0 vs ++ fillerBits ((specSeq 0 vs).length % 8) := by
  obtain ⟨e, he, hinv, hw⟩ := Enc.seq_ext Enc.new Enc.inv_new vs hvs
  refine ⟨e, he, ?_⟩
  have h0 : Enc.new.written = [] := rfl
  rw [Enc.filler_buf e hinv, ← Enc.written_length_mod e hinv.1, hw, h0]
  rfl

/-! ## Non-vacuity -/

/-- a 600-byte string (three blocks) starting at bit offset 5, followed by more values -/
def sample : List Value :=
  [.bool true, .bool false, .bool true, .bool true, .bool false,
   .bytes (List.replicate 600 0xA5#8), .int (-3), .word 300, .bits 3 5#8, .char 0x1D11E,
   .utf8 [0xE2#8, 0x82#8, 0xAC#8], .bools [true, false], .u8 0xFF#8, .string [0x61, 0x20AC]]

example : ∀ v ∈ sample, v.WF := by decide
example : (match Enc.new.seq sample with | .ok e => e.filler.buf.length | _ => 0) = 623 := by decide +kernel
example : (Enc.new.seq [.bool true, .u8 0x81#8]) = .ok ⟨[0xC0#8], 1, 0x80#8⟩ := by decide
example : Value.WF (.bits 3 5#8) ∧ ¬ Value.WF (.bits 3 9#8) ∧ ¬ Value.WF (.char 0xD800) := by decide
/-- `bits(0, _)` on a byte boundary is outside `WF`: the real encoder traps on `val << 8` -/
example : Enc.new.bits 0 0#8 = none := by decide

end PallasVerif.Props.C01
