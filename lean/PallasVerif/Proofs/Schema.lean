import PallasVerif.Model.Schema
import PallasVerif.Proofs.Cbor
/-!
  `Good e d K nr` is the contract of one (encoder, decoder) pair: on raw-free values every produced item is well
  formed, starts with a datatype in `K`, and decodes back to the value up to retained raws (exactly, when the schema
  holds no `KeepRaw`). Before it, what the typed decoders see of the items `mk*` builds; after it and its list
  lemmas, what both inductions on the fuel share.
-/
namespace PallasVerif.Schema
open PallasVerif.Cbor

theorem mkUInt_uint (n : Nat) (h : n < 2 ^ 64) : (mkUInt n).uint? = some n := by
  simp [mkUInt, Item.uint?, minHead_major, minHead_val 0 n h]

theorem mkUInt_int (n : Nat) (h : n < 2 ^ 64) : (mkUInt n).int? = some (n : Int) := by
  simp [mkUInt, Item.int?, minHead_major, minHead_val 0 n h]

theorem mkInt_int (i : Int) (h1 : -(2 ^ 64 : Int) ≤ i) (h2 : i < (2 ^ 64 : Int)) : (mkInt i).int? = some i := by
  unfold mkInt; split
  · have := mkUInt_int i.toNat (by omega)
    simp only [mkUInt] at this
    rw [this]; congr 1; omega
  · simp only [Item.int?, minHead_major]
    rw [minHead_val 1 _ (show (-1 - i).toNat < 2 ^ 64 by omega)]
    simp; omega

theorem intInBits_range (b : Nat) (i : Int) (hb : b = 8 ∨ b = 16 ∨ b = 32 ∨ b = 64) (h : intInBits b i = true) :
    -(2 ^ 63 : Int) ≤ i ∧ i < (2 ^ 63 : Int) := by
  simp only [intInBits, Bool.and_eq_true, decide_eq_true_eq] at h
  rcases hb with rfl | rfl | rfl | rfl <;> omega

theorem intInBits_nat (n : Nat) (h : n < 2 ^ 63) : intInBits 64 (n : Int) = true := by
  simp [intInBits]; omega

theorem typeOf_uint_atom (h : Head) (hm : h.major = 0) (ha : h.ai ≤ 27) :
    typeOf (.atom h) ∈ [Ty.u8, .u16, .u32, .u64] := by
  have : h.ai ≤ 24 ∨ h.ai = 25 ∨ h.ai = 26 ∨ h.ai = 27 := by omega
  rcases this with c | c | c | c <;> simp [typeOf, hm, c]

/-- `type_of` on a major-1 head: the width is that of the argument, one step wider when its top bit is set -/
theorem typeOf_neg_atom (h : Head) (hm : h.major = 1) (ha : h.ai ≤ 27) :
    typeOf (.atom h) ∈ Ty.int :: intKinds := by
  have : h.ai < 24 ∨ h.ai = 24 ∨ h.ai = 25 ∨ h.ai = 26 ∨ h.ai = 27 := by omega
  rcases this with c | c | c | c | c <;> cases hf : firstArgHigh h.arg <;> simp [typeOf, hm, c, hf, intKinds]

theorem mkUInt_typeOf (n : Nat) : typeOf (mkUInt n) ∈ [Ty.u8, .u16, .u32, .u64] :=
  typeOf_uint_atom _ (minHead_major 0 n) (minHead_ai_le 0 n)

theorem mkInt_typeOf (i : Int) : typeOf (mkInt i) ∈ Ty.int :: intKinds := by
  unfold mkInt; split
  · exact List.mem_cons_of_mem _ (List.mem_append_left [Ty.i8, .i16, .i32, .i64] (mkUInt_typeOf i.toNat))
  · exact typeOf_neg_atom _ (minHead_major 1 _) (minHead_ai_le 1 _)

theorem mkUndefined_wf : mkUndefined.wf = true := by decide
theorem mkBool_wf (b : Bool) : (mkBool b).wf = true := Cbor.mkBool_wf b

theorem mkArray_typeOf (xs : List Item) : typeOf (mkArray xs) = .array := by
  simp [mkArray, typeOf, minHead_major]
theorem mkBytes_typeOf (b : Bytes) : typeOf (mkBytes b) = .bytes := by
  simp [mkBytes, typeOf, minHead_major]
theorem mkText_typeOf (b : Bytes) : typeOf (mkText b) = .string := by
  simp [mkText, typeOf, minHead_major]
theorem mkTag_typeOf (t : Nat) (i : Item) : typeOf (mkTag t i) = .tag := by
  simp [mkTag, typeOf]
theorem mkMapFlat_typeOf (xs : List Item) : typeOf (mkMapFlat xs) = .map := by
  simp [mkMapFlat, typeOf, minHead_major]

theorem mkArray_items (xs : List Item) : (mkArray xs).arrayItems? = some xs := by
  simp [mkArray, Item.arrayItems?, minHead_major]

theorem flattenPairs_length (ps : List (Item × Item)) : (flattenPairs ps).length = 2 * ps.length := by
  induction ps with
  | nil => rfl
  | cons p ps ih => obtain ⟨k, v⟩ := p; simp [flattenPairs, ih]; omega

theorem pairUp_flatten (ps : List (Item × Item)) : pairUp (flattenPairs ps) = ps := by
  induction ps with
  | nil => rfl
  | cons p ps ih => obtain ⟨k, v⟩ := p; simp [flattenPairs, pairUp, ih]

theorem mkMapFlat_pairUp (xs : List Item) : (mkMapFlat xs).mapEntries? = some (pairUp xs) := by
  simp [mkMapFlat, Item.mapEntries?, minHead_major]

theorem mkMapFlat_entries (ps : List (Item × Item)) : (mkMapFlat (flattenPairs ps)).mapEntries? = some ps := by
  rw [mkMapFlat_pairUp, pairUp_flatten]

theorem mkMapFlat_wf (ps : List (Item × Item)) (h : ps.length < 2 ^ 64) (hw : wfList (flattenPairs ps) = true) :
    (mkMapFlat (flattenPairs ps)).wf = true := by
  simp [mkMapFlat, Item.wf, minHead_wf 5 _ (by omega), minHead_major, minHead_ai_ne, seqCount,
    minHead_val 5 _ h, hw, flattenPairs_length]

theorem mapOpt_cons_some {α β} {f : α → Option β} {x : α} {xs : List α} {r : List β} (h : mapOpt f (x :: xs) = some r) :
    ∃ y ys, f x = some y ∧ mapOpt f xs = some ys ∧ r = y :: ys := by
  simp only [mapOpt] at h
  cases h1 : f x <;> cases h2 : mapOpt f xs <;> simp [h1, h2] at h
  exact ⟨_, _, rfl, rfl, h.symm⟩

theorem stripList_eq_map (vs : List Value) : stripList vs = vs.map Value.strip := by
  induction vs with
  | nil => simp [stripList]
  | cons x xs ih => simp [stripList, ih]

mutual
theorem strip_of_rawFree : ∀ (v : Value), v.rawFree = true → v.strip = v
  | .list vs, h => by
    simp only [Value.rawFree] at h
    simp [Value.strip, stripList_of_rawFree vs h]
  | .some v, h => by
    simp only [Value.rawFree] at h
    simp [Value.strip, strip_of_rawFree v h]
  | .variant p vs, h => by
    simp only [Value.rawFree] at h
    simp [Value.strip, stripList_of_rawFree vs h]
  | .raw r v, h => by
    simp only [Value.rawFree, Bool.and_eq_true, Option.isNone_iff_eq_none] at h
    obtain ⟨rfl, hv⟩ := h
    simp [Value.strip, strip_of_rawFree v hv]
  | .nat _, _ | .int _, _ | .bytes _, _ | .text _, _ | .bool _, _ | .unit, _ | .none, _ | .any _, _ => by
    simp [Value.strip]
theorem stripList_of_rawFree : ∀ (vs : List Value), rawFreeList vs = true → stripList vs = vs
  | [], _ => by simp [stripList]
  | x :: xs, h => by
    simp only [rawFreeList, Bool.and_eq_true] at h
    simp [stripList, strip_of_rawFree x h.1, stripList_of_rawFree xs h.2]
end

/-- `nr` is instantiated with "the schema holds no `KeepRaw`" (`NR`, `Proofs/SchemaMain.lean`): the conjunction of
    the parts' `nr`, `False` at `keepRaw` -/
def Good (e : Value → Option Item) (d : Item → Option Value) (K : List Ty) (nr : Prop) : Prop :=
  ∀ v it, v.rawFree = true → e v = some it →
    it.wf = true ∧ typeOf it ∈ K ∧ ∃ v', d it = some v' ∧ v'.strip = v ∧ (nr → v' = v)

theorem Good.mono {e d K K' nr nr'} (h : Good e d K nr) (hk : ∀ t, t ∈ K → t ∈ K') (hn : nr' → nr) :
    Good e d K' nr' := by
  intro v it hr he
  obtain ⟨h1, h2, v', h3, h4, h5⟩ := h v it hr he
  exact ⟨h1, hk _ h2, v', h3, h4, fun x => h5 (hn x)⟩

theorem Good.nr_mono {e d K nr nr'} (h : Good e d K nr) (hn : nr' → nr) : Good e d K nr' :=
  h.mono (fun _ ht => ht) hn

theorem Good.leaf {e d K nr} (h : ∀ v it, e v = some it → it.wf = true ∧ typeOf it ∈ K ∧ d it = some v) :
    Good e d K nr := by
  intro v it hr he
  obtain ⟨h1, h2, h3⟩ := h v it he
  exact ⟨h1, h2, v, h3, strip_of_rawFree v hr, fun _ => rfl⟩

theorem mapOpt_good {e d K nr} (h : Good e d K nr) (vs : List Value) (items : List Item)
    (hr : rawFreeList vs = true) (he : mapOpt e vs = some items) :
      wfList items = true ∧ items.length = vs.length ∧
      ∃ vs', mapOpt d items = some vs' ∧ stripList vs' = vs ∧ (nr → vs' = vs) := by
  fun_induction mapOpt e vs generalizing items with
  | case1 => cases he; exact ⟨rfl, rfl, [], rfl, rfl, fun _ => rfl⟩
  | case2 x xs y ys h2 h1 ih =>
    cases he
    simp only [rawFreeList, Bool.and_eq_true] at hr
    obtain ⟨w1, _, v', d1, s1, n1⟩ := h x y hr.1 h1
    obtain ⟨w2, l2, vs', d2, s2, n2⟩ := ih ys hr.2 h2
    exact ⟨by simp [wfList, w1, w2], by simp [l2], v' :: vs', by simp [mapOpt, d1, d2], by simp [stripList, s1, s2],
      fun hn => by rw [n1 hn, n2 hn]⟩
  | case3 => cases he

theorem zipOpt_good {e : Schema → Value → Option Item} {d : Schema → Item → Option Value}
    {K : Schema → List Ty} {nr : Schema → Prop}
    (fs : List Schema) (hg : ∀ s, s ∈ fs → Good (e s) (d s) (K s) (nr s))
    (vs : List Value) (items : List Item) (hr : rawFreeList vs = true) (he : zipOpt e fs vs = some items) :
      wfList items = true ∧ items.length = fs.length ∧
      ∃ vs', zipOpt d fs items = some vs' ∧ stripList vs' = vs ∧ ((∀ s, s ∈ fs → nr s) → vs' = vs) := by
  fun_induction zipOpt e fs vs generalizing items with
  | case1 => cases he; exact ⟨rfl, rfl, [], rfl, rfl, fun _ => rfl⟩
  | case2 s fs x xs y ys h2 h1 ih =>
    cases he
    simp only [rawFreeList, Bool.and_eq_true] at hr
    obtain ⟨w1, _, v', d1, s1, n1⟩ := hg s (by simp) x y hr.1 h1
    obtain ⟨w2, l2, vs', d2, s2, n2⟩ := ih (fun t ht => hg t (by simp [ht])) ys hr.2 h2
    exact ⟨by simp [wfList, w1, w2], by simp [l2], v' :: vs', by simp [zipOpt, d1, d2], by simp [stripList, s1, s2],
      fun hn => by rw [n1 (hn s (by simp)), n2 (fun t ht => hn t (by simp [ht]))]⟩
  | case3 | case4 => cases he

theorem enc_ref {env : Env} {i : Nat} {en : EnvEntry} (h : env.types[i]? = some en) (f : Nat) :
    enc env (f + 1) (.ref i) = enc env f en.schema := by funext v; simp [enc, h]
theorem dec_ref {env : Env} {i : Nat} {en : EnvEntry} (h : env.types[i]? = some en) (f : Nat) :
    dec env (f + 1) (.ref i) = dec env f en.schema := by funext v; simp [dec, h]
theorem enc_custom {env : Env} {i : Nat} {c : Custom} (h : env.customs[i]? = some c) (f : Nat) :
    enc env (f + 1) (.custom i) = c.enc := by funext v; simp [enc, h]
theorem dec_custom {env : Env} {i : Nat} {c : Custom} (h : env.customs[i]? = some c) (f : Nat) :
    dec env (f + 1) (.custom i) = c.dec := by funext v; simp [dec, h]

/-! `ok` at the nodes where it is not one unfolding: `byType` (the `many` arm sits under a `match`), `sumOther`, `ref`,
    `custom`. Elsewhere both inductions unfold `ok` in place. -/

section
variable {env : Env} {fo : Nat}

theorem subset_mem {a b : List Ty} (h : subset a b = true) : ∀ t, t ∈ a → t ∈ b := by
  intro t ht
  simp only [subset, List.all_eq_true, List.contains_eq_mem, decide_eq_true_eq] at h
  exact h t ht

theorem ok_sumOther {b : Nat} {vs : List (Nat × List Schema)} {o : List Schema}
    (h : ok env (fo + 1) (.sumOther b vs o) = true) :
    (b = 8 ∨ b = 16) ∧ distinctNats (vs.map (·.1)) = true ∧
    (∀ v, v ∈ vs → v.1 < 2 ^ b ∧ v.2.length < 2 ^ 63 ∧ ∀ s, s ∈ v.2 → ok env fo s = true) ∧
    o.length < 2 ^ 63 ∧ ∀ s, s ∈ o → ok env fo s = true := by
  simpa only [ok, Bool.and_eq_true, Bool.or_eq_true, beq_iff_eq, List.all_eq_true, decide_eq_true_eq, and_assoc] using h

theorem ok_byType {alts : List (Nat × List Ty × Schema)} {many : Option (Nat × List Schema)} :
    ok env (fo + 1) (.byType alts many) = true →
    distinctNats (alts.map (·.1) ++ (match many with | some m => [m.1] | none => [])) = true ∧
    (∀ a, a ∈ alts → ok env fo a.2.2 = true ∧ ∀ t, t ∈ kinds env a.2.2 → t ∈ a.2.1) ∧ altsDisjoint alts = true ∧
    ∀ mp ms, many = some (mp, ms) →
      ms.length < 2 ^ 64 ∧ (∀ s, s ∈ ms → ok env fo s = true) ∧ ∀ a, a ∈ alts → Ty.array ∉ a.2.1 := by
  intro h
  simp only [ok, Bool.and_eq_true, List.all_eq_true] at h
  obtain ⟨⟨⟨hd, ha⟩, hdis⟩, hm⟩ := h
  refine ⟨hd, fun a h => ⟨(ha a h).1, subset_mem (ha a h).2⟩, hdis, ?_⟩
  rintro mp ms rfl
  simpa only [Bool.and_eq_true, List.all_eq_true, decide_eq_true_eq, Bool.not_eq_true', List.contains_eq_mem,
    decide_eq_false_iff_not, and_comm, and_assoc] using hm

/-- `Env.valid` has run the check on every entry at `okFuel` -/
theorem ok_ref {i : Nat} (hv : env.valid = true) (h : ok env (fo + 1) (.ref i) = true) :
    ∃ en, env.types[i]? = some en ∧ ok env okFuel en.schema = true ∧
      (∀ t, t ∈ kinds env en.schema → t ∈ en.kinds) ∧ (en.noRaw = true → noRaw env okFuel en.schema = true) := by
  simp only [ok, decide_eq_true_eq] at h
  simp only [Env.valid, List.all_eq_true, Bool.and_eq_true, Bool.or_eq_true, Bool.not_eq_true'] at hv
  obtain ⟨⟨h1, h2⟩, h3⟩ := hv _ (List.getElem_mem h)
  refine ⟨_, List.getElem?_eq_getElem h, h1, subset_mem h2, fun hn => h3.resolve_left ?_⟩
  simp [hn]

theorem ok_custom {i : Nat} (h : ok env (fo + 1) (.custom i) = true) : ∃ c, env.customs[i]? = some c := by
  simp only [ok, decide_eq_true_eq] at h
  exact ⟨_, List.getElem?_eq_getElem h⟩

end

end PallasVerif.Schema
