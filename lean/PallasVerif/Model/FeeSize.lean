/-
  Model of the transaction-size measure and the fee / size rules of phase-1 validation:
  `pallas-traverse/src/size.rs` (`MultiEraTx::size` = `body_size + witness_set_size + aux_data_size`),
  `pallas-validate/src/utils.rs` (`get_alonzo_comp_tx_size`, `get_babbage_tx_size`, `get_conway_tx_size`,
  which after the `fix:` commit recorded in `known_findings.d/C36.json` all return
  `MultiEraTx::size() as u32`), `check_min_fee` / Shelley `check_fees`, `check_tx_size`, and the order in
  which each era's `validate_*_tx` applies them.

  A transaction is viewed as the byte lengths of its three original CBOR parts
  (`KeepRaw::raw_cbor().len()`); `aux = none` is the `null` placeholder.
  The fee formula is computed in `u64` from `u32` operands (C33 `fix:`; it was `u32` arithmetic with an overflow panic).
-/
namespace PallasVerif.FeeSize

def U32_MAX : Nat := 4294967295

structure Parts where
  body : Nat
  wits : Nat
  aux : Option Nat
  deriving Repr, DecidableEq

/-- `aux_data_size`: `Nullable::Some(x) => x.raw_cbor().len() + 1, _ => 2` -/
def auxDataSize (p : Parts) : Nat :=
  match p.aux with
  | some a => a + 1
  | none => 2

/-- `MultiEraTx::size` for the post-Byron variants -/
def traverseSize (p : Parts) : Nat := p.body + p.wits + auxDataSize p

/-- `get_*_tx_size`: `MultiEraTx::..(mtx).size() as u32` (the cast truncates) -/
def validatorSize (p : Parts) : Nat := traverseSize p % (U32_MAX + 1)

/-- the sizes the unchanged tree computed (kept for the negative examples):
    Alonzo-compatible eras summed the three raw parts only, Babbage/Conway re-encoded the whole
    4-element array including the validity flag -/
def oldAlonzoCompSize (p : Parts) : Nat := p.body + p.wits + p.aux.getD 0
def oldReencodeSize (p : Parts) : Nat := 1 + p.body + p.wits + 1 + p.aux.getD 1

inductive Res where
  | ok | feeBelowMin | maxTxSizeExceeded | panic
  deriving DecidableEq, Repr

def U64_MAX : Nat := 18446744073709551615

/-- `if tx_body.fee < minfee_b as u64 + minfee_a as u64 * *size as u64 { Err(FeeBelowMin) }`: `u64` arithmetic on
    operands that are `u32`s (the `panic` arms are the overflow checks; `C36.checkMinFee_of_fits` shows them dead, `C33.min_fee_total` for `u32` operands) -/
def checkMinFee (fee a b size : Nat) : Res :=
  if a * size > U64_MAX then .panic
  else if b + a * size > U64_MAX then .panic
  else if fee < b + a * size then .feeBelowMin else .ok

/-- `if *size > prot_pps.max_transaction_size { Err(MaxTxSizeExceeded) }` -/
def checkTxSize (size maxSize : Nat) : Res :=
  if size > maxSize then .maxTxSizeExceeded else .ok

inductive Era where
  | shelleyMA | alonzo | babbage | conway
  deriving DecidableEq, Repr

/-- the fee and size rules in the order of `validate_<era>_tx` (Shelley-MA: size first, then fees;
    Alonzo/Babbage/Conway: minimum fee first, size later), all other rules passing -/
def feeAndSize (era : Era) (p : Parts) (fee a b maxSize : Nat) : Res :=
  let size := validatorSize p
  match era with
  | .shelleyMA =>
    match checkTxSize size maxSize with
    | .ok => checkMinFee fee a b size
    | r => r
  | _ =>
    match checkMinFee fee a b size with
    | .ok => checkTxSize size maxSize
    | r => r

end PallasVerif.FeeSize
