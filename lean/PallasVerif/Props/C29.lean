import PallasVerif.Proofs.P2PErr
import PallasVerif.Proofs.P2PResp
import PallasVerif.Gen.PanicSitesP2P
import PallasVerif.Proofs.P2PProtoTie
/-!
# C29 — P2P behaviours never panic on peer-driven input

Models: `Model/P2PInitiator.lean`, `Model/P2PResponder.lean`. The arithmetic panic sites of
`behavior/initiator/*.rs`, `behavior/responder/*.rs` that can be reached are explicit `none` outcomes (the `usize`
subtractions of promotion/discovery, the unchecked `u32`/`usize` increments); the `expect` of leiosfetch, the index
of the responder's handshake and the addition of `total_peers` are total in the model and made safe by the side
lemmas their inventory entries carry (`takeFirstFor_some`, `bestCommon_lookup`, `SetsOK.limT`: the sum is at most
`max_peers`, a `usize` in the Rust, so it does not overflow there). Events carry arbitrary
messages of all eight mini-protocols; a message the protocol machine rejects sets `violation`.

* `FullStatement` — no history makes either behaviour panic. It is **false** on the faithful model:
  `error_count: u32` is incremented unchecked, so 2^32 `Error` events for one tracked peer overflow
  (`full_statement_fails`, proved for the initiator model at the history `include 0 :: 2^32 × error 0`).
* `initiator_no_panic_partial`, `responder_no_panic_partial` — every history shorter than 2^32 events
  runs to completion (by induction, with the promotion invariant of C27 for the subtractions and a
  counter bound for the increments). `initiator_panic_only_overflow` says the overflow is the only
  panic of the initiator model in any state satisfying the invariant.
* `all_sites_discharged` — the panic-site inventory regenerated from the sources on every run
  (`Gen/PanicSitesP2P.lean`, lib/scan_panics.py) is covered entry by entry by `discharges`, each of
  which carries the proved statement that makes the site safe; a new or edited site breaks the build.

Not modelled: panics inside dependencies (`opentelemetry`, `futures`, `tracing`, hashing/allocation).
-/
namespace PallasVerif.Props.C29
open PallasVerif.P2P

def FullStatement : Prop :=
  (∀ cfg (h : List Ev), run (St.init cfg) h ≠ none) ∧
  (∀ (s0 : RSt) (h : List REv), s0.perIp = (fun _ => 0) → s0.active = 0 → s0.peers = (fun _ => none) →
      rRun s0 h ≠ none)

theorem initiator_no_panic_partial (cfg : Cfg) (h : List Ev) (hl : h.length < u32Bound) :
    run (St.init cfg) h ≠ none := by
  obtain ⟨f, hr, _⟩ := run_total h (St.init cfg) 0 (init_inv cfg) (init_err cfg) (by omega)
  rw [hr]; exact Option.some_ne_none f

theorem responder_no_panic_partial (s0 : RSt) (h : List REv) (hp : s0.perIp = fun _ => 0) (ha : s0.active = 0)
    (hq : s0.peers = fun _ => none) (hl : h.length < u32Bound) : rRun s0 h ≠ none := by
  obtain ⟨f, hr, _⟩ := rRun_total h s0 0 (rInit_bound s0 hp ha hq) (by omega)
  rw [hr]; exact Option.some_ne_none f

theorem initiator_panic_only_overflow (s : St) (e : Ev) (hi : Inv s) (hn : step s e = none) :
    ∃ p st, e = .error p ∧ s.peers p = some st ∧ u32Bound ≤ st.errorCount + 1 := by
  -- `step_good` read backwards; `¬ ErrRoom s e` then unfolds to the witness
  have key : ¬ ErrRoom s e := fun hr => by
    obtain ⟨f, hf, _⟩ := step_good e hi hr
    rw [hn] at hf; cases hf
  cases e with
  | error p =>
    cases hp : s.peers p with
    | none => exact absurd (fun q st he hq => by cases he; rw [hp] at hq; cases hq) key
    | some st =>
      by_cases hlt : st.errorCount + 1 < u32Bound
      · exact absurd (fun q st' he hq => by cases he; rw [hp] at hq; cases hq; exact hlt) key
      · exact ⟨p, st, rfl, hp, Nat.le_of_not_lt hlt⟩
  | _ => exact absurd (fun _ _ he _ => by cases he) key

/-! ### the full statement fails: 2^32 errors for one peer -/

theorem error_step (s : St) (st : Peer) (h0 : s.peers 0 = some st) (hlt : st.errorCount + 1 < u32Bound) :
    ∃ s', step s (.error 0) = some s' ∧
      s'.peers 0 = some { st with conn := .errored, errorCount := st.errorCount + 1 } := by
  unfold step
  dsimp only
  unfold onErrored
  simp only [h0, hlt, if_true]
  exact ⟨_, rfl, by simp [setPeer]⟩

theorem errors_run : ∀ (n : Nat) (s : St) (st : Peer), s.peers 0 = some st → st.errorCount + n < u32Bound →
    ∃ s' st', run s (List.replicate n (.error 0)) = some s' ∧ s'.peers 0 = some st' ∧
      st'.errorCount = st.errorCount + n := by
  intro n
  induction n with
  | zero => intro s st h0 _; exact ⟨s, st, rfl, h0, rfl⟩
  | succ n ih =>
    intro s st h0 hlt
    obtain ⟨s1, h1, hp1⟩ := error_step s st h0 (by omega)
    obtain ⟨s2, st2, h2, hp2, he2⟩ := ih s1 _ hp1 (by simp only; omega)
    refine ⟨s2, st2, ?_, hp2, ?_⟩
    · simp only [List.replicate_succ, run, h1, h2]
    · rw [he2]; simp only; omega

def cfg1 : Cfg := { maxPeers := 1, maxWarm := 1, maxHot := 1, maxErr := 0 }

theorem run_append (a b : List Ev) : ∀ (s : St), run s (a ++ b) = (run s a).bind (fun s' => run s' b) := by
  induction a with
  | nil => intro s; rfl
  | cons e es ih =>
    intro s
    simp only [List.cons_append, run]
    cases step s e with
    | none => rfl
    | some s' => exact ih s'

/-- `n` errors bring the counter to `u32::MAX`, the next one overflows -/
theorem overflow_general (n : Nat) (s1 : St) (st : Peer) (hp : s1.peers 0 = some st)
    (hn : st.errorCount + n + 1 = u32Bound) :
    run s1 (List.replicate n (.error 0) ++ [.error 0]) = none := by
  obtain ⟨s2, st2, h2, hp2, he2⟩ := errors_run n s1 st hp (by omega)
  have h3 : step s2 (.error 0) = none := by
    unfold step
    dsimp only
    unfold onErrored
    have : ¬ st2.errorCount + 1 < u32Bound := by omega
    simp only [hp2, this, if_false]
  rw [run_append, h2]
  simp only [Option.bind, run, h3]

def overflowHistory : List Ev :=
  .includePeer 0 :: (List.replicate (u32Bound - 1) (.error 0) ++ [.error 0])

theorem overflow_history_panics : run (St.init cfg1) overflowHistory = none := by
  cases h1 : step (St.init cfg1) (.includePeer 0) with
  | none => exact absurd h1 (by decide)
  | some s1 =>
    have hp1 : s1.peers 0 = some { tag := .cold } := by
      have h : (step (St.init cfg1) (.includePeer 0)).map (fun s => s.peers 0) = some (some { tag := .cold }) := by
        decide
      rw [h1] at h
      simpa using h
    simp only [overflowHistory, run, h1]
    exact overflow_general (u32Bound - 1) s1 _ hp1 (by decide)

theorem full_statement_fails : ¬ FullStatement := fun h => h.1 cfg1 overflowHistory overflow_history_panics

theorem takeFirstFor_some (p : Nat) (l : List (Nat × LfReq)) (h : ∃ x, x ∈ l ∧ x.1 = p) :
    (takeFirstFor p l).isSome = true := by
  fun_induction takeFirstFor p l
  case case1 => obtain ⟨x, hx, _⟩ := h; cases hx
  case case2 | case3 => rfl  -- found at the head, or in the tail
  case case4 q r rest e hn ih =>  -- the head is for another peer and the tail has none for `p`
    obtain ⟨x, hx, hxp⟩ := h
    rcases List.mem_cons.mp hx with rfl | hx'
    · exact absurd hxp e
    · rw [hn] at ih; exact ih ⟨x, hx', hxp⟩

theorem bestCommon_lookup (sup : List (Nat × Nat)) : ∀ (prop : List (Nat × Nat)) (v m o : Nat),
    bestCommon sup prop = some (v, m, o) → sup.lookup v = some o := by
  intro prop v m o h
  fun_induction bestCommon sup prop generalizing v m o
  case case1 => cases h
  case case2 hl ih => exact ih v m o h  -- the head version is not supported: the answer is the tail's
  case case3 ours hl v' m' o' hb c ih => cases h; exact ih _ _ _ hb  -- the tail has a higher common version
  case case4 ours hl v' m' o' hb c ih => cases h; exact hl  -- the head version beats the tail's best
  case case5 ours hl hb ih => cases h; exact hl  -- the head version is the only common one

/-- the discovery-pool subtraction `high_water_mark - discovered.len()` on its own panics as soon as
    the pool is above the mark (a single SharePeers answer may carry more addresses than were asked
    for, and several peers are asked in the same round); `needs_more_peers` is exactly the guard that
    turns that state into "no request" -/
theorem discovery_subtraction_needs_guard (s : St) (p : Nat) (st : Peer) (h : s.hwm < s.discovered.length) :
    usub s.hwm s.discovered.length = none ∧ discoveryHk s p st = some [] := by
  constructor
  · unfold usub; rw [if_neg (by omega)]
  · unfold discoveryHk; rw [if_neg (by omega)]

/-- such a state is reachable from peer input alone (mark lowered to 2 to keep the term small): one
    handshaked peer answers a request with three addresses; the next housekeeping pass still runs -/
example : ((run { St.init cfg1 with hwm := 2 } [.includePeer 0, .housekeeping [0] [], .connected 0,
      .sent 0 (.hs (.propose [])), .recv 0 [.hs (.accept 13 1)], .sent 0 (.ps (.shareRequest 2)),
      .recv 0 [.ps (.sharePeers [7, 8, 9])], .housekeeping [0] []]).map
        (fun s => (decide (s.hwm < s.discovered.length), s.out))) = some (true, [.send 0 (.ka (.keepAlive 65535))]) := by
  decide

/-- one inventory entry together with the proved statement that makes it safe in the model -/
structure Discharge where
  file : String
  fn : String
  kind : String
  text : String
  claim : Prop
  proof : claim

def discharges : List Discharge := [
  { file := "behavior/initiator/discovery.rs", fn := "request_peers", kind := "arith",
    text := "let amount = self.config.high_water_mark as usize - self.discovered.len();",
    claim := ∀ s p st, ∃ o, discoveryHk s p st = some o ∧ ∀ q, Out.connect q ∉ o,
    proof := discoveryHk_some },
  { file := "behavior/initiator/leiosfetch.rs", fn := "visit_housekeeping", kind := "expect",
    text := "let (_, request) = self.requests.remove(idx).expect(\"\");",
    claim := ∀ p l, (∃ x, x ∈ l ∧ x.1 = p) → (takeFirstFor p l).isSome = true,
    proof := takeFirstFor_some },
  { file := "behavior/initiator/mod.rs", fn := "on_errored", kind := "arith", text := "state.error_count += 1;",
    claim := ∀ cfg (h : List Ev), h.length < u32Bound → run (St.init cfg) h ≠ none,
    proof := initiator_no_panic_partial },
  { file := "behavior/initiator/promotion.rs", fn := "peer_deficit", kind := "arith",
    text := "self.config.max_peers - self.total_peers()",
    claim := ∀ (b0 : List Nat) (s : St) (taken : List Nat), Good b0 s → ∃ f, moveDiscovered s taken = some f ∧ Good b0 f,
    proof := fun _ _ taken g => moveDiscovered_good taken g },
  { file := "behavior/initiator/promotion.rs", fn := "required_cold_peers", kind := "arith",
    text := "self.config.max_peers - self.total_peers()",
    claim := ∀ s p st, SetsOK s → ∃ s' st', onPeerDiscovered s p st = some (s', st') ∧ Prim s p st s' st' ∧
      (¬ WH st.tag → ¬ WH st'.tag),
    proof := onPeerDiscovered_prim },
  { file := "behavior/initiator/promotion.rs", fn := "required_hot_peers", kind := "arith",
    text := "self.config.max_hot_peers - self.hot_peers.len()",
    claim := ∀ s p st, SetsOK s → ∃ s' st', categorize s p st = some (s', st') ∧ Prim s p st s' st',
    proof := categorize_prim },
  { file := "behavior/initiator/promotion.rs", fn := "required_warm_peers", kind := "arith",
    text := "self.config.max_warm_peers - self.warm_peers.len()",
    claim := ∀ s p st, SetsOK s → ∃ s' st', categorize s p st = some (s', st') ∧ Prim s p st s' st',
    proof := categorize_prim },
  { file := "behavior/initiator/promotion.rs", fn := "total_peers", kind := "arith",
    text := "self.cold_peers.len() + self.warm_peers.len() + self.hot_peers.len()",
    claim := ∀ s, SetsOK s → s.cold.length + s.warm.length + s.hot.length ≤ s.cfg.maxPeers,
    proof := fun _ h => h.limT },
  { file := "behavior/responder/connection.rs", fn := "visit_connected", kind := "arith", text := "*count += 1;",
    claim := ∀ (s0 : RSt) (h : List REv), s0.perIp = (fun _ => 0) → s0.active = 0 → s0.peers = (fun _ => none) →
      h.length < u32Bound → rRun s0 h ≠ none,
    proof := responder_no_panic_partial },
  { file := "behavior/responder/connection.rs", fn := "visit_connected", kind := "arith", text := "self.active_peers += 1;",
    claim := ∀ (s0 : RSt) (h : List REv), s0.perIp = (fun _ => 0) → s0.active = 0 → s0.peers = (fun _ => none) →
      h.length < u32Bound → rRun s0 h ≠ none,
    proof := responder_no_panic_partial },
  { file := "behavior/responder/handshake.rs", fn := "try_accept_handshake", kind := "index",
    text := "let our_data = &self.config.supported_version.values[num];",
    claim := ∀ sup prop v m o, bestCommon sup prop = some (v, m, o) → sup.lookup v = some o,
    proof := bestCommon_lookup },
  { file := "behavior/responder/mod.rs", fn := "on_errored", kind := "arith", text := "state.error_count += 1;",
    claim := ∀ (s0 : RSt) (h : List REv), s0.perIp = (fun _ => 0) → s0.active = 0 → s0.peers = (fun _ => none) →
      h.length < u32Bound → rRun s0 h ≠ none,
    proof := responder_no_panic_partial }
]

def covered (s : String × String × String × String) : Bool :=
  discharges.any (fun d => d.file == s.1 && d.fn == s.2.1 && d.kind == s.2.2.1 && d.text == s.2.2.2)

theorem all_sites_discharged : PallasVerif.Gen.PanicSitesP2P.sites.all covered = true := by
  -- the inventory is, entry for entry, the list of keys of `discharges`
  have keys : PallasVerif.Gen.PanicSitesP2P.sites = discharges.map (fun d => (d.file, d.fn, d.kind, d.text)) := rfl
  rw [keys, List.all_map, List.all_eq_true]
  -- not `beq_self_eq_true`: its `ReflBEq String` instance rests on `Classical.choice`
  have refl : ∀ s : String, (s == s) = true := fun _ => decide_eq_true rfl
  exact fun d hd => List.any_eq_true.mpr ⟨d, hd, by simp only [refl, Bool.and_self]⟩

/-- the eight protocol machines of the models (`violation` is their rejection) are the `State::apply`
    functions of the sources (`Proofs/P2PProtoTie.lean`) -/
theorem protocol_machines_match_source :
    (∀ s m, (PallasVerif.Gen.FsmN2.handshake.step (HsSt.cls s) (HsMsg.kind m)).next? = (s.apply m).map HsSt.cls) ∧
    (∀ s m, (PallasVerif.Gen.FsmN2.keepalive.step (KaSt.cls s) (KaMsg.kind m)).next? = (s.apply m).map KaSt.cls) ∧
    (∀ s m, (PallasVerif.Gen.FsmN2.peersharing.step (PsSt.cls s) (PsMsg.kind m)).next? = (s.apply m).map PsSt.cls) ∧
    (∀ s m, (PallasVerif.Gen.FsmN2.blockfetch.step (BfSt.cls s) (BfMsg.kind m)).next? = (s.apply m).map BfSt.cls) ∧
    (∀ s m, (PallasVerif.Gen.FsmN2.chainsync.step (CsSt.cls s) (CsMsg.kind m)).next? = (s.apply m).map CsSt.cls) ∧
    (∀ s m, (PallasVerif.Gen.FsmN2.txsubmission.step (TxSt.cls s) (TxMsg.kind m)).next? = (s.apply m).map TxSt.cls) ∧
    (∀ s m, (PallasVerif.Gen.FsmN2.leiosnotify.step (LnSt.cls s) (LnMsg.kind m)).next? = (s.apply m).map LnSt.cls) ∧
    (∀ s m, (PallasVerif.Gen.FsmN2.leiosfetch.step (LfSt.cls s) (LfMsg.kind m)).next? = (s.apply m).map LfSt.cls) :=
  ⟨hs_matches_source, ka_matches_source, ps_matches_source, bf_matches_source, cs_matches_source, tx_matches_source,
   ln_matches_source, lf_matches_source⟩

/-- violating messages of several protocols are absorbed (flag set, no panic), the second
    `Connected` after the proposal was sent is harmless (DESIGN §6 #17, repaired) -/
example : (run (St.init cfg1) [.includePeer 0, .housekeeping [0] [], .connected 0, .sent 0 (.hs (.propose [])),
      .connected 0, .recv 0 [.ka (.response 3), .bf (.block 1), .cs .awaitReply], .error 0, .disconnected 0]).isSome = true := by
  decide

example : (rRun {} [.connected 1, .recv 1 [.hs (.propose [(13, 764824073)])], .recv 1 [.ka (.keepAlive 5)],
      .recv 1 [.bf .batchDone], .housekeeping [1], .error 1, .disconnected 1]).isSome = true := by decide

end PallasVerif.Props.C29
