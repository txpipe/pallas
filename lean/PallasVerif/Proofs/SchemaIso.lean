import PallasVerif.Proofs.SchemaWire
import PallasVerif.Model.SchemaCanon
/-!
  The half of C06 that speaks of chain data ("isomorphic on chain data"), at model level, for every
  schema: a canonical item (`Model/SchemaCanon.lean`) that the typed decoder accepts is re-encoded to
  exactly itself.
  `Iso e d it` is the statement for one (encoder, decoder) pair at one item, `IsoOn c e d` the contract of
  the pair: `Iso` at every item that passes the canonical-form check `c`. One closure rule `IsoOn.X` per
  node carries the children's contracts to the node's, for the node's check `canonX`; `canon_isoOn` is the
  induction on the fuel (`Proofs/SchemaIsoMain.lean`). A rule first brings the item into the `mk*` form the
  encoder produces (by a `canonX_elim` where several nodes share the check, else in place), then reads the decoder on
  that form and runs the encoder on the result. The form is found along the arms of the check itself: with the check
  still in the goal, `fun_cases canonX` leaves one goal per arm, the check unfolded (`false` in the catch-all arm).
-/
namespace PallasVerif.Schema
open PallasVerif.Cbor

/-- one direction only: whatever `d` reads from `it` is written back by `e` as `it` itself
    (the other direction, on encoder outputs, is `Good`) -/
def Iso (e : Value → Option Item) (d : Item → Option Value) (it : Item) : Prop :=
  ∀ v, d it = some v → e v = some it

/-- the contract of the chain half, as `Good` is that of the value half -/
def IsoOn (c : Item → Bool) (e : Value → Option Item) (d : Item → Option Value) : Prop :=
  ∀ it, c it = true → Iso e d it

/-- how `IsoOn` is entered and left, so that it stays folded in the statements of the rules -/
theorem IsoOn.intro {c : Item → Bool} {e : Value → Option Item} {d : Item → Option Value}
    (h : ∀ it, c it = true → Iso e d it) : IsoOn c e d := h

theorem IsoOn.iso {c : Item → Bool} {e : Value → Option Item} {d : Item → Option Value}
    (h : IsoOn c e d) {it : Item} (hc : c it = true) : Iso e d it := h it hc

theorem headMin_elim {h : Head} (hm : headMin h = true) : h = minHead h.major h.val ∧ h.val < 2 ^ 64 := by
  simp only [headMin, Bool.and_eq_true, beq_iff_eq, decide_eq_true_eq] at hm
  exact hm

theorem canonUInt_elim {it : Item} : canonUInt it = true → ∃ n, n < 2 ^ 64 ∧ it = mkUInt n := by
  fun_cases canonUInt it with
  | case2 => nofun
  | case1 hd =>
    simp only [Bool.and_eq_true, decide_eq_true_eq]
    rintro ⟨hm, hmin⟩
    obtain ⟨e, hv⟩ := headMin_elim hmin
    refine ⟨hd.val, hv, ?_⟩
    rw [hm] at e
    simp [mkUInt, ← e]

theorem IsoOn.uint (b : Nat) : IsoOn canonUInt (encUInt b) (decUInt b) := by
  refine .intro fun it h => ?_
  obtain ⟨n, hn, rfl⟩ := canonUInt_elim h
  intro v hd
  simp only [decUInt, mkUInt_uint n hn, Option.ite_none_right_eq_some, Option.some.injEq] at hd
  obtain ⟨hb, rfl⟩ := hd
  simp [encUInt, hb]

theorem IsoOn.posCoin : IsoOn canonUInt encPosCoin decPosCoin := by
  refine .intro fun it h => ?_
  obtain ⟨n, hn, rfl⟩ := canonUInt_elim h
  intro v hd
  simp only [decPosCoin, mkUInt_uint n hn, Option.ite_none_right_eq_some, Option.some.injEq] at hd
  obtain ⟨hb, rfl⟩ := hd
  simp [encPosCoin, hb]

theorem canonInt_elim {it : Item} : canonInt it = true →
    ∃ i : Int, -(2 ^ 64 : Int) ≤ i ∧ i < (2 ^ 64 : Int) ∧ it = mkInt i := by
  fun_cases canonInt it with
  | case2 => nofun
  | case1 hd =>
    simp only [Bool.and_eq_true, Bool.or_eq_true, decide_eq_true_eq]
    rintro ⟨hm, hmin⟩
    obtain ⟨e, hv⟩ := headMin_elim hmin
    rcases hm with hm | hm
    · refine ⟨(hd.val : Int), by omega, by omega, ?_⟩
      rw [hm] at e
      simp [mkInt, ← e]
    · refine ⟨-1 - (hd.val : Int), by omega, by omega, ?_⟩
      rw [hm] at e
      have hneg : ¬ (0 ≤ -1 - (hd.val : Int)) := by omega
      have hval : (-1 - (-1 - (hd.val : Int))).toNat = hd.val := by omega
      simp only [mkInt, hneg, if_false, hval, ← e]

theorem IsoOn.sint (b : Nat) : IsoOn canonInt (encSInt b) (decSInt b) := by
  refine .intro fun it h => ?_
  obtain ⟨i, h1, h2, rfl⟩ := canonInt_elim h
  intro v hd
  simp only [decSInt, mkInt_int i h1 h2, Option.ite_none_right_eq_some, Option.some.injEq] at hd
  obtain ⟨hb, rfl⟩ := hd
  simp [encSInt, hb]

theorem IsoOn.int : IsoOn canonInt encInt decInt := by
  refine .intro fun it h => ?_
  obtain ⟨i, h1, h2, rfl⟩ := canonInt_elim h
  intro v hd
  simp only [decInt, mkInt_int i h1 h2, Option.some.injEq] at hd
  subst hd
  simp only [encInt, h1, h2, decide_true, Bool.and_self, if_true]

theorem IsoOn.nzint : IsoOn canonInt encNzInt decNzInt := by
  refine .intro fun it h => ?_
  obtain ⟨i, h1, h2, rfl⟩ := canonInt_elim h
  intro v hd
  simp only [decNzInt, mkInt_int i h1 h2, Option.ite_none_right_eq_some, Option.some.injEq] at hd
  obtain ⟨hb, rfl⟩ := hd
  simp only [encNzInt, hb, if_true]

theorem canonStr_elim {m : Nat} {it : Item} : canonStr m it = true →
    ∃ hd bs, it = .str hd bs ∧ hd.major = m ∧ hd = minHead m bs.length ∧ bs.length < 2 ^ 64 := by
  fun_cases canonStr m it with
  | case2 => nofun
  | case1 hd bs =>
    simp only [Bool.and_eq_true, decide_eq_true_eq]
    rintro ⟨⟨hm, hmin⟩, hl⟩
    obtain ⟨e, hv⟩ := headMin_elim hmin
    exact ⟨hd, bs, rfl, hm, by rw [hm, ← hl] at e; exact e, by omega⟩

theorem IsoOn.bytes : IsoOn (canonStr 2) encBytes decBytes := by
  refine .intro fun it h => ?_
  obtain ⟨hd, bs, rfl, hm, e, hl⟩ := canonStr_elim h
  intro v hdv
  simp only [decBytes, hm, if_true, Option.some.injEq] at hdv
  subst hdv
  simp [encBytes, hl, mkBytes, ← e]

theorem IsoOn.hash (n : Nat) : IsoOn (canonStr 2) (encHash n) (decHash n) := by
  refine .intro fun it h => ?_
  obtain ⟨hd, bs, rfl, hm, e, hl⟩ := canonStr_elim h
  intro v hdv
  simp only [decHash, hm, true_and, Option.ite_none_right_eq_some, Option.some.injEq] at hdv
  obtain ⟨rfl, rfl⟩ := hdv
  simp [encHash, hl, mkBytes, ← e]

theorem IsoOn.text : IsoOn (canonStr 3) encText decText := by
  refine .intro fun it h => ?_
  obtain ⟨hd, bs, rfl, hm, e, hl⟩ := canonStr_elim h
  intro v hdv
  simp only [decText, hm, true_and, Option.ite_none_right_eq_some, Option.some.injEq] at hdv
  obtain ⟨hu, rfl⟩ := hdv
  simp [encText, hu, hl, mkText, ← e]

theorem IsoOn.bool : IsoOn canonBool encBool decBool := by
  refine .intro fun it => ?_
  fun_cases canonBool it with
  | case2 => nofun
  | case1 hd =>
    simp only [Bool.or_eq_true, beq_iff_eq]
    rintro (rfl | rfl) v hdv <;> (simp [decBool] at hdv; subst hdv; rfl)

theorem isNullItem_elim {it : Item} : isNullItem it = true → it = mkNull := by
  fun_cases isNullItem it with
  | case1 hd => intro h; obtain rfl := beq_iff_eq.mp h; rfl
  | case2 => nofun

theorem isUndefItem_elim {it : Item} : isUndefItem it = true → it = mkUndefined := by
  fun_cases isUndefItem it with
  | case1 hd => intro h; obtain rfl := beq_iff_eq.mp h; rfl
  | case2 => nofun

section
variable {e : Value → Option Item} {d : Item → Option Value} {c : Item → Bool}

theorem mapOpt_iso (hc : IsoOn c e d) (xs : List Item) (vs : List Value) (ha : xs.all c = true)
    (h : mapOpt d xs = some vs) : vs.length = xs.length ∧ mapOpt e vs = some xs := by
  fun_induction mapOpt d xs generalizing vs with
  | case1 => cases h; exact ⟨rfl, rfl⟩
  | case2 y ys w ws h2 h1 ih =>
    cases h
    simp only [List.all_cons, Bool.and_eq_true] at ha
    obtain ⟨l, e'⟩ := ih ws ha.2 h2
    exact ⟨by simp [l], by simp only [mapOpt, hc.iso ha.1 w h1, e']⟩
  | case3 => cases h  -- `d y` or the tail fails

theorem canonArr_elim {it : Item} : canonArr c it = true →
    ∃ xs, it = mkArray xs ∧ xs.length < 2 ^ 64 ∧ xs.all c = true := by
  fun_cases canonArr c it with
  | case2 => nofun
  | case1 hd xs =>
    simp only [Bool.and_eq_true, beq_iff_eq, decide_eq_true_eq]
    rintro ⟨⟨rfl, hl⟩, ha⟩
    exact ⟨xs, rfl, hl, ha⟩

theorem IsoOn.vec (hc : IsoOn c e d) : IsoOn (canonArr c) (encVec e) (decVec d) := by
  refine .intro fun it h => ?_
  obtain ⟨xs, rfl, hl, ha⟩ := canonArr_elim h
  intro v hd
  simp only [decVec, decVecItems, mkArray_items, Option.map_eq_some_iff] at hd
  obtain ⟨vs, hm, rfl⟩ := hd
  obtain ⟨l, e'⟩ := mapOpt_iso hc xs vs ha hm
  simp [encVec, l, hl, e']

/-- the checks of `opt`, `nullable` and `btmap` have no name in `Model/SchemaCanon.lean`: the statements repeat the
    arms of `canon` -/
theorem IsoOn.opt (hc : IsoOn c e d) :
    IsoOn (fun it => isNullItem it || (typeOf it != .null && c it)) (encOpt e) (decOpt d) := by
  refine .intro fun it h => ?_
  intro v hd
  simp only [Bool.or_eq_true, Bool.and_eq_true, bne_iff_ne, ne_eq] at h
  rcases h with h | ⟨hn, hi⟩
  · obtain rfl := isNullItem_elim h
    simp [decOpt, typeOf, mkNull] at hd
    subst hd
    rfl
  · simp only [decOpt, hn, if_false, Option.map_eq_some_iff] at hd
    obtain ⟨w, hw, rfl⟩ := hd
    simpa [encOpt] using hc.iso hi w hw

theorem IsoOn.nullable (hc : IsoOn c e d) :
    IsoOn (fun it => isNullItem it || isUndefItem it || (typeOf it != .null && typeOf it != .undefined && c it))
      (encNullable e) (decNullable d) := by
  refine .intro fun it h => ?_
  intro v hd
  simp only [Bool.or_eq_true, Bool.and_eq_true, bne_iff_ne, ne_eq] at h
  rcases h with (h | h) | ⟨⟨hn, hu⟩, hi⟩
  · obtain rfl := isNullItem_elim h
    simp [decNullable, typeOf, mkNull] at hd
    subst hd
    rfl
  · obtain rfl := isUndefItem_elim h
    simp [decNullable, typeOf, mkUndefined] at hd
    subst hd
    rfl
  · simp only [decNullable, hn, hu, if_false, Option.map_eq_some_iff] at hd
    obtain ⟨w, hw, rfl⟩ := hd
    simpa [encNullable] using hc.iso hi w hw

theorem canonTag_elim {t : Nat} {it : Item} : canonTag t c it = true →
    ∃ inner, it = mkTag t inner ∧ t < 2 ^ 64 ∧ c inner = true := by
  fun_cases canonTag t c it with
  | case2 => nofun
  | case1 hd inner =>
    simp only [Bool.and_eq_true, beq_iff_eq, decide_eq_true_eq]
    rintro ⟨⟨rfl, ht⟩, hc⟩
    exact ⟨inner, rfl, ht, hc⟩

theorem canonOptTag_elim {t : Option Nat} {it : Item} (h : canonOptTag t c it = true) :
    ∃ body, it = wrapTag t body ∧ (∀ n, t = some n → n < 2 ^ 64) ∧ c body = true := by
  cases t with
  | none => exact ⟨it, rfl, nofun, h⟩
  | some n =>
    obtain ⟨body, rfl, hn, hb⟩ := canonTag_elim h
    exact ⟨body, rfl, by rintro _ ⟨⟩; exact hn, hb⟩

theorem IsoOn.tagWrap (hc : IsoOn c e d) (t : Nat) : IsoOn (canonTag t c) (encTagWrap e t) (decTagWrap d) := by
  refine .intro fun it h => ?_
  obtain ⟨inner, rfl, ht, hci⟩ := canonTag_elim h
  intro v hd
  simp only [decTagWrap, mkTag] at hd
  simp [encTagWrap, ht, hc.iso hci v hd]

theorem IsoOn.set (hc : IsoOn c e d) : IsoOn (canonTag 258 (canonArr c)) (encSet e) (decSet d) := by
  refine .intro fun it h => ?_
  obtain ⟨inner, rfl, _, hci⟩ := canonTag_elim h
  intro v hd
  rw [decSet_mkTag] at hd
  simp [encSet, hc.vec.iso hci v hd]

/-- `KeepRaw` re-encodes whatever it accepted: the retained item is written back -/
theorem IsoOn.keepRaw (e : Value → Option Item) (d : Item → Option Value) :
    IsoOn (fun _ => true) (encKeepRaw e) (decKeepRaw d) := by
  refine .intro fun it _ v hd => ?_
  simp only [decKeepRaw, Option.map_eq_some_iff] at hd
  obtain ⟨y, _, rfl⟩ := hd
  rfl

theorem IsoOn.any : IsoOn Item.wf encAny (fun it => some (Value.any it)) := by
  refine .intro fun it h => ?_
  intro v hd
  simp only [Option.some.injEq] at hd
  subst hd
  simp [encAny, h]

theorem IsoOn.emptyMap : IsoOn canonEmptyMap encEmptyMap decEmptyMap := by
  refine .intro fun it => ?_
  fun_cases canonEmptyMap it with
  | case2 => nofun
  | case1 hd =>
    intro h v hdv
    obtain rfl := beq_iff_eq.mp h
    simp only [decEmptyMap, Option.ite_none_right_eq_some, Option.some.injEq] at hdv
    obtain ⟨_, rfl⟩ := hdv
    rfl

theorem IsoOn.zeroOrOne (hc : IsoOn c e d) : IsoOn (canonZeroOrOne c) (encZeroOrOne e) (decZeroOrOne d) := by
  refine .intro fun it => ?_
  fun_cases canonZeroOrOne c it with
  | case3 => nofun
  | case1 hd =>  -- no element
    intro h v hdv
    obtain rfl := beq_iff_eq.mp h
    simp [decZeroOrOne, minHead_major] at hdv
    subst hdv
    rfl
  | case2 hd x =>  -- one element
    simp only [Bool.and_eq_true, beq_iff_eq]
    rintro ⟨rfl, hx⟩ v hdv
    simp only [decZeroOrOne, minHead_major, if_true, Option.map_eq_some_iff] at hdv
    obtain ⟨w, hw, rfl⟩ := hdv
    simp [encZeroOrOne, hc.iso hx w hw, mkArray]

theorem IsoOn.maybeIndef (hc : IsoOn c e d) : IsoOn (canonMaybeIndef c) (encMaybeIndef e) (decMaybeIndef d) := by
  refine .intro fun it => ?_
  fun_cases canonMaybeIndef c it with
  | case3 => nofun
  | case1 hd xs =>
    -- the definite branch of `canonMaybeIndef` is the body of `canonArr`
    intro (h' : canonArr c (.seq hd xs) = true)
    obtain ⟨ys, hy, _, _⟩ := canonArr_elim h'
    rw [hy] at h' ⊢
    intro v hdv
    simp only [decMaybeIndef, mkArray_typeOf, if_true, Option.map_eq_some_iff] at hdv
    obtain ⟨w, hw, rfl⟩ := hdv
    exact hc.vec.iso h' w hw
  | case2 m xs =>  -- the indefinite branch
    simp only [Bool.and_eq_true, decide_eq_true_eq]
    rintro ⟨rfl, ha⟩ v hdv
    have ht : typeOf (Item.seqIndef 4 xs) = .arrayIndef := by simp [typeOf]
    have ht2 : ¬ (Ty.arrayIndef = Ty.array) := by decide
    simp only [decMaybeIndef, ht, ht2, if_false, if_true, decVec, decVecItems, Item.arrayItems?,
      Option.map_eq_some_iff] at hdv
    obtain ⟨_, ⟨vs, hm, rfl⟩, rfl⟩ := hdv
    simp [encMaybeIndef, (mapOpt_iso hc xs vs ha hm).2]

theorem IsoOn.cborWrap (hc : IsoOn c e d) : IsoOn (canonCborWrap c) (encCborWrap e) (decCborWrap d) := by
  refine .intro fun it => ?_
  fun_cases canonCborWrap c it with
  | case2 => nofun
  | case1 hd h2 bs =>
    simp only [Bool.and_eq_true, beq_iff_eq, decide_eq_true_eq]
    rintro ⟨⟨⟨⟨rfl, hm⟩, hmin⟩, hl⟩, hp⟩ v hdv
    obtain ⟨e2, hv⟩ := headMin_elim hmin
    split at hp
    · rename_i x hpi
      obtain ⟨hb, _⟩ := parseItem_sound bs x [] hpi
      simp only [List.append_nil] at hb
      simp only [decCborWrap, hm, if_true, hpi] at hdv
      have hx := hc.iso hp v hdv
      have hlen : bs.length < 2 ^ 64 := by omega
      rw [hm, ← hl] at e2
      simp [encCborWrap, hx, hlen, mkTag, mkBytes, ← hb, ← e2]
    · cases hp

end

section
variable {e : Schema → Value → Option Item} {d : Schema → Item → Option Value} {c : Schema → Item → Bool}

theorem zipOpt_iso (fs : List Schema) (hc : ∀ s, s ∈ fs → IsoOn (c s) (e s) (d s))
    (xs : List Item) (vs : List Value) (hz : zipAll c fs xs = true) (h : zipOpt d fs xs = some vs) :
      zipOpt e fs vs = some xs := by
  fun_induction zipOpt d fs xs generalizing vs with
  | case1 => cases h; rfl
  | case2 s fs x xs w ws h2 h1 ih =>
    cases h
    simp only [zipAll, Bool.and_eq_true] at hz
    simp only [zipOpt, (hc s (by simp)).iso hz.1 w h1, ih (fun t ht => hc t (by simp [ht])) ws hz.2 h2]
  | case3 | case4 => cases h  -- a field fails; the lengths differ

theorem canonTuple_elim {fs : List Schema} {it : Item} : canonTuple c fs it = true →
    ∃ xs, it = mkArray xs ∧ zipAll c fs xs = true := by
  fun_cases canonTuple c fs it with
  | case2 => nofun
  | case1 hd xs =>
    simp only [Bool.and_eq_true, beq_iff_eq, decide_eq_true_eq]
    rintro ⟨⟨rfl, _⟩, hz⟩
    exact ⟨xs, rfl, hz⟩

theorem IsoOn.tuple (fs : List Schema) (hc : ∀ s, s ∈ fs → IsoOn (c s) (e s) (d s)) :
    IsoOn (canonTuple c fs) (encTuple e fs) (decTuple d fs) := by
  refine .intro fun it h => ?_
  obtain ⟨xs, rfl, hz⟩ := canonTuple_elim h
  intro v hdv
  simp only [decTuple_mkArray, Option.map_eq_some_iff] at hdv
  obtain ⟨vs, hm, rfl⟩ := hdv
  simp [encTuple, zipOpt_iso fs hc xs vs hz hm]

section
variable {ek ev : Value → Option Item} {dk dv : Item → Option Value} {ck cv : Item → Bool}

/-- `mapOpt_iso` for entries. It also returns the decoded keys in the form in which `keysSorted` computes them -/
theorem mapPairs_iso (hk : IsoOn ck ek dk) (hv : IsoOn cv ev dv) :
    ∀ (xs : List Item) (kvs : List Value), pairsAll ck cv xs = true → mapOpt (decPair dk dv) (pairUp xs) = some kvs →
      xs.length = 2 * kvs.length ∧
      (∃ ps, mapOpt (encPair ek ev) kvs = some ps ∧ flattenPairs ps = xs) ∧
      mapOpt (fun e : Item × Item => dk e.1) (pairUp xs) = some (kvs.map keyOf)
  | [], kvs, _, h => by
    simp [pairUp, mapOpt] at h; subst h
    exact ⟨rfl, ⟨[], rfl, rfl⟩, rfl⟩
  | [_], _, hp, _ => by simp [pairsAll] at hp
  | x :: y :: r, kvs, hp, h => by
    simp only [pairsAll, Bool.and_eq_true] at hp
    obtain ⟨w, ws, h1, h2, rfl⟩ := mapOpt_cons_some (x := (x, y)) (xs := pairUp r) h
    obtain ⟨a, b, ha, hb, rfl⟩ := decPair_some h1
    obtain ⟨e2, ⟨ps, e3, rfl⟩, e4⟩ := mapPairs_iso hk hv r ws hp.2 h2
    exact ⟨by simp [e2]; omega,
      ⟨(x, y) :: ps, by simp only [mapOpt, encPair, hk.iso hp.1.1 a ha, hv.iso hp.1.2 b hb, e3], rfl⟩,
      by simp only [pairUp, mapOpt, ha, e4, List.map_cons, keyOf]⟩

theorem canonMap_elim {it : Item} : canonMap ck cv it = true →
    ∃ xs, it = mkMapFlat xs ∧ xs.length / 2 < 2 ^ 64 ∧ xs.length % 2 = 0 ∧ pairsAll ck cv xs = true := by
  fun_cases canonMap ck cv it with
  | case2 => nofun
  | case1 hd xs =>
    simp only [Bool.and_eq_true, beq_iff_eq, decide_eq_true_eq]
    rintro ⟨⟨⟨rfl, hl⟩, hev⟩, hp⟩
    exact ⟨xs, rfl, hl, hev, hp⟩

theorem IsoOn.btmap (hk : IsoOn ck ek dk) (hv : IsoOn cv ev dv) :
    IsoOn (fun it => canonMap ck cv it && keysSorted dk it) (encBTMap ek ev) (decBTMap dk dv) := by
  refine .intro fun it h => ?_
  simp only [Bool.and_eq_true] at h
  obtain ⟨h, hs⟩ := h
  obtain ⟨xs, rfl, hl, _, hp⟩ := canonMap_elim h
  intro v hd
  simp only [decBTMap, mkMapFlat_pairUp] at hd
  cases hm : mapOpt (decPair dk dv) (pairUp xs) with
  | none => simp [hm] at hd
  | some kvs =>
    obtain ⟨e2, ⟨ps, e3, rfl⟩, e4⟩ := mapPairs_iso hk hv xs kvs hp hm
    simp only [keysSorted, mkMapFlat_pairUp, e4] at hs
    simp only [hm, foldl_insert_sorted_nil kvs (mapOpt_encPair_allPairs kvs ps e3) hs, Option.some.injEq] at hd
    subst hd
    have hlen : kvs.length < 2 ^ 64 := by omega
    simp [encBTMap, hlen, hs, e3]

theorem IsoOn.kvPairs (hk : IsoOn ck ek dk) (hv : IsoOn cv ev dv) :
    IsoOn (canonKvPairs ck cv) (encKvPairs ek ev) (decKvPairs dk dv) := by
  refine .intro fun it => ?_
  fun_cases canonKvPairs ck cv it with
  | case3 => nofun
  | case1 hd xs =>
    -- the definite branch of `canonKvPairs` is the body of `canonMap`
    intro (h : canonMap ck cv (.seq hd xs) = true)
    obtain ⟨ys, hy, hl, _, hp⟩ := canonMap_elim h
    rw [hy]
    intro v hdv
    simp only [decKvPairs, mkMapFlat_typeOf, if_true, decKvList, mkMapFlat_pairUp, Option.map_eq_some_iff] at hdv
    obtain ⟨_, ⟨kvs, hm, rfl⟩, rfl⟩ := hdv
    obtain ⟨e2, ⟨ps, e3, rfl⟩, _⟩ := mapPairs_iso hk hv ys kvs hp hm
    have hlen : kvs.length < 2 ^ 64 := by omega
    simp [encKvPairs, hlen, e3]
  | case2 m xs =>  -- the indefinite branch
    simp only [Bool.and_eq_true, decide_eq_true_eq]
    rintro ⟨⟨rfl, _⟩, hp⟩ v hdv
    have ht : typeOf (Item.seqIndef 5 xs) = .mapIndef := by simp [typeOf]
    have ht2 : ¬ (Ty.mapIndef = Ty.map) := by decide
    simp only [decKvPairs, ht, ht2, if_false, if_true, decKvList, Item.mapEntries?, Option.map_eq_some_iff] at hdv
    obtain ⟨_, ⟨kvs, hm, rfl⟩, rfl⟩ := hdv
    obtain ⟨_, ⟨ps, e3, rfl⟩, _⟩ := mapPairs_iso hk hv xs kvs hp hm
    simp [encKvPairs, e3]

end

theorem IsoOn.enumIdx (vs : List Nat) : IsoOn canonUInt (encEnumIdx vs) (decEnumIdx vs) := by
  refine .intro fun it h => ?_
  obtain ⟨n, hn, rfl⟩ := canonUInt_elim h
  intro v hd
  simp only [decEnumIdx, mkUInt_int n hn, findIdx_eq_findVariant, Option.ite_none_right_eq_some] at hd
  obtain ⟨_, hd⟩ := hd
  cases hf : findVariant (n : Int) 0 (vs.map (fun n => (n, ()))) with
  | none => simp [hf] at hd
  | some q =>
    obtain ⟨pos, u⟩ := q
    simp only [hf, Option.map_some, Option.some.injEq] at hd
    subst hd
    have hg := getElem_of_findVariant_zero hf
    simp only [List.getElem?_map, Option.map_eq_some_iff, Prod.mk.injEq, and_true] at hg
    obtain ⟨_, hg, rfl⟩ := hg
    simp [encEnumIdx, hg]

theorem canonSum_elim {vs : List (Nat × List Schema)} {other : Option (List Schema)} {it : Item} :
    canonSum c vs other it = true → ∃ n xs, n < 2 ^ 64 ∧ it = mkArray (mkUInt n :: xs) ∧
      (∀ pos fs, findVariant (n : Int) 0 vs = some (pos, fs) → zipAll c fs xs = true) ∧
      (findVariant (n : Int) 0 vs = none → ∀ o, other = some o → zipAll c o xs = true) := by
  fun_cases canonSum c vs other it with
  | case2 => nofun
  | case1 hd x xs =>
    simp only [Bool.and_eq_true, beq_iff_eq, decide_eq_true_eq]
    rintro ⟨⟨⟨rfl, hl⟩, hx⟩, hz⟩
    obtain ⟨n, hn, rfl⟩ := canonUInt_elim hx
    simp only [mkUInt_uint n hn] at hz
    refine ⟨n, xs, hn, by simp [mkArray], fun pos fs hf => by simpa [hf] using hz, fun hf o ho => by simpa [hf, ho] using hz⟩

/-- a listed variant read from `[n, field..]` is written back, by `encSumFixed` and so by `encSumOther` -/
theorem sumListed_iso {vs : List (Nat × List Schema)} (hc : ∀ v, v ∈ vs → ∀ s, s ∈ v.2 → IsoOn (c s) (e s) (d s))
    {n pos : Nat} {fs : List Schema} {xs : List Item} {ws : List Value} (hf : findVariant (n : Int) 0 vs = some (pos, fs))
    (hz : zipAll c fs xs = true) (hws : zipOpt d fs xs = some ws) :
    pos < vs.length ∧ encSumFixed e vs (.variant pos ws) = some (mkArray (mkUInt n :: xs)) := by
  have hg := getElem_of_findVariant_zero hf
  exact ⟨(List.getElem?_eq_some_iff.mp hg).1,
    by simp [encSumFixed, hg, zipOpt_iso fs (hc (n, fs) (List.mem_of_getElem? hg)) xs ws hz hws]⟩

theorem IsoOn.sumFixed (b : Nat) (vs : List (Nat × List Schema)) (hc : ∀ v, v ∈ vs → ∀ s, s ∈ v.2 → IsoOn (c s) (e s) (d s)) :
    IsoOn (canonSum c vs none) (encSumFixed e vs) (decSumFixed d b vs) := by
  refine .intro fun it h => ?_
  obtain ⟨n, xs, hn, rfl, hz, _⟩ := canonSum_elim h
  intro v hdv
  rw [decSumFixed_mkArray d b vs n xs hn] at hdv
  split at hdv
  · split at hdv
    · rename_i pos fs hf
      simp only [Option.map_eq_some_iff] at hdv
      obtain ⟨ws, hws, rfl⟩ := hdv
      exact (sumListed_iso hc hf (hz pos fs hf) hws).2
    · cases hdv
  · cases hdv

theorem IsoOn.sumOther (b : Nat) (vs : List (Nat × List Schema)) (o : List Schema)
    (hc : ∀ v, v ∈ vs → ∀ s, s ∈ v.2 → IsoOn (c s) (e s) (d s)) (ho : ∀ s, s ∈ o → IsoOn (c s) (e s) (d s)) :
    IsoOn (canonSum c vs (some o)) (encSumOther e b vs o) (decSumOther d b vs o) := by
  refine .intro fun it h => ?_
  obtain ⟨n, xs, hn, rfl, hz, hzo⟩ := canonSum_elim h
  intro v hdv
  rw [decSumOther_mkArray d b vs o n xs hn] at hdv
  split at hdv
  · rename_i hb
    split at hdv
    · rename_i pos fs hf
      simp only [Option.map_eq_some_iff] at hdv
      obtain ⟨ws, hws, rfl⟩ := hdv
      obtain ⟨hlt, he⟩ := sumListed_iso hc hf (hz pos fs hf) hws
      simp only [encSumOther, hlt, if_true, he]
    · rename_i hf
      simp only [Option.map_eq_some_iff] at hdv
      obtain ⟨ws, hws, rfl⟩ := hdv
      simp [encSumOther, hb, (findVariant_eq_none vs n).mp hf, zipOpt_iso o ho xs ws (hzo hf o rfl) hws]
  · cases hdv

theorem IsoOn.byType (alts : List (Nat × List Ty × Schema)) (many : Option (Nat × List Schema))
    (hd : distinctNats (alts.map (·.1) ++ (match many with | some m => [m.1] | none => [])) = true)
    (hc : ∀ a, a ∈ alts → IsoOn (c a.2.2) (e a.2.2) (d a.2.2))
    (hcm : ∀ mp ms, many = some (mp, ms) → ∀ s, s ∈ ms → IsoOn (c s) (e s) (d s)) :
    IsoOn (canonByType c alts many) (encByType e alts many) (decByType d alts many) := by
  refine .intro fun it => ?_
  obtain ⟨hda, hdm⟩ := distinctNats_append _ _ hd
  -- the single-alternative arm: what `decByTypeOne` returns, and where the encoder finds its schema again
  have one : ∀ {p s}, findAltByTy (typeOf it) alts = some (p, s) → c s it = true → ∀ v, decByTypeOne d alts it = some v →
      ∃ w tys, v = .variant p [w] ∧ (p, tys, s) ∈ alts ∧ findAltByPos p alts = some s ∧ e s w = some it := by
    intro p s hf hcs v hdv
    simp only [decByTypeOne, hf, Option.map_eq_some_iff] at hdv
    obtain ⟨w, hw, rfl⟩ := hdv
    obtain ⟨tys, hm⟩ := findAltByTy_mem alts _ p s hf
    exact ⟨w, tys, rfl, hm, findAltByPos_of_mem alts p tys s hda hm, (hc (p, tys, s) hm).iso hcs w hw⟩
  fun_cases canonByType c alts many it with
  | case1 mp ms harr =>  -- `many = some (mp, ms)`, an array: the check is `canonTuple c ms`
    intro h v hdv
    simp only [decByType, harr, if_true] at hdv
    obtain ⟨xs, rfl, hz⟩ := canonTuple_elim h
    simp only [mkArray, Option.map_eq_some_iff] at hdv
    obtain ⟨ws, hws, rfl⟩ := hdv
    simp [encByType, zipOpt_iso ms (hcm mp ms rfl) xs ws hz hws, mkArray]
  | case2 mp ms harr p s hf =>  -- `many` present, not an array, and `alts` has an entry for the item's type
    intro hcs v hdv
    simp only [decByType, harr, if_false] at hdv
    obtain ⟨w, tys, rfl, hm, hpos, he⟩ := one hf hcs v hdv
    have hne : ¬ mp = p := fun e2 => hdm mp (List.mem_map.mpr ⟨(mp, tys, s), e2 ▸ hm, rfl⟩) (by simp)
    simp [encByType, hne, hpos, he]
  | case3 mp ms harr hf =>  -- the same with no entry for the type: the decoder rejects
    intro _ v hdv
    simp [decByType, harr, decByTypeOne, hf] at hdv
  | case4 p s hf =>  -- `many = none`, an entry for the type
    intro hcs v hdv
    obtain ⟨w, tys, rfl, hm, hpos, he⟩ := one hf hcs v hdv
    simp [encByType, hpos, he]
  | case5 hf =>  -- `many = none`, no entry
    intro _ v hdv
    simp [decByType, decByTypeOne, hf] at hdv

theorem encArr_iso (trunc : Bool) (pos : Nat) (fs : List (Nat × Schema)) (xs : List Item)
    (hc : ∀ p, p ∈ fs → IsoOn (c p.2) (e p.2) (d p.2)) :
    canonArrFields c d trunc pos fs xs = true → ∀ vs, decArr d pos fs xs = some vs →
      encArr e trunc pos fs vs = some xs := by
  fun_induction canonArrFields c d trunc pos fs xs with
  | case1 =>  -- no field left: `xs` is empty
    simp only [List.isEmpty_iff]
    rintro rfl vs hd
    rw [decArr_nil_inv hd]
    rfl
  -- the check is defined through the decoder's result, which the arms of `canonArrFields` hand over (`hn`, `hd'`)
  | case2 _ _ _ _ _ hn => intro _ vs hd; cases hn.symm.trans hd  -- `decArr` rejects
  | case3 pos idx s fs xs vs hd' hnil =>  -- `trunc`, and the fields left all decode to nil: `xs` is empty
    simp only [List.isEmpty_iff]
    rintro rfl vs hd
    cases hd'.symm.trans hd
    cases vs with
    | nil => simp [allNil] at hnil
    | cons v vs' => simp only [encArr, hnil, if_true]
  | case4 pos idx s fs xs vs hd' hnil ih =>  -- `idx - pos` nulls, the item of field `idx`, the items of `fs`
    simp only [Bool.and_eq_true, decide_eq_true_eq]
    rintro ⟨⟨⟨hpos, htl⟩, hnull⟩, hrest⟩ vs hd
    cases hd'.symm.trans hd
    split at hrest
    · rename_i it rest hdrop
      have hxs : xs = List.replicate (idx - pos) mkNull ++ it :: rest := by
        have : xs.take (idx - pos) = List.replicate (idx - pos) mkNull :=
          List.eq_replicate_iff.mpr ⟨htl, fun b hb => isNullItem_elim (List.all_eq_true.mp hnull b hb)⟩
        rw [← this, ← hdrop, List.take_append_drop]
      rw [hxs, decArr_gap] at hd
      simp only [Option.bind_eq_some_iff, Option.map_eq_some_iff] at hd
      obtain ⟨v, h1, vs', h2, rfl⟩ := hd
      simp only [Bool.and_eq_true] at hrest
      rw [encArr_gap e trunc pos idx s fs v vs' (by simpa using hnil) hpos, (hc (idx, s) (by simp)).iso hrest.1 v h1,
        ih rest (fun p hp => hc p (by simp [hp])) hrest.2 vs' h2, hxs]
      rfl
    · cases hrest

theorem isKey_elim {idx : Nat} {k : Item} : isKey idx k = true → k = mkUInt idx := by
  fun_cases isKey idx k with
  | case2 => nofun
  | case1 hd =>
    simp only [Bool.and_eq_true, decide_eq_true_eq]
    rintro ⟨⟨hm, hv⟩, hmin⟩
    obtain ⟨e, _⟩ := headMin_elim hmin
    rw [hm, hv] at e
    simp [mkUInt, ← e]

/-- `FS` is the whole field list (what `findField` searches), `fs` the suffix the induction runs over. The decoder's
    assignments are exhibited as `resOf fs vs'` for values `vs'` that encode to the given entries, so that
    `collectFields_resOf` applies -/
theorem encMapFields_iso (FS : List (Nat × Schema)) :
    ∀ (fs : List (Nat × Schema)), (∀ p, p ∈ fs → IsoOn (c p.2) (e p.2) (d p.2)) →
    ∀ (es : List (Item × Item)) (res : List (Nat × Value)),
      (∀ p, p ∈ fs → findField (p.1 : Int) FS = some p ∧ p.1 < 2 ^ 63) →
      canonMapFields c d fs es = true → decMapEntries d FS es = some res →
      ∃ vs', vs'.length = fs.length ∧ res = resOf fs vs' ∧ encMapFields e fs vs' = some es := by
  intro fs
  induction fs with
  | nil =>
    intro _ es res _ hcn hd
    cases es with
    | nil => simp [decMapEntries] at hd; subst hd; exact ⟨[], rfl, rfl, rfl⟩
    | cons _ _ => simp [canonMapFields] at hcn
  | cons q fs ih =>
    intro hc es res hf hcn hd
    obtain ⟨idx, s⟩ := q
    -- an optional field without an entry of its own is `None`
    have skip : s.isOpt = true → canonMapFields c d fs es = true →
        ∃ vs', vs'.length = fs.length + 1 ∧ res = resOf ((idx, s) :: fs) vs' ∧ encMapFields e ((idx, s) :: fs) vs' = some es := by
      intro ho hcn'
      obtain ⟨vs'', hl, hr, he⟩ := ih (fun p hp => hc p (by simp [hp])) es res (fun p hp => hf p (by simp [hp])) hcn' hd
      have hn : isNilField s Value.none = true := by simp [isNilField, ho]
      exact ⟨Value.none :: vs'', by simp [hl], by simp [resOf, hn, hr], by simp only [encMapFields, hn, if_true, he]⟩
    cases es with
    | nil =>
      simp only [canonMapFields, List.all_cons, Bool.and_eq_true] at hcn
      exact skip hcn.1 (by simpa [canonMapFields] using hcn.2)
    | cons kv es' =>
      obtain ⟨k, v⟩ := kv
      simp only [canonMapFields] at hcn
      split at hcn
      · rename_i hkey
        obtain rfl := isKey_elim hkey
        simp only [Bool.and_eq_true] at hcn
        obtain ⟨⟨hcv, hnn⟩, hrest⟩ := hcn
        obtain ⟨hfind, hidx⟩ := hf (idx, s) (by simp)
        simp only [decMapEntries_key d FS hfind hidx, Option.bind_eq_some_iff, Option.map_eq_some_iff] at hd
        obtain ⟨x, h1, r', h2, rfl⟩ := hd
        obtain ⟨vs'', hl, hr, he⟩ := ih (fun p hp => hc p (by simp [hp])) es' r' (fun p hp => hf p (by simp [hp])) hrest h2
        simp only [h1, Bool.not_eq_true'] at hnn
        refine ⟨x :: vs'', by simp [hl], by simp [resOf, hnn, hr], ?_⟩
        simp only [encMapFields, hnn, Bool.false_eq_true, if_false, (hc (idx, s) (by simp)).iso hcv x h1, he]
      · simp only [Bool.and_eq_true] at hcn
        exact skip hcn.1 hcn.2

theorem IsoOn.struct (l : Layout) (t : Option Nat) (fs : List (Nat × Schema))
    (hc : ∀ p, p ∈ fs → IsoOn (c p.2) (e p.2) (d p.2)) (hi : increasingFrom 0 fs = true) :
    IsoOn (canonStruct c d l t fs) (encStruct e l t fs) (decStruct d l t fs) := by
  refine .intro fun it h => ?_
  obtain ⟨body, rfl, ht, hb⟩ := canonOptTag_elim (c := canonBody c d l fs) h
  revert hb
  fun_cases canonBody c d l fs body with
  | case2 | case4 => nofun
  | case1 hd2 xs =>  -- array layout
    simp only [Bool.and_eq_true, beq_iff_eq, decide_eq_true_eq]
    rintro ⟨⟨rfl, hl⟩, hcn⟩ v hd
    simp only [decStruct, unwrapTag_wrapTag t _ ht, Item.arrayItems?, minHead_major, if_true, Option.map_eq_some_iff] at hd
    obtain ⟨vs, hm, rfl⟩ := hd
    simp [encStruct, encArr_iso true 0 fs xs hc hcn vs hm, mkArray]
  | case3 hd2 xs =>  -- map layout
    simp only [Bool.and_eq_true, beq_iff_eq, decide_eq_true_eq]
    rintro ⟨⟨⟨rfl, hl⟩, hev⟩, hcn⟩ v hd
    simp only [decStruct, unwrapTag_wrapTag t _ ht, Item.mapEntries?, minHead_major, if_true] at hd
    cases hm : decMapEntries d fs (pairUp xs) with
    | none => simp [hm] at hd
    | some res =>
      simp only [hm] at hd
      obtain ⟨vs', hl', hr, he⟩ := encMapFields_iso fs fs hc (pairUp xs) res (findField_fields hi) hcn hm
      -- `res` is what the encoder's own entries decode to, so collecting the fields returns `vs'`
      have hcol := collectFields_resOf fs 0 vs' hi hl'
      rw [← hr] at hcol
      simp only [hcol, Option.map_some, Option.some.injEq] at hd
      subst hd
      simp [encStruct, he, mkMapFlat, flatten_pairUp_even xs hev]

theorem IsoOn.enumFlat (vs : List (Nat × List (Nat × Schema)))
    (hc : ∀ v, v ∈ vs → ∀ p, p ∈ v.2 → IsoOn (c p.2) (e p.2) (d p.2)) :
    IsoOn (canonEnumFlat c d vs) (encEnumFlat e vs) (decEnumFlat d vs) := by
  refine .intro fun it => ?_
  fun_cases canonEnumFlat c d vs it with
  | case2 => nofun
  | case1 hd x xs =>
    simp only [Bool.and_eq_true, beq_iff_eq, decide_eq_true_eq]
    rintro ⟨⟨⟨rfl, hl⟩, hx⟩, hz⟩ v hdv
    obtain ⟨n, hn, rfl⟩ := canonUInt_elim hx
    rw [show Item.seq (minHead 4 (xs.length + 1)) (mkUInt n :: xs) = mkArray (mkUInt n :: xs) from rfl,
      decEnumFlat_mkArray d vs n xs hn, Option.ite_none_right_eq_some] at hdv
    obtain ⟨_, hdv⟩ := hdv
    cases hf : findVariant (n : Int) 0 vs with
    | none => simp [hf] at hdv
    | some q =>
      obtain ⟨pos, fs⟩ := q
      simp only [hf, Option.ite_none_left_eq_some, Option.map_eq_some_iff] at hdv
      obtain ⟨_, ws, hws, rfl⟩ := hdv
      have hg := getElem_of_findVariant_zero hf
      simp only [mkUInt_int n hn, hf] at hz
      simp [encEnumFlat, hg, encArr_iso false 0 fs xs (hc (n, fs) (List.mem_of_getElem? hg)) hz ws hws, mkArray]

end
end PallasVerif.Schema
