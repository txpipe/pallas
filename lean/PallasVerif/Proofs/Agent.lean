import PallasVerif.Model.Agent
import PallasVerif.Proofs.Fsm
/-!
  What the specification prescribes for an agent of a given role (`specStep`, `specRun`, `Ev.wf`: the terms in which
  Props/C23 states `agent_refines_spec`), the decidable conformance predicate `AgentTable`, and its lifting to single
  calls and to every history of calls.
-/
namespace PallasVerif.Agent
open PallasVerif.Fsm

def peer : Agency → Agency
  | .client => .server
  | .server => .client
  | .nobody => .nobody

/-- what the specification prescribes for an event, for the role of agent `a` (besides the role, the agent
    contributes, for a receiving method, its state guard, which messages it has an arm for and whether the arm
    checks the payload) -/
def specStep (sp : Spec) (a : Agent) (s : String) : Ev → String × Bool
  | .rawSend m => (s, decide (sp.agency s = a.role) && (sp.step s m).isSome)
  | .rawRecv m => (s, decide (sp.agency s = peer a.role) && (sp.step s m).isSome)
  | .send st =>
    match (if sp.agency s = a.role then sp.step s st.msg else none) with
    | some n => (n, true)
    | none => (s, false)
  | .recv f m ok =>
    if (a.methodGuard f s).isSome then (s, false) else
    match (if sp.agency s = peer a.role then sp.step s m else none), a.handles f m with
    | some n, some st => if st.cond ∧ !ok then (s, false) else (n, true)
    | _, _ => (s, false)

def specRun (sp : Spec) (a : Agent) : String → List Ev → String × List Bool
  | s, [] => (s, [])
  | s, e :: es => let r := specStep sp a s e; let r' := specRun sp a r.1 es; (r'.1, r.2 :: r'.2)

/-- The name `f` of a receiving method is free: one the agent does not have is refused on both sides
    (`handles f m = none`). -/
def Ev.wf (a : Agent) : Ev → Prop
  | .rawSend m => m ∈ a.msgs
  | .rawRecv m => m ∈ a.msgs
  | .send st => st ∈ a.sends
  | .recv _ m _ => m ∈ a.msgs

def AgentTableA (a : Agent) (sp : Spec) : Prop :=
  (∀ s ∈ a.states, s ∈ sp.stateNames) ∧ (∀ s ∈ sp.stateNames, s ∈ a.states) ∧
  (∀ m ∈ a.msgs, m ∈ sp.msgs) ∧ (∀ m ∈ sp.msgs, m ∈ a.msgs) ∧
  a.init = sp.init ∧ a.role ≠ .nobody ∧
  -- `has_agency` answers with the specification's agency, read for this role; nothing is asked of a state where
  -- nobody has it (`Done`)
  (∀ s ∈ a.states, sp.agency s ≠ .nobody → (a.hasAgency s = true ↔ sp.agency s = a.role)) ∧
  (∀ s ∈ a.states, ∀ m ∈ a.msgs,
    (a.sendMessage s m).toBool = (decide (sp.agency s = a.role) && (sp.step s m).isSome)) ∧
  (∀ s ∈ a.states, ∀ m ∈ a.msgs,
    (a.recvMessage s m).toBool = (decide (sp.agency s = peer a.role) && (sp.step s m).isSome))

def AgentTableB (a : Agent) (sp : Spec) : Prop :=
  -- every state assignment after an accepted send / receive is the prescribed one. A sending method's own guard is a
  -- conclusion (where `send_message` accepts the guard holds too, so it never changes the verdict); a receiving arm's
  -- guard is a premise (`callRecv` reaches the arm only past `methodGuard`)
  (∀ st ∈ a.sends, st.msg ∈ a.msgs ∧ ∀ s ∈ a.states, (a.sendMessage s st.msg).toBool = true →
    sp.step s st.msg = some (st.next.getD s) ∧ st.guardOk s = true) ∧
  (∀ st ∈ a.recvs, ∀ s ∈ a.states, ∀ m ∈ a.msgs, (st.msg = m ∨ st.msg = "*") → st.guardOk s = true →
    (a.recvMessage s m).toBool = true → sp.step s m = some (st.next.getD s)) ∧
  -- every exchange of the specification has a method that performs it
  (∀ r ∈ sp.trans, (sp.agency r.st = a.role → ∃ st ∈ a.sends, st.msg = r.msg ∧ st.guardOk r.st = true) ∧
                   (sp.agency r.st = peer a.role → ∃ st ∈ a.recvs, (st.msg = r.msg ∨ st.msg = "*") ∧ st.guardOk r.st = true)) ∧
  (∀ r ∈ sp.trans, r.next ∈ sp.stateNames)

instance (a : Agent) (sp : Spec) : Decidable (AgentTableA a sp) := by unfold AgentTableA; infer_instance
instance (a : Agent) (sp : Spec) : Decidable (AgentTableB a sp) := by unfold AgentTableB; infer_instance

/-- In two halves because instance search does not find `Decidable` for the thirteen conjuncts as one proposition. -/
def AgentTable (a : Agent) (sp : Spec) : Prop := AgentTableA a sp ∧ AgentTableB a sp

instance (a : Agent) (sp : Spec) : Decidable (AgentTable a sp) := by unfold AgentTable; infer_instance

namespace AgentTable
variable {a : Agent} {sp : Spec}
theorem states_sup (h : AgentTable a sp) : ∀ s ∈ sp.stateNames, s ∈ a.states := h.1.2.1
theorem send_accepts (h : AgentTable a sp) : ∀ s ∈ a.states, ∀ m ∈ a.msgs,
    (a.sendMessage s m).toBool = (decide (sp.agency s = a.role) && (sp.step s m).isSome) := h.1.2.2.2.2.2.2.2.1
theorem recv_accepts (h : AgentTable a sp) : ∀ s ∈ a.states, ∀ m ∈ a.msgs,
    (a.recvMessage s m).toBool = (decide (sp.agency s = peer a.role) && (sp.step s m).isSome) := h.1.2.2.2.2.2.2.2.2
theorem send_sound (h : AgentTable a sp) : ∀ st ∈ a.sends, st.msg ∈ a.msgs ∧ ∀ s ∈ a.states,
    (a.sendMessage s st.msg).toBool = true → sp.step s st.msg = some (st.next.getD s) ∧
      st.guardOk s = true := h.2.1
theorem recv_sound (h : AgentTable a sp) : ∀ st ∈ a.recvs, ∀ s ∈ a.states, ∀ m ∈ a.msgs, (st.msg = m ∨ st.msg = "*") →
    st.guardOk s = true →
    (a.recvMessage s m).toBool = true → sp.step s m = some (st.next.getD s) := h.2.2.1
theorem next_mem (h : AgentTable a sp) : ∀ r ∈ sp.trans, r.next ∈ sp.stateNames := h.2.2.2.2
end AgentTable

/-- for `send_accepts`, `recv_accepts` -/
theorem accepts_iff {ε α β : Type} {x : Except ε α} {c : Prop} [Decidable c] {o : Option β}
    (h : x.toBool = (decide c && o.isSome)) : (∃ u, x = .ok u) ↔ c ∧ ∃ n, o = some n := by
  have hx : x.toBool = true ↔ ∃ u, x = .ok u := by cases x <;> simp [Except.toBool]
  rw [← hx, h]
  simp [Option.isSome_iff_exists]

theorem step_mem_states {a : Agent} {sp : Spec} (ht : AgentTable a sp) {s m n : String}
    (h : sp.step s m = some n) : n ∈ a.states :=
  ht.states_sup _ (Spec.step_mem ht.next_mem h)

/-- `AgentTable` writes "the role may move on this message" as `decide c && o.isSome`, `specStep` as
    `if c then o else none`; this passes from the first form to the second. -/
theorem guarded_eq_none {c : Prop} [Decidable c] {α : Type} {o : Option α}
    (h : (decide c && o.isSome) = false) : (if c then o else none) = none := by
  by_cases hc : c
  · rw [if_pos hc]; simpa [hc] using h
  · exact if_neg hc

section
variable {a : Agent} {sp : Spec} {s : String}

theorem step_send (ht : AgentTable a sp) (hs : s ∈ a.states) {st : Step} (hst : st ∈ a.sends) :
    a.step s (.send st) = specStep sp a s (.send st) := by
  obtain ⟨hm, hsound⟩ := ht.send_sound st hst
  have hiff := ht.send_accepts s hs st.msg hm
  simp only [Agent.step, specStep, Agent.callSend]
  cases hsend : a.sendMessage s st.msg with
  | error e =>
    rw [hsend] at hiff
    rw [guarded_eq_none hiff.symm]
    -- the method's own guard does not matter: both sides refuse whatever it says
    cases st.guardOk s <;> rfl
  | ok u =>
    obtain ⟨hstep, hguard⟩ := hsound s hs (by rw [hsend]; rfl)
    rw [hsend] at hiff
    rw [if_pos (of_decide_eq_true (Bool.and_eq_true_iff.mp hiff.symm).1), hstep, hguard]
    rfl

/-- the premises of `recv_sound` -/
theorem arm_of_handles {f m : String} {st : Step} (hg : a.methodGuard f s = none)
    (hh : a.handles f m = some st) : st ∈ a.recvs ∧ (st.msg = m ∨ st.msg = "*") ∧ st.guardOk s = true := by
  have hmem := List.mem_of_find?_eq_some hh
  obtain ⟨hf, hmsg⟩ : st.method = f ∧ (st.msg = m ∨ st.msg = "*") := by simpa using List.find?_some hh
  have := List.find?_eq_none.mp (Option.map_eq_none_iff.mp hg) st hmem
  exact ⟨hmem, hmsg, by simpa [hf] using this⟩

theorem step_recv (ht : AgentTable a sp) (hs : s ∈ a.states) (f : String) {m : String} (hm : m ∈ a.msgs)
    (ok : Bool) : a.step s (.recv f m ok) = specStep sp a s (.recv f m ok) := by
  have hiff := ht.recv_accepts s hs m hm
  simp only [Agent.step, specStep, Agent.callRecv]
  cases hg : a.methodGuard f s with
  | some e => rfl
  | none =>
    cases hrecv : a.recvMessage s m with
    | error e =>
      rw [hrecv] at hiff
      rw [guarded_eq_none hiff.symm]
      rfl
    | ok u =>
      rw [hrecv] at hiff
      have hag := of_decide_eq_true (Bool.and_eq_true_iff.mp hiff.symm).1
      cases hh : a.handles f m with
      | none => simp
      | some st =>
        obtain ⟨hmem, hmsg, hgok⟩ := arm_of_handles hg hh
        rw [if_pos hag, ht.recv_sound st hmem s hs m hm hmsg hgok (by rw [hrecv]; rfl)]
        by_cases hc : st.cond = true ∧ ok = false <;> simp [hc]

/-- `callSend`/`callRecv` return `.ok` only past the low-level check, and the table says what the assigned state
    is then -/
theorem callSend_ok (ht : AgentTable a sp) (hs : s ∈ a.states) {st : Step} (hst : st ∈ a.sends) {n : String}
    (h : a.callSend s st = .ok n) : sp.step s st.msg = some n := by
  revert h
  -- one arm of `callSend` returns `.ok`
  fun_cases Agent.callSend a s st <;> rintro ⟨⟩
  next hsend => exact ((ht.send_sound st hst).2 s hs (by rw [hsend]; rfl)).1

theorem callRecv_ok (ht : AgentTable a sp) (hs : s ∈ a.states) {f m : String} (hm : m ∈ a.msgs) {ok : Bool}
    {n : String} (h : a.callRecv s f m ok = .ok n) : sp.step s m = some n := by
  revert h
  fun_cases Agent.callRecv a s f m ok <;> rintro ⟨⟩
  next hg hrecv st hh _ =>
    obtain ⟨hmem, hmsg, hgok⟩ := arm_of_handles hg hh
    exact ht.recv_sound st hmem s hs m hm hmsg hgok (by rw [hrecv]; rfl)

theorem step_refines (ht : AgentTable a sp) (hs : s ∈ a.states)
    (e : Ev) (he : e.wf a) : a.step s e = specStep sp a s e ∧ (a.step s e).1 ∈ a.states := by
  cases e with
  | rawSend m => exact ⟨congrArg (Prod.mk s) (ht.send_accepts s hs m he), hs⟩
  | rawRecv m => exact ⟨congrArg (Prod.mk s) (ht.recv_accepts s hs m he), hs⟩
  | send st =>
    refine ⟨step_send ht hs he, ?_⟩
    simp only [Agent.step]
    cases h : a.callSend s st with
    | ok n => exact step_mem_states ht (callSend_ok ht hs he h)
    | error x => exact hs
  | recv f m ok =>
    refine ⟨step_recv ht hs f he ok, ?_⟩
    simp only [Agent.step]
    cases h : a.callRecv s f m ok with
    | ok n => exact step_mem_states ht (callRecv_ok ht hs he h)
    | error x => exact hs

end

theorem history_refines {a : Agent} {sp : Spec} (ht : AgentTable a sp) (es : List Ev) (s : String)
    (hs : s ∈ a.states) (hwf : ∀ e ∈ es, e.wf a) : a.run s es = specRun sp a s es := by
  fun_induction Agent.run a s es with
  | case1 s => rfl
  | case2 s e es r r' ih =>
    obtain ⟨he, hes⟩ := List.forall_mem_cons.mp hwf
    obtain ⟨h1, h2⟩ := step_refines ht hs e he
    simp only [specRun]
    rw [← h1, ← ih h2 hes]

end PallasVerif.Agent
