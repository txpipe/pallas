import PallasVerif.Model.CborWrappers
import PallasVerif.Proofs.Minicbor
/-!
  The two laws of a wrapper codec of `Model/CborWrappers.lean`, `RTon` and `Pres`; then what the proofs of those laws in
  `Props/C03` share: what `AnyUInt` accepted and how its encodings begin, the raw bytes of a decoded `KeepRaw` and what its
  operations do to them, what `AnyCbor` holds, the side condition of `Nullable`.
-/
namespace PallasVerif.Wrappers
open PallasVerif.Cbor PallasVerif.Minicbor

/-- round trip on the values that satisfy `wf`: decoding an encoding, with whatever follows it, gives the value back
    and stops exactly at its end -/
def RTon {α : Type} (c : Codec α) (wf : α → Prop) : Prop :=
  ∀ a, wf a → ∀ r, c.dec (c.enc a ++ r) = .ok a r

/-- every accepted input is written back byte for byte -/
def Pres {α : Type} (c : Codec α) : Prop :=
  ∀ bs a r, c.dec bs = .ok a r → c.enc a ++ r = bs

theorem be1 (x : Nat) : be 1 x = [UInt8.ofNat x] := by simp [be]

theorem anyuint_dec_inv (bs : Bytes) (a : AnyUInt) (r : Bytes) (h : AnyUInt.dec bs = .ok a r) :
    a.wf ∧ AnyUInt.enc a ++ r = bs := by
  cases bs with
  | nil => cases h
  | cons b t =>
    simp only [AnyUInt.dec, datatype, Minicbor.u8, Minicbor.u16, Minicbor.u32, Minicbor.u64] at h
    -- whatever the datatype, the value comes from `uintN _ (b :: t)`, so `b` is an unsigned head
    have hb : b.toNat ≤ 0x1b := Decidable.byContradiction fun hb => by
      have e : ∀ bits, uintN bits (b :: t) = .err (errTypeOf t b) := fun bits => if_neg hb
      simp only [e, Res.map_err] at h
      repeat' split at h
      all_goals cases h
    rcases typeOf_uint_cases (b :: t) b hb with ⟨h1, e⟩ | ⟨h1, e⟩ | ⟨h1, e⟩ | ⟨h1, e⟩
    · simp only [e, if_true, List.head?_cons, Option.some.injEq] at h
      obtain ⟨x, hu, rfl⟩ := Res.map_eq_ok h
      obtain ⟨_, hun, hx⟩ := uintN_inv _ b t x r hu
      by_cases h18 : b = 0x18
      · rw [h18] at hun
        obtain ⟨ht, _⟩ := readBe_inv 1 t x r ((unsigned_24 t).symm.trans hun)
        simp only [h18, decide_true, if_true]
        exact ⟨hx, by rw [ht]; rfl⟩
      · have hlt : b.toNat < 24 := by
          have : b.toNat ≠ 0x18 := fun e => h18 (by rw [byte_eq_of_toNat b _ e]; rfl)
          omega
        rw [unsigned_imm _ _ hlt] at hun
        cases hun
        simp only [h18, decide_false]
        exact ⟨hlt, by simp [AnyUInt.enc, be1]⟩
    -- the three wide forms: `unsigned` at 0x19, 0x1a, 0x1b is `readBe` of 2, 4, 8 bytes
    iterate 3
      · simp only [e, reduceCtorEq, if_true, if_false] at h
        obtain ⟨x, hu, rfl⟩ := Res.map_eq_ok h
        obtain ⟨_, hun, hx⟩ := uintN_inv _ b t x r hu
        rw [h1] at hun
        exact ⟨hx, by rw [byte_eq_of_toNat b _ h1, (readBe_inv _ t x r hun).1]; rfl⟩

theorem anyuint_enc_head (a : AnyUInt) (hw : a.wf) : ∃ b t, AnyUInt.enc a = b :: t ∧ b.toNat ≤ 0x1b := by
  cases a
  case majorByte x =>
    have hx : x < 24 := hw
    exact ⟨_, _, be1 x, by rw [toNat_ofNat_lt x (by omega)]; omega⟩
  -- the other forms start with the literal byte 24, 25, 26 or 27
  all_goals exact ⟨_, _, rfl, by decide⟩

theorem anyuint_datatype (a : AnyUInt) (hw : a.wf) (r : Bytes) :
    ∃ ty, datatype (AnyUInt.enc a ++ r) = .ok ty ∧ (ty = .u8 ∨ ty = .u16 ∨ ty = .u32 ∨ ty = .u64) := by
  obtain ⟨b, t, e, hb⟩ := anyuint_enc_head a hw
  rw [e]
  rcases typeOf_uint_cases (b :: (t ++ r)) b hb with ⟨_, h⟩ | ⟨_, h⟩ | ⟨_, h⟩ | ⟨_, h⟩
  all_goals exact ⟨_, h, by decide⟩

theorem KeepRaw.dec_eq_ok {α : Type} {t : Codec α} {bs r : Bytes} {k : KeepRaw α} (h : KeepRaw.dec t bs = .ok k r) :
    t.dec bs = .ok k.inner r ∧ k.cow = .borrowed (span bs r) := by
  unfold KeepRaw.dec at h
  cases hd : t.dec bs with
  | err e => rw [hd] at h; cases h
  | ok a rest => rw [hd] at h; cases h; exact ⟨rfl, rfl⟩

theorem keepraw_raw_is_consumed {α : Type} (t : Codec α) (ht : Suffix t.dec) (bs : Bytes) (k : KeepRaw α) (r : Bytes)
    (h : KeepRaw.dec t bs = .ok k r) : bs = k.raw ++ r ∧ t.dec bs = .ok k.inner r := by
  obtain ⟨hd, hcow⟩ := KeepRaw.dec_eq_ok h
  obtain ⟨c, hc⟩ := ht bs _ r hd
  rw [KeepRaw.raw, hcow, hc]
  exact ⟨by simp [Cow.bytes, span_of_suffix], hc ▸ hd⟩

theorem KeepRaw.enc_of_raw_ne {α : Type} (t : Codec α) (k : KeepRaw α) (h : k.raw ≠ []) : KeepRaw.enc t k = k.raw := by
  have : k.raw.isEmpty = false := by cases hk : k.raw <;> simp [hk] at h ⊢
  simp [KeepRaw.enc, this]

theorem keepraw_raw_ne {α : Type} (t : Codec α) (ht : Consumes t.dec) (bs : Bytes) (k : KeepRaw α) (r : Bytes)
    (h : KeepRaw.dec t bs = .ok k r) : k.raw ≠ [] := by
  obtain ⟨hbs, hd⟩ := keepraw_raw_is_consumed t ht.suffix bs k r h
  obtain ⟨c, hne, hc⟩ := ht bs k.inner r hd
  rwa [List.append_cancel_right (hbs.symm.trans hc)]

/-- `deref_mut` clears the raw bytes first -/
theorem keepraw_mut {α : Type} (t : Codec α) (k : KeepRaw α) (f : α → α) :
    KeepRaw.enc t (k.derefMut f) = t.enc (f k.inner) := by
  simp [KeepRaw.enc, KeepRaw.derefMut, KeepRaw.clearRaw, KeepRaw.raw, Cow.bytes]

theorem kop_apply_raw {α : Type} (o : KOp α) (k : KeepRaw α) :
    (o.apply k).raw = bif o.invalidates then [] else k.raw := by cases o <;> rfl

theorem kop_apply_inner {α : Type} (o : KOp α) (k : KeepRaw α) (h : o.invalidates = false) :
    (o.apply k).inner = k.inner := by cases o <;> first | rfl | cases h

theorem keepraw_run_raw {α : Type} (ops : List (KOp α)) (k : KeepRaw α) :
    (k.run ops).raw = bif ops.any KOp.invalidates then [] else k.raw := by
  induction ops generalizing k with
  | nil => rfl
  | cons o os ih =>
    rw [KeepRaw.run, List.foldl_cons, ← KeepRaw.run, ih, kop_apply_raw, List.any_cons]
    cases o.invalidates <;> cases os.any KOp.invalidates <;> rfl

theorem keepraw_run_inner {α : Type} (ops : List (KOp α)) (k : KeepRaw α) (h : ops.any KOp.invalidates = false) :
    (k.run ops).inner = k.inner := by
  induction ops generalizing k with
  | nil => rfl
  | cons o os ih =>
    rw [List.any_cons, Bool.or_eq_false_iff] at h
    rw [KeepRaw.run, List.foldl_cons, ← KeepRaw.run, ih _ h.2, kop_apply_inner o k h.1]

theorem AnyCbor.dec_eq_ok {cur a r : Bytes} (h : AnyCbor.dec cur = .ok a r) : skip cur = .ok () r ∧ a = span cur r := by
  unfold AnyCbor.dec at h
  cases hd : skip cur with
  | err e => rw [hd] at h; cases h
  | ok u rest => rw [hd] at h; cases h; exact ⟨rfl, rfl⟩

/-- the side condition `Nullable<T>` needs: an encoding of `T` is never mistaken for null / undefined -/
def NotNullish {α : Type} (t : Codec α) (wf : α → Prop) : Prop :=
  ∀ a, wf a → ∀ r, ∃ ty, datatype (t.enc a ++ r) = .ok ty ∧ ty ≠ .null ∧ ty ≠ .undefined

def Nullable.wfWith {α : Type} (wf : α → Prop) : Nullable α → Prop
  | .some a => wf a
  | _ => True

theorem u64_notNullish : NotNullish cU64 (fun x => x < 2 ^ 64) := by
  intro n hn r
  obtain ⟨hai, hb⟩ := encHead_byte 0 n (by omega)
  show ∃ ty, datatype (encHead 0 n ++ r) = .ok ty ∧ _
  rw [encHead_eq]
  rcases typeOf_uint_cases _ _ (show (initByte 0 (minHead 0 n).ai).toNat ≤ 0x1b by omega) with ⟨_, e'⟩ | ⟨_, e'⟩ | ⟨_, e'⟩ | ⟨_, e'⟩
  all_goals exact ⟨_, e', by decide, by decide⟩

end PallasVerif.Wrappers
