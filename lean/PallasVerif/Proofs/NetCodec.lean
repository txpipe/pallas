import PallasVerif.Model.NetCodec
import PallasVerif.Proofs.Cbor
/-!
An encoder tree that passes `E.ok` writes the encoding of the well-formed item `e.toItem`, hence exactly one data
item for the strict parser (`E.single`). The decoder primitives run on any well-formed definite head, hence on what
the encoder primitives write: `Field e d a` for one call and its decoder, `Fields es p b` for a run of calls read by a
continuation; a list-valued field is the run `xs.flatMap g` read by an element loop (`Fields.decN`, `Fields.decBreak`),
with `g x` one call in an array and key and value (`Fields.pair`) in a map.
-/
namespace PallasVerif.NetCodec
open PallasVerif.Cbor

theorem leafItem_spec (bs : Bytes) (h : isSingleItem bs = true) :
    (leafItem bs).wf = true ∧ bs = (leafItem bs).encode := by
  obtain ⟨i, w, rfl⟩ := (isSingleItem_iff bs).1 h
  have := parseItem_encode i [] w
  rw [List.append_nil] at this
  simpa only [leafItem, this, and_true] using w

theorem mkBool_encode (b : Bool) : (mkBool b).encode = [boolByte b] := by cases b <;> decide

mutual
theorem E.toItem_spec : ∀ (e : E), e.ok = true → e.toItem.wf = true ∧ e.encode = e.toItem.encode
  | .uint n, _ => ⟨mkUInt_wf n, by rw [E.encode, E.toItem]; rfl⟩
  | .bool b, _ => ⟨mkBool_wf b, by rw [E.encode, E.toItem, mkBool_encode]⟩
  | .null, _ => ⟨mkNull_wf, by rw [E.encode, E.toItem]; rfl⟩
  | .bytes bs, h => by
    simp only [E.ok, decide_eq_true_eq] at h
    exact ⟨mkBytes_wf bs h, by rw [E.encode, E.toItem]; rfl⟩
  | .text bs, h => by
    simp only [E.ok, decide_eq_true_eq] at h
    exact ⟨mkText_wf bs h, by rw [E.encode, E.toItem]; rfl⟩
  | .arr n xs, h => by
    simp only [E.ok, Bool.and_eq_true, decide_eq_true_eq] at h
    obtain ⟨⟨hn, hl⟩, hx⟩ := h
    obtain ⟨w, e, l⟩ := E.toItems_spec xs hx
    rw [← hl, ← l] at hn ⊢
    exact ⟨mkArray_wf _ hn w, by rw [E.encode, e, E.toItem]; rfl⟩
  | .arrI xs, h => by
    simp only [E.ok] at h
    obtain ⟨w, e, l⟩ := E.toItems_spec xs h
    simp [E.toItem, E.encode, Item.wf, Item.encode, initByte, *]
  | .map n kvs, h => by
    simp only [E.ok, Bool.and_eq_true, decide_eq_true_eq] at h
    obtain ⟨⟨hn, hl⟩, hx⟩ := h
    obtain ⟨w, e, l⟩ := E.toItems_spec kvs hx
    simp [E.toItem, E.encode, Item.wf, Item.encode, seqCount, minHead_major, minHead_ai_ne, minHead_wf 5 n (by omega), minHead_val _ _ hn, *]
  | .mapI kvs, h => by
    simp only [E.ok, Bool.and_eq_true, decide_eq_true_eq] at h
    obtain ⟨hl, hx⟩ := h
    obtain ⟨w, e, l⟩ := E.toItems_spec kvs hx
    simp [E.toItem, E.encode, Item.wf, Item.encode, initByte, *]
  | .tag t x, h => by
    simp only [E.ok, Bool.and_eq_true, decide_eq_true_eq] at h
    obtain ⟨w, e⟩ := E.toItem_spec x h.2
    exact ⟨mkTag_wf t _ w, by rw [E.encode, e, E.toItem]; rfl⟩
  | .raw bs, h => by
    simp only [E.ok] at h
    obtain ⟨w, e⟩ := leafItem_spec bs h
    exact ⟨by simpa [E.toItem] using w, by simpa [E.toItem, E.encode] using e⟩
theorem E.toItems_spec : ∀ (xs : List E), E.okList xs = true →
    Cbor.wfList (E.toItems xs) = true ∧ E.encodeList xs = Cbor.encodeList (E.toItems xs) ∧ (E.toItems xs).length = xs.length
  | [], _ => by simp [E.toItems, E.encodeList, Cbor.wfList, Cbor.encodeList]
  | x :: xs, h => by
    simp only [E.okList, Bool.and_eq_true] at h
    obtain ⟨w, e⟩ := E.toItem_spec x h.1
    obtain ⟨ws, es, l⟩ := E.toItems_spec xs h.2
    simp [E.toItems, E.encodeList, Cbor.wfList, Cbor.encodeList, *]
end

/-- **WF**: what an encoder tree that passes `E.ok` writes is exactly one well-formed data item -/
theorem E.single (e : E) (h : e.ok = true) : isSingleItem e.encode = true := by
  obtain ⟨w, eq⟩ := E.toItem_spec e h
  rw [eq]; exact isSingleItem_encode _ w

mutual
theorem E.lensOk_of_ok : ∀ (e : E), e.ok = true → e.lensOk = true
  | .uint _, _ | .bool _, _ | .null, _ | .bytes _, _ | .text _, _ | .raw _, _ => by simp [E.lensOk]
  | .arr n xs, h | .map n xs, h => by
    simp only [E.ok, Bool.and_eq_true, decide_eq_true_eq] at h
    simp [E.lensOk, h.1.2, E.lensOkList_of_ok xs h.2]
  | .arrI xs, h => by simp only [E.ok] at h; simp [E.lensOk, E.lensOkList_of_ok xs h]
  | .mapI kvs, h => by
    simp only [E.ok, Bool.and_eq_true, decide_eq_true_eq] at h
    simp [E.lensOk, h.1, E.lensOkList_of_ok kvs h.2]
  | .tag _ x, h => by
    simp only [E.ok, Bool.and_eq_true] at h
    simp [E.lensOk, E.lensOk_of_ok x h.2]
theorem E.lensOkList_of_ok : ∀ (xs : List E), E.okList xs = true → E.lensOkList xs = true
  | [], _ => by simp [E.lensOkList]
  | x :: xs, h => by
    simp only [E.okList, Bool.and_eq_true] at h
    simp [E.lensOkList, E.lensOk_of_ok x h.1, E.lensOkList_of_ok xs h.2]
end

theorem E.okList_append (xs ys : List E) : E.okList (xs ++ ys) = (E.okList xs && E.okList ys) := by
  induction xs with
  | nil => simp [E.okList]
  | cons x xs ih => simp [E.okList, ih, Bool.and_assoc]

theorem E.encodeList_append (xs ys : List E) : E.encodeList (xs ++ ys) = E.encodeList xs ++ E.encodeList ys := by
  induction xs with
  | nil => simp [E.encodeList]
  | cons x xs ih => simp [E.encodeList, ih]

@[simp] theorem Res.bind_ok {α β : Type} (a : α) (r : Bytes) (f : α → Bytes → Res β) : (Res.ok a r).bind f = f a r := rfl
@[simp] theorem Res.map_ok {α β : Type} (a : α) (r : Bytes) (f : α → β) : (Res.ok a r).map f = .ok (f a) r := rfl

theorem Res.bind_congr {α β : Type} (x : Res α) (f g : α → Bytes → Res β)
    (h : ∀ a r, x = .ok a r → f a r = g a r) : x.bind f = x.bind g := by
  cases x with
  | ok a r => exact h a r rfl
  | eoi | err => rfl

theorem Res.bind_eq_ok {α β : Type} {x : Res α} {f : α → Bytes → Res β} {b : β} {r : Bytes}
    (h : x.bind f = .ok b r) : ∃ a r', x = .ok a r' ∧ f a r' = .ok b r := by
  cases x with
  | ok a r' => exact ⟨a, r', rfl, h⟩
  | eoi | err => simp [Res.bind] at h

theorem Res.map_eq_ok {α β : Type} {x : Res α} {f : α → β} {b : β} {r : Bytes}
    (h : x.map f = .ok b r) : ∃ a, x = .ok a r ∧ f a = b := by
  cases x with
  | ok a r' => simp [Res.map] at h; exact ⟨a, by rw [h.2], h.1⟩
  | eoi | err => simp [Res.map] at h

theorem Res.bind_assoc {α β γ : Type} (x : Res α) (f : α → Bytes → Res β) (g : β → Bytes → Res γ) :
    (x.bind f).bind g = x.bind fun a r => (f a r).bind g := by
  cases x <;> rfl

theorem Res.bind_map {α β γ : Type} (x : Res α) (g : α → β) (f : β → Bytes → Res γ) :
    (x.map g).bind f = x.bind fun a r => f (g a) r := by
  cases x <;> rfl

theorem major_initByte (m ai : Nat) (hm : m < 8) (hai : ai < 32) : major (initByte m ai) = m :=
  (initByte_div_mod m ai hm hai).1

theorem info_initByte (m ai : Nat) (hm : m < 8) (hai : ai < 32) : info (initByte m ai) = ai :=
  (initByte_div_mod m ai hm hai).2

theorem readN_append (a r : Bytes) : readN a.length (a ++ r) = .ok a r := by
  simp [readN]

theorem unsignedArg_head (h : Head) (hw : h.wf = true) (hai : h.ai ≠ 31) (r : Bytes) (bad : Res Nat) :
    unsignedArg h.ai (h.arg ++ r) bad = .ok h.val r := by
  have e := readN_append h.arg r
  -- `argLen` and `unsignedArg` branch alike on `ai`; in each branch the argument has the width read
  rcases argLen_cases _ _ ((Head.wf_iff h).mp hw).2.2 with ⟨h0, hn⟩ | ⟨h1, hn⟩ | ⟨h1, hn⟩ | ⟨h1, hn⟩ | ⟨h1, hn⟩ | ⟨h1, _⟩
  · simp [unsignedArg, Head.val, h0, List.eq_nil_of_length_eq_zero hn]
  iterate 4
    · rw [hn] at e
      simp [unsignedArg, Head.val, h1, e]
  · exact absurd h1 hai

theorem major_head {h : Head} (hw : h.wf = true) : major (initByte h.major h.ai) = h.major :=
  (Head.byte_div_mod hw).1

theorem info_head {h : Head} (hw : h.wf = true) : info (initByte h.major h.ai) = h.ai :=
  (Head.byte_div_mod hw).2

section
variable {h : Head} (hw : h.wf = true) (hai : h.ai ≠ 31)
include hw hai

theorem u64_head (hm : h.major = 0) (r : Bytes) : u64 (h.encode ++ r) = .ok h.val r := by
  simp only [Head.encode, List.cons_append, u64, major_head hw, info_head hw]
  rw [if_pos hm]
  exact unsignedArg_head h hw hai r _

theorem defStr_head (bs : Bytes) (hl : bs.length = h.val) (r : Bytes) :
    defStr h.major (h.encode ++ (bs ++ r)) = .ok bs r := by
  simp only [Head.encode, List.cons_append, defStr, major_head hw, info_head hw, ne_eq, not_true_eq_false, hai, or_self,
    if_false, unsignedArg_head h hw hai, Res.bind_ok]
  rw [← hl]; exact readN_append bs r

theorem container_head (r : Bytes) : container h.major (h.encode ++ r) = .ok (some h.val) r := by
  simp only [Head.encode, List.cons_append, container, major_head hw, info_head hw, ne_eq, not_true_eq_false, hai, if_false,
    unsignedArg_head h hw hai, Res.map_ok]

theorem tag_head (hm : h.major = 6) (r : Bytes) : tag (h.encode ++ r) = .ok h.val r := by
  simp only [Head.encode, List.cons_append, tag, major_head hw, info_head hw]
  rw [if_neg (fun hne => hne hm)]
  exact unsignedArg_head h hw hai r _

end

def Field {α : Type} (e : E) (d : Dec α) (a : α) : Prop :=
  e.ok = true ∧ ∀ r, d (e.encode ++ r) = .ok a r

def Fields {β : Type} (es : List E) (p : Bytes → Res β) (b : β) : Prop :=
  E.okList es = true ∧ ∀ r, p (E.encodeList es ++ r) = .ok b r

theorem Field.u64 {n : Nat} (h : n < 2 ^ 64) : Field (.uint n) u64 n :=
  ⟨by simp [E.ok, h], fun r => by
    rw [E.encode, u64_head (minHead_wf 0 n (by omega)) (minHead_ai_ne 0 n) (minHead_major 0 n), minHead_val 0 n h]⟩

theorem Field.uMax {m n : Nat} (h : n ≤ m) (h64 : n < 2 ^ 64) : Field (.uint n) (uMax m) n :=
  ⟨(Field.u64 h64).1, fun r => by simp [NetCodec.uMax, (Field.u64 h64).2 r, h]⟩

theorem uMax_ok_le {m : Nat} {bs r : Bytes} {n : Nat} (h : uMax m bs = .ok n r) : n ≤ m := by
  unfold uMax at h
  obtain ⟨v, r', _, h2⟩ := Res.bind_eq_ok h
  split at h2
  · simp only [Res.ok.injEq] at h2; omega
  · simp at h2

theorem Field.u8 {n : Nat} (h : n ≤ 255) : Field (.uint n) u8 n := Field.uMax (by unfold U8MAX; omega) (by omega)
theorem Field.u16 {n : Nat} (h : n ≤ 65535) : Field (.uint n) u16 n := Field.uMax (by unfold U16MAX; omega) (by omega)
theorem Field.u32 {n : Nat} (h : n ≤ 4294967295) : Field (.uint n) u32 n :=
  Field.uMax (by unfold U32MAX; omega) (by omega)

theorem Field.bool (b : Bool) : Field (.bool b) NetCodec.bool b :=
  ⟨rfl, fun r => by cases b <;> simp [E.encode, boolByte, NetCodec.bool]⟩

theorem defStr_minHead (m : Nat) (hm : m < 8) (bs : Bytes) (hl : bs.length < 2 ^ 64) (r : Bytes) :
    defStr m ((minHead m bs.length).encode ++ (bs ++ r)) = .ok bs r := by
  have := defStr_head (minHead_wf m _ hm) (minHead_ai_ne m _) bs (minHead_val m _ hl).symm r
  rwa [minHead_major] at this

theorem Field.bytes {bs : Bytes} (hl : bs.length < 2 ^ 64) : Field (.bytes bs) bytes bs :=
  ⟨by simp [E.ok, hl], fun r => by
    simp only [E.encode, List.append_assoc, NetCodec.bytes]
    exact defStr_minHead 2 (by omega) bs hl r⟩

theorem Field.str {bs : Bytes} (hl : bs.length < 2 ^ 64) (hu : utf8Valid bs = true) : Field (.text bs) str bs :=
  ⟨by simp [E.ok, hl], fun r => by
    simp only [E.encode, List.append_assoc, NetCodec.str]
    rw [defStr_minHead 3 (by omega) bs hl r]
    simp [hu]⟩

theorem container_minHead (m : Nat) (hm : m < 8) (n : Nat) (hn : n < 2 ^ 64) (r : Bytes) :
    container m ((minHead m n).encode ++ r) = .ok (some n) r := by
  have := container_head (minHead_wf m n hm) (minHead_ai_ne m n) r
  rwa [minHead_major, minHead_val m n hn] at this

theorem array_arr (n : Nat) (xs : List E) (hn : n < 2 ^ 64) (r : Bytes) :
    array ((E.arr n xs).encode ++ r) = .ok (some n) (E.encodeList xs ++ r) := by
  simp only [E.encode, List.append_assoc, array]
  exact container_minHead 4 (by omega) n hn _

theorem array_arrI (xs : List E) (r : Bytes) :
    array ((E.arrI xs).encode ++ r) = .ok none (E.encodeList xs ++ 0xff :: r) := by
  simp [E.encode, array, container, major, info]

theorem map_map (n : Nat) (kvs : List E) (hn : n < 2 ^ 64) (r : Bytes) :
    map ((E.map n kvs).encode ++ r) = .ok (some n) (E.encodeList kvs ++ r) := by
  simp only [E.encode, List.append_assoc, map]
  exact container_minHead 5 (by omega) n hn _

theorem map_mapI (kvs : List E) (r : Bytes) :
    map ((E.mapI kvs).encode ++ r) = .ok none (E.encodeList kvs ++ 0xff :: r) := by
  simp [E.encode, map, container, major, info]

theorem tag_tag (t : Nat) (x : E) (ht : t < 2 ^ 64) (r : Bytes) :
    tag ((E.tag t x).encode ++ r) = .ok t (x.encode ++ r) := by
  rw [E.encode, List.append_assoc,
    tag_head (minHead_wf 6 t (by omega)) (minHead_ai_ne 6 t) (minHead_major 6 t), minHead_val 6 t ht]

/-! ### reading back a run of encoder calls

One rule per way the message decoders go on: `(prim r).bind fun x r => …`. The proof that a decoder reads back what
an encoder wrote is then the list of its fields, and unification finds the continuation. In `k a`, `p (some n)`,
`p t`, `F … k` below the argument is the value just read; when the next rule is applied Lean runs the decoder's
`match` or `if` on it (a numeral label, a declared length, the tag 24) by evaluation. The side conditions (declared
length = number of calls, bounds) are auto-params: a wrong arity shows as "could not synthesize default value" at the rule. -/

theorem Fields.nil {β : Type} {b : β} : Fields [] (fun r => .ok b r) b := ⟨rfl, fun _ => rfl⟩

theorem Fields.cons {α β : Type} {e : E} {d : Dec α} {a : α} {es : List E} {k : α → Bytes → Res β} {b : β}
    (h : Field e d a) (hs : Fields es (k a) b) : Fields (e :: es) (fun bs => (d bs).bind k) b :=
  ⟨by rw [E.okList, h.1, hs.1]; rfl, fun r => by
    show (d _).bind k = _
    rw [E.encodeList, List.append_assoc, h.2, Res.bind_ok]; exact hs.2 r⟩

theorem Fields.one {α : Type} {e : E} {d : Dec α} {a : α} (h : Field e d a) : Fields [e] d a :=
  ⟨by rw [E.okList, h.1]; rfl, fun r => by rw [E.encodeList, E.encodeList, List.append_nil]; exact h.2 r⟩

/-- how a structure that is one array enters: `.of (.arr …)` -/
theorem Field.of {α : Type} {e : E} {d : Dec α} {a : α} (h : Fields [e] d a) : Field e d a :=
  ⟨by simpa [E.okList] using h.1, fun r => by simpa [E.encodeList] using h.2 r⟩

/-- `d.array()?` handing the declared length to the rest, which reads the elements and goes on -/
theorem Fields.arr {β : Type} {n : Nat} {xs es : List E} {p : Option Nat → Bytes → Res β} {b : β}
    (hs : Fields (xs ++ es) (p (some n)) b) (hl : xs.length = n := by rfl) (hn : n < 2 ^ 64 := by omega) :
    Fields (.arr n xs :: es) (fun bs => (array bs).bind p) b := by
  obtain ⟨h1, h2⟩ := hs
  rw [E.okList_append, Bool.and_eq_true] at h1
  refine ⟨by simp [E.okList, E.ok, hn, hl, h1.1, h1.2], fun r => ?_⟩
  show (array _).bind p = _
  rw [E.encodeList, List.append_assoc, array_arr n xs hn, Res.bind_ok, ← List.append_assoc, ← E.encodeList_append]
  exact h2 r

/-- `d.tag()?` likewise -/
theorem Fields.tag {β : Type} {t : Nat} {x : E} {es : List E} {p : Nat → Bytes → Res β} {b : β}
    (hs : Fields (x :: es) (p t) b) (ht : t < 2 ^ 64 := by omega) :
    Fields (.tag t x :: es) (fun bs => (tag bs).bind p) b := by
  obtain ⟨h1, h2⟩ := hs
  rw [E.okList, Bool.and_eq_true] at h1
  refine ⟨by simp [E.okList, E.ok, ht, h1.1, h1.2], fun r => ?_⟩
  show (NetCodec.tag _).bind p = _
  rw [E.encodeList, List.append_assoc, tag_tag t x ht, Res.bind_ok, ← List.append_assoc]
  exact h2 r

/-- a message whose decoder keeps the declared length: `d.array()?`, `d.u16()?`, then the fields under that label -/
theorem Field.arrLabel {β : Type} {n k : Nat} {es : List E} {F : Option Nat → Nat → Bytes → Res β} {b : β}
    (hs : Fields es (F (some n) k) b) (hl : es.length + 1 = n := by rfl) (hn : n < 2 ^ 64 := by omega)
    (hk : k ≤ 65535 := by omega) :
    Field (.arr n (.uint k :: es)) (fun bs => (array bs).bind fun len r => (NetCodec.u16 r).bind (F len)) b :=
  .of (.arr (p := fun len r => (NetCodec.u16 r).bind (F len)) (by rw [List.append_nil]; exact .cons (.u16 hk) hs) hl hn)

theorem Field.tuple2 {α β : Type} {ea eb : E} {da : Dec α} {db : Dec β} {a : α} {b : β}
    (ha : Field ea da a) (hb : Field eb db b) : Field (.arr 2 [ea, eb]) (tuple2 da db) (a, b) :=
  .of (.arr (.cons ha (.cons hb .nil)))

/-- the head of a definite array, whatever its width -/
theorem datatype_array {b : UInt8} (hn : 0x80 ≤ b.toNat ∧ b.toNat ≤ 0x9b) (rest : Bytes) :
    datatype (b :: rest) = .ok .array (b :: rest) := by
  simp only [datatype]
  rw [if_neg (by omega), if_neg (by omega), if_neg (by omega), if_neg (by omega), if_neg (by omega), if_neg (by omega),
    if_neg (by omega), if_neg (by omega), if_neg (by omega), if_neg (by omega), if_pos hn]

theorem datatype_arr (n : Nat) (xs : List E) (r : Bytes) :
    datatype ((E.arr n xs).encode ++ r) = .ok .array ((E.arr n xs).encode ++ r) := by
  have h1 := minHead_ai_le 4 n
  rw [E.encode, minHead_encode, List.cons_append, List.cons_append]
  exact datatype_array (by rw [initByte_toNat 4 _ (by omega) (by omega)]; omega) _

theorem datatype_uint (n : Nat) (r : Bytes) :
    ∃ t, datatype ((E.uint n).encode ++ r) = .ok t ((E.uint n).encode ++ r) ∧ (t = .u8 ∨ t = .u16 ∨ t = .u32 ∨ t = .u64) := by
  have h1 := minHead_ai_le 0 n
  have hb : (initByte 0 (minHead 0 n).ai).toNat = (minHead 0 n).ai := by
    rw [initByte_toNat 0 (minHead 0 n).ai (by omega) (by omega)]; omega
  simp only [E.encode, minHead_encode, List.cons_append, datatype, hb]
  by_cases c1 : (minHead 0 n).ai ≤ 0x18
  · exact ⟨.u8, by rw [if_pos c1], by simp⟩
  · rw [if_neg c1]
    by_cases c2 : (minHead 0 n).ai = 0x19
    · exact ⟨.u16, by rw [if_pos c2], by simp⟩
    · rw [if_neg c2]
      by_cases c3 : (minHead 0 n).ai = 0x1a
      · exact ⟨.u32, by rw [if_pos c3], by simp⟩
      · rw [if_neg c3]
        have c4 : (minHead 0 n).ai = 0x1b := by omega
        exact ⟨.u64, by rw [if_pos c4], by simp⟩

theorem datatype_null (r : Bytes) : datatype (0xf6 :: r) = .ok .null (0xf6 :: r) := by
  simp [datatype]

def E.startsNonBreak (e : E) : Prop := ∃ b t, e.encode = b :: t ∧ b ≠ 0xff

theorem E.startsNonBreak_arr (n : Nat) (xs : List E) : (E.arr n xs).startsNonBreak := by
  refine ⟨initByte 4 (minHead 4 n).ai, (minHead 4 n).arg ++ E.encodeList xs, by simp [E.encode, minHead_encode], ?_⟩
  have := minHead_ai_le 4 n
  exact initByte_ne_break 4 _ (by omega) (by omega) (by omega)

/-- what passes `E.ok` is the encoding of a well-formed item, which never starts with the break byte -/
theorem E.startsNonBreak_of_ok (e : E) (h : e.ok = true) : e.startsNonBreak := by
  obtain ⟨w, eq⟩ := E.toItem_spec e h
  unfold E.startsNonBreak; rw [eq]; exact first_byte_ne_break _ w

/-! ### list-valued fields

An element `x` of a list is written as the run of calls `g x` (one call in an array, key and value in a map) and read
by `d`; the two element loops read `xs.flatMap g` back to `xs`. -/

theorem Fields.decN {α : Type} {d : Dec α} {g : α → List E} {xs : List α} (h : ∀ x ∈ xs, Fields (g x) d x) :
    Fields (xs.flatMap g) (decN d xs.length) xs := by
  induction xs with
  | nil => exact ⟨rfl, fun _ => rfl⟩
  | cons x xs ih =>
    obtain ⟨o1, r1⟩ := h x (by simp)
    obtain ⟨o2, r2⟩ := ih fun y hy => h y (by simp [hy])
    refine ⟨by rw [List.flatMap_cons, E.okList_append, o1, o2]; rfl, fun r => ?_⟩
    rw [List.flatMap_cons, E.encodeList_append, List.append_assoc, List.length_cons, NetCodec.decN, r1, Res.bind_ok, r2]; rfl

/-- a run of calls that pass `E.ok` does not start with the break byte (`E.startsNonBreak_of_ok` of its first call) -/
theorem E.encodeList_ne_break {es : List E} (ho : E.okList es = true) (hne : es ≠ []) :
    ∃ b t, E.encodeList es = b :: t ∧ b ≠ 0xff := by
  cases es with
  | nil => exact absurd rfl hne
  | cons e es =>
    rw [E.okList, Bool.and_eq_true] at ho
    obtain ⟨b, t, hbt, hb⟩ := E.startsNonBreak_of_ok e ho.1
    exact ⟨b, t ++ E.encodeList es, by rw [E.encodeList, hbt]; rfl, hb⟩

/-- the loop up to the break byte: no element is empty, so none starts with `0xff`, and the bytes of the elements are
    fuel enough -/
theorem Fields.decBreak {α : Type} {d : Dec α} {g : α → List E} {xs : List α} (h : ∀ x ∈ xs, Fields (g x) d x)
    (hne : ∀ x ∈ xs, g x ≠ []) (r : Bytes) {fuel : Nat} (hf : (E.encodeList (xs.flatMap g)).length < fuel) :
    decBreak d fuel (E.encodeList (xs.flatMap g) ++ 0xff :: r) = .ok xs r := by
  obtain ⟨fuel, rfl⟩ : ∃ k, fuel = k + 1 := ⟨fuel - 1, by omega⟩
  induction xs generalizing fuel with
  | nil => simp [E.encodeList, NetCodec.decBreak]
  | cons x xs ih =>
    obtain ⟨o1, r1⟩ := h x (by simp)
    obtain ⟨b, t, hbt, hb⟩ := E.encodeList_ne_break o1 (hne x (by simp))
    have hx := r1 (E.encodeList (xs.flatMap g) ++ 0xff :: r)
    rw [List.flatMap_cons, E.encodeList_append] at hf ⊢
    rw [List.append_assoc]
    rw [hbt] at hx hf ⊢
    simp only [List.length_append, List.length_cons] at hf
    obtain ⟨fuel, rfl⟩ : ∃ k, fuel = k + 1 := ⟨fuel - 1, by omega⟩
    rw [List.cons_append, NetCodec.decBreak, if_neg hb, ← List.cons_append, hx, Res.bind_ok,
      ih (fun y hy => h y (by simp [hy])) (fun y hy => hne y (by simp [hy])) fuel (by omega)]
    rfl

/-- `Vec<T>::decode` on a definite array -/
theorem Field.vec {α : Type} {d : Dec α} {f : α → E} {xs : List α} (hl : xs.length < 2 ^ 64)
    (h : ∀ x ∈ xs, Field (f x) d x) : Field (.arr xs.length (xs.map f)) (vec d) xs :=
  .of (.arr (by rw [List.append_nil, List.map_eq_flatMap]; exact .decN fun x hx => .one (h x hx)) (List.length_map f) hl)

/-- the same as an indefinite array -/
theorem Field.vecI {α : Type} {d : Dec α} {f : α → E} {xs : List α} (h : ∀ x ∈ xs, Field (f x) d x) :
    Field (.arrI (xs.map f)) (NetCodec.vec d) xs := by
  have hs : ∀ x ∈ xs, Fields [f x] d x := fun x hx => Fields.one (h x hx)
  have hd := Fields.decBreak hs (fun _ _ => List.cons_ne_nil _ _)
  rw [← List.map_eq_flatMap] at hd
  exact ⟨by simpa [E.ok, List.map_eq_flatMap] using (Fields.decN hs).1, fun r => by
    simp only [NetCodec.vec, array_arrI, Res.bind_ok]
    exact hd r (by simp only [List.length_append]; omega)⟩

/-- an entry of a map: key, then value -/
theorem Fields.pair {α β : Type} {ek ev : E} {dk : Dec α} {dv : Dec β} {a : α} {b : β}
    (hk : Field ek dk a) (hv : Field ev dv b) : Fields [ek, ev] (pair dk dv) (a, b) :=
  Fields.cons hk (Fields.cons hv Fields.nil)

theorem flatMap_pair_length {α β : Type} (fk : α → E) (fv : β → E) (l : List (α × β)) :
    (l.flatMap fun kv => [fk kv.1, fv kv.2]).length = 2 * l.length := by
  induction l with
  | nil => rfl
  | cons a l ih => simp only [List.flatMap_cons, List.length_append, List.length_cons, List.length_nil, ih]; omega

/-! ### key-sorted association lists (`HashMap` / `BTreeMap` contents in canonical order) -/

theorem insertKV_append {β : Type} (k : Nat) (v : β) (acc : List (Nat × β)) (h : ∀ p ∈ acc, p.1 < k) :
    insertKV k v acc = acc ++ [(k, v)] := by
  induction acc with
  | nil => rfl
  | cons p acc ih =>
    have hp := h p (by simp)
    have : ¬ k < p.1 := by omega
    have : ¬ k = p.1 := by omega
    obtain ⟨pk, pv⟩ := p
    simp only [insertKV, List.cons_append] at *
    simp [*, ih fun q hq => h q (by simp [hq])]

theorem sortedKeys_cons {β : Type} (a : Nat × β) (l : List (Nat × β)) (h : sortedKeys (a :: l) = true) :
    sortedKeys l = true ∧ ∀ p ∈ l, a.1 < p.1 := by
  induction l generalizing a with
  | nil => simp [sortedKeys]
  | cons b l ih =>
    simp only [sortedKeys, Bool.and_eq_true, decide_eq_true_eq] at h
    obtain ⟨hab, hs⟩ := h
    obtain ⟨_, hall⟩ := ih b hs
    refine ⟨hs, ?_⟩
    intro p hp
    simp only [List.mem_cons] at hp
    rcases hp with rfl | hp
    · exact hab
    · have := hall p hp; omega

theorem foldl_insertKV {β : Type} (l acc : List (Nat × β)) (hs : sortedKeys l = true)
    (h : ∀ p ∈ acc, ∀ q ∈ l, p.1 < q.1) :
    l.foldl (fun m p => insertKV p.1 p.2 m) acc = acc ++ l := by
  induction l generalizing acc with
  | nil => simp
  | cons a l ih =>
    obtain ⟨hs', hall⟩ := sortedKeys_cons a l hs
    simp only [List.foldl_cons]
    rw [insertKV_append a.1 a.2 acc fun p hp => h p hp a (by simp)]
    rw [ih (acc ++ [(a.1, a.2)]) hs']
    · simp
    · intro p hp q hq
      simp only [List.mem_append, List.mem_singleton] at hp
      rcases hp with hp | rfl
      · exact h p hp q (by simp [hq])
      · exact hall q hq

theorem fromPairs_sorted {β : Type} (l : List (Nat × β)) (hs : sortedKeys l = true) : fromPairs l = l := by
  unfold fromPairs
  simpa using foldl_insertKV l [] hs (by simp)

/-- `Decoder::skip` goes over exactly these bytes, whatever follows -/
def SkipExact (bs : Bytes) : Prop := ∀ r, skip (bs ++ r) = .ok () r

theorem anyCbor_raw (bs : Bytes) (h : SkipExact bs) (r : Bytes) : anyCbor ((E.raw bs).encode ++ r) = .ok bs r := by
  simp [anyCbor, E.encode, h r]

/-- `SkipExact [0xf6]`, for the `SkippedContent` of chain-sync (`NetMsg.skipped_spec`) -/
theorem skip_null (r : Bytes) : skip (0xf6 :: r) = .ok () r := by
  simp [skip, skipLoop, unsignedArg, info, skipTail]

end PallasVerif.NetCodec
