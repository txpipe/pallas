import PallasVerif.Model.ValidateTxs
/-!
# C39 — Sequence validation updates certificate state atomically

`applyInOrder` is the specification: apply each transaction in order to the state its predecessor
produced, stop at the first failure. For **every** single-transaction validator `step` (including
ones that leave a half-updated state behind when they fail), every starting state and every
transaction list (any length up to 2^32):

* `validate_txs_spec` — `validateTxs` returns `(s', ok)` exactly when `applyInOrder` ends in `s'`,
  and `(s, err e)` with the caller's state `s` untouched exactly when `applyInOrder` fails with `e`;
* `validate_txs_ok_iff`, `validate_txs_err_atomic`, `validate_txs_never_partial` — the two clauses of
  the property separately (the atomic clause holds for every length, panic included);
* `direct_is_not_atomic` — the variant that validates against the caller's state directly violates
  the property for a concrete `step` (so the theorems do distinguish the two programs).
-/
namespace PallasVerif.Props.C39
open PallasVerif.ValidateTxs

variable {S T E : Type}

def applyInOrder (step : Step S T E) : S → Nat → List T → Except E S
  | s, _, [] => .ok s
  | s, i, tx :: rest =>
    match step s i tx with
    | (s', none) => applyInOrder step s' (i + 1) rest
    | (_, some e) => .error e

/-- the loop never writes the caller's variable -/
theorem loopMem_caller (step : Step S T E) : ∀ (txs : List T) (m : Mem S) (i : Nat),
    (loopMem step m i txs).1.caller = m.caller := by
  intro txs m i
  fun_induction loopMem step m i txs with
  | case1 | case2 | case4 => rfl  -- the loop ends: no transaction left; the index leaves `u32`; `step` fails
  | case3 m i tx rest _ d' _ ih => exact ih  -- `step` succeeds: on with the state it left

theorem loopMem_spec (step : Step S T E) : ∀ (txs : List T) (m : Mem S) (i : Nat),
    i + txs.length ≤ U32_MAX + 1 →
    (match applyInOrder step m.delta i txs with
     | .ok s' => (loopMem step m i txs).2 = .ok ∧ (loopMem step m i txs).1.delta = s'
     | .error e => (loopMem step m i txs).2 = .err e) := by
  intro txs m i hlen
  fun_induction loopMem step m i txs with
  | case1 => simp [applyInOrder]
  | case2 m i tx rest hi => exact absurd hi (by simp only [List.length_cons] at hlen; omega)  -- the index leaves `u32`
  | case3 m i tx rest _ d' hs ih =>  -- `step` succeeds
    simp only [List.length_cons] at hlen
    rw [applyInOrder, hs]
    exact ih (by omega)
  | case4 m i tx rest _ d' e hs => rw [applyInOrder, hs]  -- `step` fails

/-- **The property.** -/
theorem validate_txs_spec (step : Step S T E) (s : S) (txs : List T) (hlen : txs.length ≤ U32_MAX + 1) :
    validateTxs step s txs =
      (match applyInOrder step s 0 txs with
       | .ok s' => (s', .ok)
       | .error e => (s, .err e)) := by
  have h := loopMem_spec step txs { caller := s, delta := s } 0 (by omega)
  have hc := loopMem_caller step txs { caller := s, delta := s } 0
  unfold validateTxs
  cases hl : loopMem step { caller := s, delta := s } 0 txs with
  | mk m r =>
    rw [hl] at h hc
    cases ha : applyInOrder step s 0 txs <;> rw [ha] at h
    · cases h; cases hc; rfl
    · obtain ⟨h1, h2⟩ := h
      cases h1; cases h2; rfl

theorem validate_txs_ok_iff (step : Step S T E) (s s' : S) (txs : List T) (hlen : txs.length ≤ U32_MAX + 1) :
    validateTxs step s txs = (s', .ok) ↔ applyInOrder step s 0 txs = .ok s' := by
  rw [validate_txs_spec step s txs hlen]
  cases applyInOrder step s 0 txs <;> simp

/-- no bound on the length, so not through `validate_txs_spec`: only the frame fact `loopMem_caller` is needed -/
theorem validate_txs_err_atomic (step : Step S T E) (s : S) (txs : List T)
    (hfail : (validateTxs step s txs).2 ≠ .ok) : (validateTxs step s txs).1 = s := by
  have hc := loopMem_caller step txs { caller := s, delta := s } 0
  unfold validateTxs at hfail ⊢
  cases hl : loopMem step { caller := s, delta := s } 0 txs with
  | mk m r =>
    rw [hl] at hc hfail
    cases r with
    | ok => simp at hfail
    | err e | panic => simpa using hc

theorem validate_txs_never_partial (step : Step S T E) (s : S) (txs : List T) (hlen : txs.length ≤ U32_MAX + 1) :
    (∃ s', applyInOrder step s 0 txs = .ok s' ∧ validateTxs step s txs = (s', .ok)) ∨
    (∃ e, applyInOrder step s 0 txs = .error e ∧ validateTxs step s txs = (s, .err e)) := by
  rw [validate_txs_spec step s txs hlen]
  cases applyInOrder step s 0 txs with
  | ok s' => exact Or.inl ⟨s', rfl, rfl⟩
  | error e => exact Or.inr ⟨e, rfl, rfl⟩

/-! ## The mutation is visible: a `step` that registers (adds 1) before it notices the transaction is bad -/
private def regThenCheck : Step Nat Bool String := fun s _ good => (s + 1, if good then none else some "bad")

example : validateTxs regThenCheck 10 [true, true, false, true] = (10, .err "bad") := by decide
example : validateTxs regThenCheck 10 [true, true, true] = (13, .ok) := by decide
example : applyInOrder regThenCheck 10 0 [true, true, true] = .ok 13 := by rfl
/-- validating against the caller's state directly leaves three half-applied registrations behind -/
theorem direct_is_not_atomic :
    (validateTxsDirect regThenCheck 10 [true, true, false, true]).2 ≠ .ok ∧
    (validateTxsDirect regThenCheck 10 [true, true, false, true]).1 ≠ 10 := by decide

end PallasVerif.Props.C39
