import PallasVerif.Proofs.FlatTotal
/-!
# C02 — Flat decoding is total on arbitrary bytes

`Model/Flat.lean` transcribes `decoder.rs` with every place where the Rust would trap (index out of
range, slice past the end, `u8`/`usize` shift by at least the bit width, subtraction below zero)
as an explicit `panic` outcome; loops take fuel and an exhausted fuel is a `panic` as well.
`Proofs/FlatTotal.lean` shows for each entry point that from a state with `used_bits < 8` and the
cursor inside the buffer the outcome is never `panic`, the invariant holds again (after `Ok` *and*
after `Err`, since the caller keeps the decoder), and the buffer is the same.

The property is `dec_total`: for **every** byte string and **every** finite sequence of calls of the
public entry points on a `Decoder::new(bytes)`, no call panics. `decode_top_total` is the same for
`flat::decode::<T>` (`mod.rs`). `decode_list_with_total` covers `decode_list_with` for an arbitrary
element decoder that is itself safe.

The three arms that did panic before the `fix:` commits are kept as `Orig.*`; the `orig_*_panics`
theorems are the recorded witnesses (DESIGN §6 #1–#3) evaluated on those arms.
-/
namespace PallasVerif.Props.C02
open PallasVerif.Flat

theorem call_safe (d : Dec) (h : d.Inv) (op : DOp) :
    ∃ d', d.call op = some d' ∧ d'.Inv ∧ d'.buf = d.buf := by
  have key : ∀ {α : Type} (r : Res α), Res.Safe d r → ∃ d', r.next = some d' ∧ d'.Inv ∧ d'.buf = d.buf :=
    fun r hr => let ⟨d', hn, ha⟩ := (Res.safe_iff_next d r).mp hr; ⟨d', hn, ha.2.1, ha.1⟩
  cases op with
  | bool => exact key _ (Dec.bool_safe d h)
  | u8 => exact key _ (Dec.u8_safe d h)
  | bits8 n => exact key _ (Dec.bits8_safe d n h)
  | word => exact key _ (Dec.word_safe d h)
  | integer => exact key _ (Dec.integer_safe d h)
  | char => exact key _ (Dec.char_safe d h)
  | string => exact key _ (Dec.string_safe d h)
  | bytes => exact key _ (Dec.bytes_safe d h)
  | utf8 => exact key _ (Dec.utf8_safe d h)
  | filler => exact key _ (Dec.filler_safe d h)
  | bools => exact key _ (Dec.list_safe Dec.bool Dec.bool_safe d h)

theorem runOps_of_inv (d : Dec) (h : d.Inv) (ops : List DOp) : d.runOps ops = true := by
  induction ops generalizing d with
  | nil => rfl
  | cons op ops ih =>
    obtain ⟨d', hc, hi, _⟩ := call_safe d h op
    simp only [Dec.runOps, hc]
    exact ih d' hi

/-- **C02.** For every byte string and every sequence of decoder calls, no call panics
    (no out-of-bounds read, no shift overflow, no non-termination within the loop bounds). -/
theorem dec_total (bytes : List Byte) (ops : List DOp) : (Dec.new bytes).runOps ops = true :=
  runOps_of_inv _ (Dec.inv_new bytes) ops

theorem dec_total_single (bytes : List Byte) (op : DOp) : (Dec.new bytes).call op ≠ none := by
  obtain ⟨d', hc, _⟩ := call_safe _ (Dec.inv_new bytes) op
  simp [hc]

theorem pos_le_len (d : Dec) (h : d.Inv) (op : DOp) (d' : Dec) (hc : d.call op = some d') :
    d'.pos ≤ d'.buf.length ∧ d'.used < 8 ∧ (d'.pos = d'.buf.length → d'.used = 0) := by
  obtain ⟨d'', hc', hi, _⟩ := call_safe d h op
  rw [hc] at hc'
  cases hc'
  obtain ⟨h1, h2⟩ := hi
  simp only [Dec.cursor] at h2
  refine ⟨by omega, h1, by omega⟩

theorem decode_list_with_total {α : Type} (elem : Dec → Res α)
    (helem : ∀ d : Dec, d.Inv → Res.Safe d (elem d)) (bytes : List Byte) :
    (Dec.list elem (Dec.new bytes)).isPanic = false :=
  (Dec.list_safe elem helem _ (Dec.inv_new bytes)).not_panic

/-- `flat::decode::<T>(bytes)` of `mod.rs` (decode a `T`, then the filler) never panics -/
theorem decode_top_total (k : Kind) (bytes : List Byte) : (decodeTop k bytes).isPanic = false := by
  have hv := Dec.value_safe (Dec.new bytes) (Dec.inv_new bytes) k
  unfold decodeTop
  generalize (Dec.new bytes).value k = r at hv ⊢
  match r, hv with
  | .panic, hv => exact hv.elim
  | .err e d, _ => rfl
  | .ok v d', hv =>
    have hf := Dec.filler_safe d' hv.2.1
    simp only
    generalize d'.filler = r' at hf ⊢
    cases r' with
    | panic => exact hf.elim
    | ok _ _ | err _ _ => rfl

/-- The model computes `usize` / `isize` / `i64` additions and the one multiplication of
    `decoder.rs` in `Nat` / `Int`. This lists every such site and shows that, in any state the
    decoder can reach (`Dec.Inv`) on a buffer below 2^60 bytes, the exact value lies inside the
    machine type, so the Rust computes the same number and its overflow check does not fire.
    (`blkLen ≤ 255` is a byte; `n ≤ 8` is checked by `bits8` before any arithmetic.) -/
theorem arith_sites_in_range (d : Dec) (h : d.Inv) (hlen : d.buf.length < 2 ^ 60) (n blkLen : Nat)
    (hn : n ≤ 8) (hb : blkLen ≤ 255) :
    -- increment_buffer_by_bit: `self.pos += 1` (taken only when `pos < len`), `self.used_bits += 1`
    (d.pos < d.buf.length → d.pos + 1 < 2 ^ 64) ∧ d.used + 1 < 2 ^ 63 ∧
    -- ensure_bytes: `required as isize`, `len as isize - pos as isize`
    ((blkLen + 1 : Int) < 2 ^ 63 ∧ -(2 ^ 63 : Int) ≤ (d.buf.length : Int) - d.pos ∧ (d.buf.length : Int) - d.pos < 2 ^ 63) ∧
    -- ensure_bits: `(len as isize - pos as isize) * 8 - used_bits as isize`
    (-(2 ^ 63 : Int) ≤ ((d.buf.length : Int) - d.pos) * 8 - d.used ∧ ((d.buf.length : Int) - d.pos) * 8 < 2 ^ 63) ∧
    -- drop_bits: `num_bits as i64 + used_bits`, `pos += all_used_bits as usize / 8` (after ensure_bits)
    (n + d.used < 2 ^ 63 ∧ d.pos + (n + d.used) / 8 < 2 ^ 64) ∧
    -- bits8: `self.pos + 1`, `unused_bits + leading_zeroes`
    (d.pos + 1 < 2 ^ 64 ∧ (8 - d.used) + (8 - n) < 2 ^ 64) ∧
    -- byte_array: `blk_len as usize + 1`, `self.pos + blk_len as usize`, `self.pos += …`, `self.pos += 1`
    (blkLen + 1 < 2 ^ 64 ∧ (d.pos + blkLen + 1 ≤ d.buf.length → d.pos + blkLen + 1 < 2 ^ 64)) ∧
    -- word: `shl += 7` is an explicit trap site of the model (never reached: `Dec.wordLoop_safe`)
    True := by
  obtain ⟨hu, hc⟩ := h
  simp only [Dec.cursor] at hc
  refine ⟨?_, ?_, ⟨?_, ?_, ?_⟩, ⟨?_, ?_⟩, ⟨?_, ?_⟩, ⟨?_, ?_⟩, ⟨?_, ?_⟩, trivial⟩ <;> omega

/-! ## The unrepaired arms panic at the recorded witnesses -/

/-- #1 `Decoder::new(&[]).bool()` indexed `buffer[0]` -/
theorem orig_bool_panics : Orig.bool (Dec.new []) = .panic := by decide

/-- #2 eleven `0xff` bytes: the 11th round shifted a `usize` by 70 -/
theorem orig_word_panics : Orig.word (Dec.new (List.replicate 11 0xff#8)) = .panic := by decide

/-- #2' ten `0xff` and `0x01` -/
theorem orig_word_panics' : Orig.word (Dec.new (List.replicate 10 0xff#8 ++ [0x01#8])) = .panic := by decide

/-- #3 `bits8(0)` on empty input indexed `buffer[0]`; on non-empty input shifted a `u8` by 8 -/
theorem orig_bits8_zero_panics :
    Orig.bits8 (Dec.new []) 0 = .panic ∧ Orig.bits8 (Dec.new [0x01#8]) 0 = .panic := by decide

/-- the repaired arms on the same inputs -/
theorem fixed_at_witnesses :
    (Dec.new []).bool = .err .eob (Dec.new []) ∧
    (Dec.new (List.replicate 11 0xff#8)).word = .err .msg ⟨List.replicate 11 0xff#8, 10, 0⟩ ∧
    (Dec.new []).bits8 0 = .ok 0#8 (Dec.new []) := by decide

/-! ## Non-vacuity: the entry points do return values and errors -/
example : (Dec.new [0xAC#8, 0x02#8]).word = .ok 300 ⟨[0xAC#8, 0x02#8], 2, 0⟩ := by decide
example : (Dec.new [0x01#8, 0x02#8, 0xAA#8, 0xBB#8, 0x00#8]).bytes
    = .ok [0xAA#8, 0xBB#8] ⟨[0x01#8, 0x02#8, 0xAA#8, 0xBB#8, 0x00#8], 5, 0⟩ := by decide
example : (Dec.new [0x01#8, 0x05#8, 0xAA#8]).bytes = .err (.bytes 6) ⟨[0x01#8, 0x05#8, 0xAA#8], 2, 0⟩ := by decide
example : (Dec.new [0xff#8]).runOps [.bool, .bits8 3, .word, .filler, .bytes] = true := by decide

end PallasVerif.Props.C02
