import PallasVerif.Proofs.FlatCalls
import PallasVerif.Proofs.FlatFormat
/-!
  Decoder refinement (`Props/C01`): `Dec.ReadsAt d f a l` says that if the bits at the cursor of `d`
  (`Dec.rem`) start with `l`, the call `f` returns `a` in the state `d.dropBits l.length`; `Dec.Reads f a l`
  says so for every state with `used_bits < 8`. The calls whose encoding does not depend on the state read
  it in every state. `byte_array` needs `used_bits = 0`, the filler that `bytes` and `utf8` expect depends
  on `used_bits`, and a value or a sequence is specified from the offset it starts at: those are `ReadsAt`
  statements. A successful call leaves the decoder where `drop_bits` would, so consecutive calls compose
  by `Dec.ReadsAt.next`.
-/
namespace PallasVerif.Flat

def Dec.ReadsAt {α : Type} (d : Dec) (f : Dec → Res α) (a : α) (l : List Bool) : Prop :=
  ∀ rest : List Bool, d.rem = l ++ rest → f d = .ok a (d.dropBits l.length)

def Dec.Reads {α : Type} (f : Dec → Res α) (a : α) (l : List Bool) : Prop :=
  ∀ d : Dec, d.used < 8 → Dec.ReadsAt d f a l

theorem Dec.ReadsAt.next {α : Type} {d : Dec} {f : Dec → Res α} {a : α} {l : List Bool} (hf : Dec.ReadsAt d f a l)
    {rest : List Bool} (h : d.rem = l ++ rest) :
    f d = .ok a (d.dropBits l.length) ∧ (d.dropBits l.length).used < 8 ∧ (d.dropBits l.length).rem = rest :=
  ⟨hf rest h, d.dropBits_used _, Dec.rem_dropBits h⟩

theorem Dec.bit_reads (b : Bool) : Dec.Reads Dec.bit b [b] := by
  intro d hu rest h
  rw [Dec.bit_eq d hu, h]
  rfl

theorem Dec.bits8_reads (n : Nat) (h1 : 1 ≤ n) (h2 : n ≤ 8) (x : Byte) (h3 : x.toNat < 2 ^ n) :
    Dec.Reads (Dec.bits8 · n) x ((byteBits x).drop (8 - n)) := by
  intro d hu rest h
  have hlen : ((byteBits x).drop (8 - n)).length = n := by simp; omega
  have hl := Dec.length_le_of_rem h
  obtain ⟨y, hy, hb⟩ := Dec.bits8_of_enough d hu n h1 h2 (by omega)
  rw [h, List.take_left' hlen, ← byteBits_of_toNat_lt h3] at hb
  show d.bits8 n = _
  rw [hy, byteBits_inj hb, hlen]

theorem Dec.u8_reads (g : Byte) : Dec.Reads Dec.u8 g (byteBits g) :=
  Dec.bits8_reads 8 (by omega) (by omega) g g.isLt

theorem Dec.fillerLoop_reads (k fuel : Nat) (hf : k ≤ fuel) :
    Dec.Reads (Dec.fillerLoop (fuel + 1)) () (List.replicate k false ++ [true]) := by
  induction k generalizing fuel with
  | zero =>
    intro d hu rest h
    simp only [Dec.fillerLoop, Dec.zero, Dec.bit_reads true d hu rest h, Bool.not_true]
    rfl
  | succ k ih =>
    intro d hu rest h
    rw [List.replicate_succ, List.cons_append, List.cons_append] at h
    obtain ⟨h1, hu1, hr1⟩ := (Dec.bit_reads false d hu).next h
    simp only [Dec.fillerLoop, Dec.zero, h1, Bool.not_false]
    obtain ⟨f, rfl⟩ : ∃ f, fuel = f + 1 := ⟨fuel - 1, by omega⟩
    rw [ih f (by omega) _ hu1 rest hr1, Dec.dropBits_dropBits]
    simp [Nat.add_comm]

/-- for every `u`, whatever `d.used` is: the decoder skips any run of zeros up to the first one bit -/
theorem Dec.filler_reads (u : Nat) : Dec.Reads Dec.filler () (fillerBits u) := by
  intro d hu rest h
  have := Dec.length_le_of_rem h
  simp only [fillerBits, List.length_append, List.length_replicate, List.length_singleton, Dec.cursor] at this
  exact Dec.fillerLoop_reads (7 - u) _ (by omega) d hu rest h

/-- the terminating filler: nothing follows it -/
theorem Dec.filler_ends {d : Dec} {u : Nat} (hu : d.used < 8) (h : d.rem = fillerBits u) :
    d.filler = .ok () (d.dropBits (fillerBits u).length) ∧
      (d.dropBits (fillerBits u).length).pos = d.buf.length ∧ (d.dropBits (fillerBits u).length).used = 0 :=
  ⟨Dec.filler_reads u d hu [] (by rw [h, List.append_nil]), Dec.dropBits_all h (by simp [fillerBits])⟩

/-- the masks `& 127` and `& 128` of `word` on a last group (no continuation bit) -/
theorem wordGroup_last : ∀ k : Fin 128,
    (BitVec.ofNat 8 k.val &&& 127#8).toNat = k.val ∧ (BitVec.ofNat 8 k.val &&& 128#8) = 0#8 := by
  decide

/-- and on a group with the continuation bit `| 128` that the encoder sets -/
theorem wordGroup_more : ∀ k : Fin 128,
    ((BitVec.ofNat 8 k.val ||| 128#8) &&& 127#8).toNat = k.val ∧ ((BitVec.ofNat 8 k.val ||| 128#8) &&& 128#8) ≠ 0#8 := by
  decide

/-- one round of `word`; the low seven bits `k` of `g` are stated apart, so that `wordGroup_last` /
    `wordGroup_more` supply `h7` and the continuation test -/
theorem Dec.wordLoop_step (fuel : Nat) (d : Dec) (fw shl : Nat) (g : Byte) (d' : Dec) (k : Nat)
    (hg : d.bits8 8 = .ok g d') (h7 : (g &&& 127#8).toNat = k) (hs : shl < 64)
    (hfit : k <<< shl < 2 ^ 64) :
    Dec.wordLoop (fuel + 1) d fw shl =
      if (g &&& 128#8) ≠ 0#8 then Dec.wordLoop fuel d' (fw ||| k <<< shl) (shl + 7)
      else .ok (fw ||| k <<< shl) d' := by
  have e1 : shl % 2 ^ 32 = shl := Nat.mod_eq_of_lt (by omega)
  have e2 : (k <<< shl) % 2 ^ 64 = k <<< shl := Nat.mod_eq_of_lt hfit
  have c1 : ¬ shl ≥ 64 := by omega
  have c2 : ¬ shl + 7 ≥ 2 ^ 64 := by omega
  rw [Dec.wordLoop]
  simp only [hg, h7, e1, e2, c1, if_false, Nat.shiftLeft_shiftRight, ne_eq, not_true_eq_false, c2]

/-- `fw` holds the groups already read and `shl` is seven times their number; `w` is the rest of the
    word, whose groups `bs` are the bytes ahead (at most `f + 1`, which keeps the shift below 64: `hs`),
    and shifted into place it still fits 64 bits (`hfit`), so no round reports an overflow -/
theorem Dec.wordLoop_reads {f w : Nat} {bs : List Byte} (hb : WordBytes f w bs) (fuel fw shl : Nat)
    (hs : shl + 7 * f < 64) (hfit : w <<< shl < 2 ^ 64) (hf : bs.length ≤ fuel) :
    Dec.Reads (Dec.wordLoop fuel · fw shl) (fw ||| w <<< shl) (bitsOf bs) := by
  induction hb generalizing fuel fw shl with
  | @last f w hw =>
    intro d hu rest h
    have gf := wordGroup_last ⟨w, hw⟩
    obtain ⟨fu, rfl⟩ : ∃ fu, fuel = fu + 1 := ⟨fuel - 1, by simp at hf; omega⟩
    show Dec.wordLoop (fu + 1) d fw shl = _
    rw [Dec.wordLoop_step fu d fw shl _ _ w (Dec.u8_reads _ d hu rest (by simpa using h)) gf.1 (by omega) hfit]
    simp [gf.2]
  | @more f w bs _ _ ih =>
    intro d hu rest h
    -- both parts of `word_split` are below the whole
    have hkfit : (w % 128) <<< shl < 2 ^ 64 :=
      Nat.lt_of_le_of_lt (by rw [word_split w shl]; exact Nat.left_le_or) hfit
    have hfit' : (w >>> 7) <<< (shl + 7) < 2 ^ 64 :=
      Nat.lt_of_le_of_lt (by rw [word_split w shl]; exact Nat.right_le_or) hfit
    rw [bitsOf_cons, List.append_assoc] at h
    have gf := wordGroup_more ⟨w % 128, Nat.mod_lt _ (by decide)⟩
    obtain ⟨fu, rfl⟩ : ∃ fu, fuel = fu + 1 := ⟨fuel - 1, by simp at hf; omega⟩
    obtain ⟨h1, hu1, hr1⟩ := (Dec.u8_reads _ d hu).next h
    show Dec.wordLoop (fu + 1) d fw shl = _
    rw [Dec.wordLoop_step fu d fw shl _ _ (w % 128) h1 gf.1 (by omega) hkfit, if_pos gf.2]
    refine (ih fu _ (shl + 7) (by omega) hfit' (by simpa using hf) _ hu1 rest hr1).trans ?_
    rw [Dec.dropBits_dropBits, word_split w shl, Nat.or_assoc, bitsOf_cons, List.length_append]

theorem Dec.word_reads (w : Nat) (hw : w < 2 ^ 64) : Dec.Reads Dec.word w (bitsOf (wordBytes 10 w)) := by
  intro d hu rest h
  have hl := Dec.length_le_of_rem h
  simp only [bitsOf_length, Dec.cursor] at hl
  have := Dec.wordLoop_reads (wordBytes_spec 9 (Nat.lt_of_lt_of_le hw (by decide))) (d.buf.length - d.pos + 1) 0 0
    (by omega) (by simpa using hw) (by show (wordBytes 10 w).length ≤ _; omega) d hu rest h
  simpa [Dec.word] using this

theorem unzigzag_zigzag (i : Int) : unzigzag (zigzag i) = i := by
  unfold zigzag unzigzag
  split <;> split <;> omega

theorem Dec.integer_reads (i : Int) (h1 : -(2 ^ 63) ≤ i) (h2 : i < 2 ^ 63) :
    Dec.Reads Dec.integer i (bitsOf (wordBytes 10 (zigzag i))) := by
  intro d hu rest h
  simp only [Dec.integer, Dec.word_reads (zigzag i) (zigzag_lt i h1 h2) d hu rest h, unzigzag_zigzag]

theorem Dec.char_reads (c : Nat) (hc : Dec.validScalar c = true) :
    Dec.Reads Dec.char c (bitsOf (wordBytes 10 c)) := by
  intro d hu rest h
  have hc32 := validScalar_lt hc
  simp only [Dec.char, Dec.word_reads c (by omega) d hu rest h, Nat.mod_eq_of_lt hc32, hc, if_true]

/-- `b` is the length byte at the cursor, which `byte_array` (or the previous round) reads before
    entering the loop -/
theorem Dec.blkLoop_reads {bs enc : List Byte} (hb : BlkBytes bs enc)
    (d : Dec) (acc : List Byte) (fuel : Nat) (tl : List Byte)
    (hd : d.buf.drop d.pos = enc ++ tl) (hf : enc.length ≤ fuel + 1) :
    ∃ b, d.buf[d.pos]? = some b ∧
      Dec.blkLoop (fuel + 1) { d with pos := d.pos + 1 } b.toNat acc =
        .ok (acc ++ bs) { d with pos := d.pos + enc.length } := by
  induction hb generalizing d acc fuel with
  | nil =>
    have hget : d.buf[d.pos]? = some 0#8 := by rw [← Nat.add_zero d.pos, ← List.getElem?_drop, hd]; rfl
    exact ⟨_, hget, by rw [List.append_nil]; exact Dec.blkLoop_zero fuel _ acc⟩
  | @cons c bs enc hc0 hc _ ih =>
    have hget : d.buf[d.pos]? = some (BitVec.ofNat 8 c.length) := by
      rw [← Nat.add_zero d.pos, ← List.getElem?_drop, hd]; rfl
    have hm : (BitVec.ofNat 8 c.length).toNat = c.length := Nat.mod_eq_of_lt hc
    rw [List.length_cons, List.length_append] at hf
    obtain ⟨fu, rfl⟩ : ∃ fu, fuel = fu + 1 := ⟨fuel - 1, by omega⟩
    obtain ⟨b', hb', hloop⟩ := ih { d with pos := d.pos + 1 + c.length } (acc ++ c) fu
      (by rw [← List.drop_drop, ← List.drop_drop, hd]; simp) (by omega)
    have hacc : (d.buf.drop (d.pos + 1)).take c.length = c := by
      rw [← List.drop_drop, hd]; simp
    refine ⟨_, hget, ?_⟩
    rw [hm, Dec.blkLoop_step (fu + 1) _ _ acc b' (by omega) hb', hacc, hloop]
    simp only [List.append_assoc, List.length_cons, List.length_append]
    congr 2
    omega

theorem Dec.byteArray_reads (d : Dec) (hu : d.used = 0) (bs : List Byte) :
    Dec.ReadsAt d Dec.byteArray bs (bitsOf (Enc.blk bs)) := by
  intro rest h
  have hr : d.rem = bitsOf (d.buf.drop d.pos) := by
    simp only [Dec.rem, Dec.cursor, hu, Nat.add_zero, bitsOf_drop]
  rw [hr] at h
  -- at a byte boundary (`hu`) the prefix of bits is a prefix of bytes, which is what the loop reads
  obtain ⟨zs, hz⟩ := bitsOf_prefix h
  have hlen := congrArg List.length hz
  simp only [List.length_drop, List.length_append] at hlen
  obtain ⟨b, hb, hloop⟩ := Dec.blkLoop_reads (blkChunks_spec bs.length bs (Nat.le_refl _)) d []
    (d.buf.length - d.pos) zs hz.symm (by show (Enc.blk bs).length ≤ _; omega)
  rw [Dec.byteArray_enter d b hu hb, hloop, bitsOf_length, Dec.dropBits_bytes d hu]
  rfl

theorem Dec.bytes_reads (d : Dec) (hu : d.used < 8) (bs : List Byte) :
    Dec.ReadsAt d Dec.bytes bs (fillerBits d.used ++ bitsOf (Enc.blk bs)) := by
  intro rest h
  rw [List.append_assoc] at h
  have hu' : (d.dropBits (fillerBits d.used).length).used = 0 := by
    simp only [Dec.dropBits, fillerBits, List.length_append, List.length_replicate, List.length_singleton]
    omega
  obtain ⟨h1, _, hr1⟩ := (Dec.filler_reads d.used d hu).next h
  simp only [Dec.bytes, h1]
  rw [Dec.byteArray_reads _ hu' bs rest hr1, Dec.dropBits_dropBits, List.length_append]

theorem Dec.utf8_reads (d : Dec) (hu : d.used < 8) (bs : List Byte) (hv : validUtf8 bs = true) :
    Dec.ReadsAt d Dec.utf8 bs (fillerBits d.used ++ bitsOf (Enc.blk bs)) := by
  intro rest h
  simp only [Dec.utf8, Dec.bytes_reads d hu bs rest h, hv, if_true]

theorem listBits_length_pos {α : Type} (spec : α → List Bool) (items : List α) :
    0 < (listBits spec items).length := by
  cases items <;> simp [listBits]

theorem Dec.listLoop_reads {α : Type} (elem : Dec → Res α) (spec : α → List Bool) (items : List α)
    (helem : ∀ a ∈ items, Dec.Reads elem a (spec a)) (acc : List α) (fuel : Nat)
    (hf : (listBits spec items).length ≤ fuel + 1) :
    Dec.Reads (Dec.listLoop elem (fuel + 1) · acc) (acc ++ items) (listBits spec items) := by
  induction items generalizing acc fuel with
  | nil =>
    intro d hu rest h
    simp only [Dec.listLoop, Dec.bit_reads false d hu rest h, List.append_nil, listBits]
  | cons a items ih =>
    intro d hu rest h
    simp only [listBits, List.cons_append, List.append_assoc, List.length_cons, List.length_append] at h hf ⊢
    obtain ⟨h1, hu1, hr1⟩ := (Dec.bit_reads true d hu).next h
    obtain ⟨h2, hu2, hr2⟩ := (helem a (by simp) _ hu1).next hr1
    obtain ⟨fu, rfl⟩ : ∃ fu, fuel = fu + 1 := ⟨fuel - 1, by have := listBits_length_pos spec items; omega⟩
    simp only [Dec.listLoop, h1, h2]
    refine (ih (fun a ha => helem a (by simp [ha])) _ fu (by omega) _ hu2 rest hr2).trans ?_
    rw [Dec.dropBits_dropBits, Dec.dropBits_dropBits, List.append_assoc, List.singleton_append,
      List.length_singleton]
    congr 2
    omega

theorem Dec.list_reads {α : Type} (elem : Dec → Res α) (spec : α → List Bool) (items : List α)
    (helem : ∀ a ∈ items, Dec.Reads elem a (spec a)) :
    Dec.Reads (Dec.list elem) items (listBits spec items) := by
  intro d hu rest h
  have hl := Dec.length_le_of_rem h
  simp only [Dec.cursor] at hl
  exact Dec.listLoop_reads elem spec items helem [] _ (by omega) d hu rest h

theorem Dec.bools_reads (l : List Bool) : Dec.Reads (Dec.list Dec.bool) l (boolsBits l) :=
  Dec.list_reads Dec.bool (fun b => [b]) l fun b _ => Dec.bit_reads b

theorem Dec.string_reads (cs : List Nat) (hcs : ∀ c ∈ cs, Dec.validScalar c = true) :
    Dec.Reads Dec.string cs (stringBits cs) :=
  Dec.list_reads Dec.char (fun c => bitsOf (wordBytes 10 c)) cs fun c hc => Dec.char_reads c (hcs c hc)

theorem Dec.value_reads (d : Dec) (hu : d.used < 8) (v : Value) (hv : v.WF) :
    Dec.ReadsAt d (·.value v.kind) v (v.spec d.cursor) := by
  intro rest h
  have hoff : d.cursor % 8 = d.used := by simp only [Dec.cursor]; omega
  unfold Dec.value
  cases v with
  | bool b => simp only [Value.kind, Dec.bool, Dec.bit_reads b d hu _ h, Value.spec]
  | u8 x => simp only [Value.kind, Dec.u8_reads x d hu _ h, Value.spec]
  | bits n x => simp only [Value.kind, Dec.bits8_reads n hv.1 hv.2.1 x hv.2.2 d hu _ h, Value.spec]
  | word w => simp only [Value.kind, Dec.word_reads w hv d hu _ h, Value.spec]
  | int i => simp only [Value.kind, Dec.integer_reads i hv.1 hv.2 d hu _ h, Value.spec]
  | char c => simp only [Value.kind, Dec.char_reads c hv d hu _ h, Value.spec]
  | bytes bs =>
    simp only [Value.spec, hoff] at h ⊢
    simp only [Value.kind, Dec.bytes_reads d hu bs rest h]
  | utf8 bs =>
    simp only [Value.spec, hoff] at h ⊢
    simp only [Value.kind, Dec.utf8_reads d hu bs hv rest h]
  | bools l => simp only [Value.kind, Dec.bools_reads l d hu _ h, Value.spec]
  | string cs => simp only [Value.kind, Dec.string_reads cs hv d hu _ h, Value.spec]

theorem Dec.seq_reads (d : Dec) (hu : d.used < 8) (vs : List Value) (hvs : ∀ v ∈ vs, v.WF) :
    Dec.ReadsAt d (·.seq (vs.map Value.kind)) vs (specSeq d.cursor vs) := by
  induction vs generalizing d with
  | nil => exact fun _ _ => congrArg (Res.ok []) (Dec.dropBits_zero d hu).symm
  | cons v vs ih =>
    intro rest h
    simp only [specSeq, List.append_assoc] at h
    obtain ⟨h1, hu1, hr1⟩ := (Dec.value_reads d hu v (hvs v (by simp))).next h
    -- the tail is specified from the offset where `v` ends, which is the cursor of the state `v` leaves
    rw [← (d.dropBits_cursor _)] at hr1
    simp only [List.map_cons, Dec.seq, h1, ih _ hu1 (fun v hv => hvs v (by simp [hv])) rest hr1,
      Dec.dropBits_dropBits, specSeq, List.length_append, (d.dropBits_cursor _)]

end PallasVerif.Flat
