import PallasVerif.Model.P2PNet
/-! Algebra of the specification tables. A move of protocol `x` reads and writes component `x` of the `Wire`
    record only (`LocalAt`), and moves of different protocols commute for that reason alone; the tables give
    one protocol's turn to one side only (`agency`), so a client and a server move never compete; a client
    move does not disable client moves of other protocols; the same along queues of moves
    (`advClient`, `advServer`). -/
namespace PallasVerif.P2P

def Wire.agree (x : Proto) (v w : Wire) : Prop :=
  match x with
  | .hs => v.hs = w.hs | .ka => v.ka = w.ka | .cs => v.cs = w.cs | .ps => v.ps = w.ps
  | .bf => v.bf = w.bf | .tx => v.tx = w.tx | .ln => v.ln = w.ln | .lf => v.lf = w.lf

theorem Wire.agree.symm {x : Proto} {v w : Wire} (h : Wire.agree x v w) : Wire.agree x w v := by
  cases x <;> exact Eq.symm h

theorem Wire.agree.trans {x : Proto} {u v w : Wire} (h : Wire.agree x u v) (h' : Wire.agree x v w) :
    Wire.agree x u w := by
  cases x <;> exact Eq.trans h h'

theorem Wire.ext_agree {v w : Wire} (h : ∀ x, Wire.agree x v w) : v = w := by
  cases v; cases w
  cases h .hs; cases h .ka; cases h .cs; cases h .ps
  cases h .bf; cases h .tx; cases h .ln; cases h .lf
  rfl

structure LocalAt (x : Proto) (f : Wire → Option Wire) : Prop where
  others : ∀ {v v1}, f v = some v1 → ∀ y, y ≠ x → Wire.agree y v v1
  reads : ∀ {v v1 w}, f v = some v1 → Wire.agree x w v → ∃ w1, f w = some w1 ∧ Wire.agree x w1 v1

/-- both tables, all eight protocols: the step is `(table w.x a).map (fun n => { w with x := n })` -/
theorem step_local (m : Msg) :
    LocalAt m.proto (fun v => clientStep v m) ∧ LocalAt m.proto (fun v => serverStep v m) := by
  cases m <;> constructor <;>
    (constructor
     · intro v v1 h y hy
       obtain ⟨n, hn, rfl⟩ := Option.map_eq_some_iff.mp h
       cases y <;> first | exact rfl | exact absurd rfl hy
     · intro v v1 w h hw
       obtain ⟨n, hn, rfl⟩ := Option.map_eq_some_iff.mp h
       cases v; cases w; cases hw
       exact ⟨_, congrArg (Option.map _) hn, rfl⟩)

theorem clientStep_local (m : Msg) : LocalAt m.proto (fun v => clientStep v m) := (step_local m).1
theorem serverStep_local (m : Msg) : LocalAt m.proto (fun v => serverStep v m) := (step_local m).2

/-- each is still enabled after the other (`reads`), and the two results agree on `x`, on `y` and elsewhere -/
theorem LocalAt.commute {x y : Proto} {f g : Wire → Option Wire} (hf : LocalAt x f) (hg : LocalAt y g)
    (hxy : x ≠ y) {v v1 v2 : Wire} (h1 : f v = some v1) (h2 : g v = some v2) :
    ∃ v3, f v2 = some v3 ∧ g v1 = some v3 := by
  have a1 := hf.others h1
  have a2 := hg.others h2
  obtain ⟨v3, e3, c3⟩ := hf.reads h1 (a2 x hxy).symm
  obtain ⟨v4, e4, c4⟩ := hg.reads h2 (a1 y (Ne.symm hxy)).symm
  have a3 := hf.others e3
  have a4 := hg.others e4
  have e : v3 = v4 := by
    apply Wire.ext_agree
    intro z
    by_cases hzx : z = x
    · subst hzx
      exact c3.trans (a4 z hxy)
    · by_cases hzy : z = y
      · subst hzy
        exact (a3 z hzx).symm.trans c4.symm
      · exact (((a3 z hzx).symm.trans (a2 z hzy).symm).trans (a1 z hzx)).trans (a4 z hzy)
  subst e
  exact ⟨v3, e3, e4⟩

theorem agency {v v1 v2 : Wire} {m m' : Msg} (h1 : clientStep v m = some v1)
    (h2 : serverStep v m' = some v2) : m.proto ≠ m'.proto := by
  intro e
  cases m <;> cases m' <;> cases e
  all_goals
    obtain ⟨a, ha, -⟩ := Option.map_eq_some_iff.mp h1
    obtain ⟨b, hb, -⟩ := Option.map_eq_some_iff.mp h2
  · generalize v.hs = s at ha hb; cases s <;> first | cases ha | cases hb
  · generalize v.ka = s at ha hb; cases s <;> first | cases ha | cases hb
  · generalize v.cs = s at ha hb; cases s <;> first | cases ha | cases hb
  · generalize v.ps = s at ha hb; cases s <;> first | cases ha | cases hb
  · generalize v.bf = s at ha hb; cases s <;> first | cases ha | cases hb
  · generalize v.tx = s at ha hb; cases s <;> first | cases ha | cases hb
  · generalize v.ln = s at ha hb; cases s <;> first | cases ha | cases hb
  · generalize v.lf = s at ha hb; cases s <;> first | cases ha | cases hb

theorem client_server_commute {v v1 v2 : Wire} {m m' : Msg}
    (h1 : clientStep v m = some v1) (h2 : serverStep v m' = some v2) :
    ∃ v3, clientStep v2 m = some v3 ∧ serverStep v1 m' = some v3 :=
  (clientStep_local m).commute (serverStep_local m') (agency h1 h2) h1 h2

theorem client_client_indep {v v1 v2 : Wire} {m1 m : Msg} (h1 : clientStep v m1 = some v1) (hne : m1.proto ≠ m.proto)
    (h2 : clientStep v m = some v2) : ∃ w, clientStep v1 m = some w := by
  obtain ⟨w1, hw, -⟩ := (clientStep_local m).reads h2 ((clientStep_local m1).others h1 _ (Ne.symm hne)).symm
  exact ⟨w1, hw⟩

theorem server_before_client {v v1 w : Wire} {m1 m : Msg} (h1 : clientStep v m1 = some v1) (h2 : serverStep v1 m = some w)
    (hne : m1.proto ≠ m.proto) : ∃ v', serverStep v m = some v' ∧ clientStep v' m1 = some w := by
  obtain ⟨v', hs, -⟩ := (serverStep_local m).reads h2 ((clientStep_local m1).others h1 _ (Ne.symm hne))
  obtain ⟨v3, hc, hs'⟩ := (clientStep_local m1).commute (serverStep_local m) hne h1 hs
  exact ⟨v', hs, hc.trans (congrArg some (Option.some.inj (hs'.symm.trans h2)))⟩

/-! ### queues of moves

  After the `cons`/`append` unfoldings, each lemma moves one edge of the diagram that `GLink` (`P2PAsync`) keeps per
  connection. -/

theorem advClient_cons {v w : Wire} {m : Msg} {ms : List Msg} :
    advClient v (m :: ms) = some w ↔ ∃ v1, clientStep v m = some v1 ∧ advClient v1 ms = some w := by
  simp only [advClient]
  cases clientStep v m with
  | none => exact ⟨fun h => (nomatch h), fun ⟨_, h, _⟩ => (nomatch h)⟩
  | some v1 => exact ⟨fun h => ⟨v1, rfl, h⟩, fun ⟨_, h, h'⟩ => Option.some.inj h ▸ h'⟩

theorem advServer_cons {v w : Wire} {m : Msg} {ms : List Msg} :
    advServer v (m :: ms) = some w ↔ ∃ v1, serverStep v m = some v1 ∧ advServer v1 ms = some w := by
  simp only [advServer]
  cases serverStep v m with
  | none => exact ⟨fun h => (nomatch h), fun ⟨_, h, _⟩ => (nomatch h)⟩
  | some v1 => exact ⟨fun h => ⟨v1, rfl, h⟩, fun ⟨_, h, h'⟩ => Option.some.inj h ▸ h'⟩

theorem advServer_append (v : Wire) (a b : List Msg) :
    advServer v (a ++ b) = (advServer v a).bind (fun v' => advServer v' b) := by
  induction a generalizing v with
  | nil => rfl
  | cons m ms ih =>
    simp only [List.cons_append, advServer]
    cases serverStep v m with
    | none => rfl
    | some v1 => exact ih v1

theorem advClient_append (v : Wire) (a b : List Msg) :
    advClient v (a ++ b) = (advClient v a).bind (fun v' => advClient v' b) := by
  induction a generalizing v with
  | nil => rfl
  | cons m ms ih =>
    simp only [List.cons_append, advClient]
    cases clientStep v m with
    | none => rfl
    | some v1 => exact ih v1

/-- `GLink.emit`: the new request against the replies still to be delivered -/
theorem client_past_servers {m : Msg} (q : List Msg) {v v1 w : Wire} (h1 : clientStep v m = some v1)
    (h2 : advServer v q = some w) : ∃ w', clientStep w m = some w' ∧ advServer v1 q = some w' := by
  induction q generalizing v v1 with
  | nil => cases h2; exact ⟨v1, h1, rfl⟩
  | cons m' q ih =>
    obtain ⟨v2, hs, h2⟩ := advServer_cons.mp h2
    obtain ⟨v3, hc, hs'⟩ := client_server_commute h1 hs
    obtain ⟨w', hw, ha⟩ := ih hc h2
    exact ⟨w', hw, advServer_cons.mpr ⟨v3, hs', ha⟩⟩

/-- `GLink.reply`: the new reply against the requests still on the wire -/
theorem server_past_clients {m : Msg} (q : List Msg) {v v1 w : Wire} (h1 : serverStep v m = some v1)
    (h2 : advClient v q = some w) : ∃ w', serverStep w m = some w' ∧ advClient v1 q = some w' := by
  induction q generalizing v v1 with
  | nil => cases h2; exact ⟨v1, h1, rfl⟩
  | cons m' q ih =>
    obtain ⟨v2, hc, h2⟩ := advClient_cons.mp h2
    obtain ⟨v3, hc', hs⟩ := client_server_commute hc h1
    obtain ⟨w', hw, ha⟩ := ih hs h2
    exact ⟨w', hw, advClient_cons.mpr ⟨v3, hc', ha⟩⟩

theorem server_before_clients {m : Msg} (u : List Msg) {v v1 w : Wire} (h1 : advClient v u = some v1)
    (h2 : serverStep v1 m = some w) (hne : ∀ m', m' ∈ u → m'.proto ≠ m.proto) :
    ∃ v', serverStep v m = some v' ∧ advClient v' u = some w := by
  induction u generalizing v with
  | nil => cases h1; exact ⟨w, h2, rfl⟩
  | cons m1 u ih =>
    obtain ⟨v2, hc, h1⟩ := advClient_cons.mp h1
    obtain ⟨v2', hs1, ha1⟩ := ih h1 (fun m' hm' => hne m' (List.mem_cons_of_mem _ hm'))
    obtain ⟨v', hs, hc'⟩ := server_before_client hc hs1 (hne m1 (List.mem_cons_self ..))
    exact ⟨v', hs, advClient_cons.mpr ⟨v2', hc', ha1⟩⟩

/-- `GLink.deliver`: a batch of replies is applied to the initiator's view ahead of the confirmations still
    outstanding, none of the same protocol -/
theorem servers_before_clients (ms : List Msg) {u : List Msg} {v v1 w : Wire} (h1 : advClient v u = some v1)
    (h2 : advServer v1 ms = some w) (hne : ∀ m, m ∈ ms → ∀ m', m' ∈ u → m'.proto ≠ m.proto) :
    ∃ v', advServer v ms = some v' ∧ advClient v' u = some w := by
  induction ms generalizing v v1 with
  | nil => cases h2; exact ⟨v, rfl, h1⟩
  | cons m ms ih =>
    obtain ⟨v2, hs, h2⟩ := advServer_cons.mp h2
    obtain ⟨va, hsa, haa⟩ := server_before_clients u h1 hs (hne m (List.mem_cons_self ..))
    obtain ⟨v', hs', ha'⟩ := ih haa h2 (fun m2 hm2 => hne m2 (List.mem_cons_of_mem _ hm2))
    exact ⟨v', advServer_cons.mpr ⟨va, hsa, hs'⟩, ha'⟩

/-- `GLink.emit`: the new request against the requests not yet confirmed -/
theorem client_after_clients (u : List Msg) {v v1 v2 : Wire} {m : Msg} (h1 : advClient v u = some v1)
    (h2 : clientStep v m = some v2) (hne : ∀ m', m' ∈ u → m'.proto ≠ m.proto) : ∃ w, clientStep v1 m = some w := by
  induction u generalizing v v2 with
  | nil => cases h1; exact ⟨v2, h2⟩
  | cons m1 u ih =>
    obtain ⟨v3, hc, h1⟩ := advClient_cons.mp h1
    obtain ⟨w, hw⟩ := client_client_indep hc (hne m1 (List.mem_cons_self ..)) h2
    exact ih h1 hw (fun m' hm' => hne m' (List.mem_cons_of_mem _ hm'))

end PallasVerif.P2P
