import PallasVerif.Proofs.TaylorTerms
/-! Loop invariant of `ref_exp_cmp` (core Lean only): the loop state after `n` iterations is
    `(psum x n, (n+1)·10^34, tterm x n)`, with `tterm`, `psum` of `Proofs/TaylorTerms.lean`. -/
namespace PallasVerif.Proofs.ExpCmp
open PallasVerif.Decimal PallasVerif.RefMath PallasVerif.Proofs.Decimal

/-- postcondition of the loop entered in the invariant state after `n` iterations with `fuel` left; the last
    conjuncts of `gt` / `lt` record that the term before the verdict was not yet below `EPS` -/
structure LoopPost (fixed : Bool) (x bound cmp : Int) (n fuel : Nat) (r : CmpRes) : Prop where
  approx : r.approx = psum x r.iterations
  lo : n ≤ r.iterations
  hi : r.iterations ≤ n + fuel
  gt : r.estimation = .gt → n < r.iterations ∧
        cmp > r.approx + errorTermOf fixed (tterm x r.iterations) bound ∧
        ¬ absLt (tterm x (r.iterations - 1)) EPS = true
  lt : r.estimation = .lt → n < r.iterations ∧
        cmp < r.approx - errorTermOf fixed (tterm x r.iterations) bound ∧
        ¬ cmp > r.approx + errorTermOf fixed (tterm x r.iterations) bound ∧
        ¬ absLt (tterm x (r.iterations - 1)) EPS = true
  unknown : r.estimation = .unknown →
        r.iterations = n + fuel ∨ absLt (tterm x r.iterations) EPS = true

theorem loop_step (fixed : Bool) (x bound cmp : Int) (fuel n : Nat) :
    expCmpLoop fixed x bound cmp (fuel + 1) n (psum x n) (((n : Int) + 1) * P) (tterm x n) =
      if absLt (tterm x n) EPS then some ⟨n, .unknown, psum x n⟩
      else if cmp > psum x (n + 1) + errorTermOf fixed (tterm x (n + 1)) bound then
        some ⟨n + 1, .gt, psum x (n + 1)⟩
      else if cmp < psum x (n + 1) - errorTermOf fixed (tterm x (n + 1)) bound then
        some ⟨n + 1, .lt, psum x (n + 1)⟩
      else expCmpLoop fixed x bound cmp fuel (n + 1) (psum x (n + 1))
        ((((n + 1 : Nat) : Int) + 1) * P) (tterm x (n + 1)) := by
  -- the next divisor as `tterm` spells it
  have hd : (((n + 1 : Nat) : Int) + 1) * P = ((n : Int) + 2) * P := by congr 1
  rw [expCmpLoop]
  simp only [divisor_step, hd, div_eq_tdiv _ _ (divisor_ne _ (show 0 < (n : Int) + 2 by omega)), tterm, psum]

theorem loop_spec (fixed : Bool) (x bound cmp : Int) (fuel n : Nat) :
    ∃ r, expCmpLoop fixed x bound cmp fuel n (psum x n) (((n : Int) + 1) * P) (tterm x n) = some r ∧
      LoopPost fixed x bound cmp n fuel r := by
  induction fuel generalizing n with
  | zero =>
    exact ⟨⟨n, .unknown, psum x n⟩, rfl, ⟨rfl, Nat.le_refl _, Nat.le_refl _, nofun, nofun,
      fun _ => Or.inl rfl⟩⟩
  | succ fuel ih =>
    rw [loop_step]
    split
    · rename_i hb
      exact ⟨⟨n, .unknown, psum x n⟩, rfl, ⟨rfl, Nat.le_refl _, Nat.le_add_right _ _, nofun, nofun,
        fun _ => Or.inr hb⟩⟩
    · rename_i hb
      split
      · rename_i h1
        exact ⟨_, rfl, ⟨rfl, Nat.le_succ _, Nat.succ_le_succ (Nat.le_add_right _ _),
          fun _ => ⟨Nat.lt_succ_self _, h1, hb⟩, nofun, nofun⟩⟩
      · rename_i h1
        split
        · rename_i h2
          exact ⟨_, rfl, ⟨rfl, Nat.le_succ _, Nat.succ_le_succ (Nat.le_add_right _ _), nofun,
            fun _ => ⟨Nat.lt_succ_self _, h2, h1, hb⟩, nofun⟩⟩
        · obtain ⟨r, hr, post⟩ := ih (n + 1)
          have hlo := post.lo
          have hhi := post.hi
          exact ⟨r, hr, ⟨post.approx, by omega, by omega,
            fun h => (post.gt h).imp_left (by omega), fun h => (post.lt h).imp_left (by omega),
            fun h => (post.unknown h).imp_left (by omega)⟩⟩

theorem refExpCmp_spec (maxN : Nat) (x bound cmp : Int) :
    ∃ r, refExpCmp maxN x bound cmp = some r ∧ LoopPost true x bound cmp 0 maxN r := by
  simpa [refExpCmp, psum, tterm, ONE] using loop_spec true x bound cmp maxN 0

theorem refExpCmp_post {maxN : Nat} {x bound cmp : Int} {r : CmpRes}
    (h : refExpCmp maxN x bound cmp = some r) : LoopPost true x bound cmp 0 maxN r := by
  obtain ⟨r', h', post⟩ := refExpCmp_spec maxN x bound cmp
  rwa [← Option.some.inj (h.symm.trans h')] at post

end PallasVerif.Proofs.ExpCmp
