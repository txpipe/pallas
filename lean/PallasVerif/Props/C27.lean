import PallasVerif.Proofs.P2PProtoTie
import PallasVerif.Proofs.P2PErr
/-!
# C27 — Peer promotion keeps peer sets consistent and banned peers away

Model: `Model/P2PInitiator.lean` (the whole `InitiatorBehavior`: promotion, connection, handshake,
keepalive, discovery, blockfetch, chainsync, leios visitors, `handle_io`/`execute`, with the
mini-protocol machines of `Model/P2PProto.lean` computing `violation`). A history is any list of
`Ev` (commands: include / housekeeping / ban / demote / start-sync / …; interface events:
connected / disconnected / recv / sent / error / idle). The hash-map iteration order of each
housekeeping pass and the subset drained from discovery are *part of the event*, so "for all
histories" also means "for all iteration orders".

* `promo_inv` — every history shorter than 2^32 events runs without panic and ends in a state whose
  cold/warm/hot/banned sets are duplicate free, pairwise disjoint and within the configured limits
  (`sets_consistent` spells its `SetsOK` half out); `promo_inv_of_run` drops the length bound whenever
  the run is defined. The bound is only there because `error_count: u32` is incremented unchecked.
* `banned_never_connected` — once `p` is in `banned_peers`, no later event makes the initiator emit
  `Connect(p)`; `ban_command_bans` (a step), `violation_bans`, `error_threshold_bans` (`categorize_peer` on the detached
  record, which every housekeeping visit and every inbound message runs first; at the level of events only the
  `example` with the unsolicited keep-alive response below) show that the three ways of banning named by the property
  do put the peer into `banned_peers` (for ever: `banned_forever`).

The unrepaired tree violated the property (DESIGN §6 #14, #15, and BanPeer of an untracked peer);
the model follows the three `fix:` commits recorded in `known_findings.d/C27.json`.
A `DemotePeer` command only retags the peer (the sets are not touched; making it move the peer
breaks the repository's test `demote_peer_returns_to_cold`): the sets stay disjoint, which is all C27 asks.
-/
namespace PallasVerif.Props.C27
open PallasVerif.P2P

theorem sets_consistent {s : St} (h : Inv s) :
    (∀ x, ¬ (x ∈ s.cold ∧ x ∈ s.warm)) ∧ (∀ x, ¬ (x ∈ s.cold ∧ x ∈ s.hot)) ∧
    (∀ x, ¬ (x ∈ s.cold ∧ x ∈ s.banned)) ∧ (∀ x, ¬ (x ∈ s.warm ∧ x ∈ s.hot)) ∧
    (∀ x, ¬ (x ∈ s.warm ∧ x ∈ s.banned)) ∧ (∀ x, ¬ (x ∈ s.hot ∧ x ∈ s.banned)) ∧
    s.cold.Nodup ∧ s.warm.Nodup ∧ s.hot.Nodup ∧ s.banned.Nodup ∧
    s.warm.length ≤ s.cfg.maxWarm ∧ s.hot.length ≤ s.cfg.maxHot ∧
    s.cold.length + s.warm.length + s.hot.length ≤ s.cfg.maxPeers :=
  ⟨fun x h' => h.sets.dCW x h'.1 h'.2, fun x h' => h.sets.dCH x h'.1 h'.2,
   fun x h' => h.sets.dCB x h'.1 h'.2, fun x h' => h.sets.dWH x h'.1 h'.2,
   fun x h' => h.sets.dWB x h'.1 h'.2, fun x h' => h.sets.dHB x h'.1 h'.2,
   h.sets.ndC, h.sets.ndW, h.sets.ndH, h.sets.ndB, h.sets.limW, h.sets.limH, h.sets.limT⟩

/-- **Sets consistent, all histories**: no panic and the invariant at the end of every history
    (every prefix of a history is a history, so also after every event of it). -/
theorem promo_inv (cfg : Cfg) (h : List Ev) (hl : h.length < u32Bound) :
    ∃ s, run (St.init cfg) h = some s ∧ Inv s := by
  obtain ⟨f, hr, hi, _⟩ := run_total h (St.init cfg) 0 (init_inv cfg) (init_err cfg) (by omega)
  exact ⟨f, hr, hi⟩

theorem promo_inv_of_run (cfg : Cfg) (h : List Ev) (s : St) (hr : run (St.init cfg) h = some s) : Inv s :=
  (run_inv h (init_inv cfg) hr).1

theorem banned_forever (cfg : Cfg) (h1 h2 : List Ev) (s1 s2 : St) (p : Nat)
    (hr1 : run (St.init cfg) h1 = some s1) (hr2 : run s1 h2 = some s2) (hb : p ∈ s1.banned) :
    p ∈ s2.banned :=
  (run_inv h2 (promo_inv_of_run cfg h1 s1 hr1) hr2).2 p hb

/-- **Banned peers stay away**: after any history `h1` that left `p` in `banned_peers`, no
    continuation `h2 ++ [e]` makes the initiator emit `Connect(p)`. -/
theorem banned_never_connected (cfg : Cfg) (h1 h2 : List Ev) (e : Ev) (s1 s2 s3 : St) (p : Nat)
    (hr1 : run (St.init cfg) h1 = some s1) (hb : p ∈ s1.banned)
    (hr2 : run s1 h2 = some s2) (hs : step s2 e = some s3) :
    Out.connect p ∉ s3.out := by
  have hi1 := promo_inv_of_run cfg h1 s1 hr1
  obtain ⟨hi2, hb2⟩ := run_inv h2 hi1 hr2
  intro hc
  exact (step_inv hi2 hs).noconn p hc (hb2 p hb)

theorem onTagged_ban_mem (s : St) (p : Nat) (h : (s.peers p).isSome = true ∨ p ∈ s.banned) :
    p ∈ (onTagged s p (fun st => { st with tag := .banned })).banned := by
  unfold onTagged
  split
  · rename_i hn
    rcases h with h | h
    · rw [hn] at h; simp at h
    · exact h
  · dsimp only
    split
    · exact mem_sinsert.mpr (Or.inl rfl)
    · rename_i hc
      by_cases hb : p ∈ s.banned
      · exact hb
      · exact absurd ⟨rfl, hb⟩ hc

/-- an explicit `BanPeer(p)` puts `p` into `banned_peers`, tracked or not -/
theorem ban_command_bans (s s' : St) (p : Nat) (h : step s (.banPeer p) = some s') : p ∈ s'.banned := by
  unfold step at h
  simp only [Option.some.injEq] at h
  subst h
  by_cases ht : (s.peers p).isSome = true
  · simp only [ht, if_true]
    exact onTagged_ban_mem _ p (Or.inl ht)
  · simp only [ht]
    exact onTagged_ban_mem _ p (Or.inr (mem_sinsert.mpr (Or.inl rfl)))

/-- the first two arms of `categorize_peer`; the right disjunct is the case in which they do not fire (bans only
    grow, so `p ∈ s'.banned` there too) -/
theorem categorize_bans {s s' : St} {p : Nat} {st st' : Peer} (hc : st.violation = true ∨ st.errorCount > s.cfg.maxErr)
    (h : categorize s p st = some (s', st')) : p ∈ s'.banned ∧ st'.tag = .banned ∨ p ∈ s.banned := by
  by_cases hb : p ∈ s.banned
  · exact Or.inr hb
  · unfold categorize at h
    by_cases hv : st.violation = true
    · rw [if_pos ⟨hv, hb⟩] at h
      cases h
      exact Or.inl ⟨mem_sinsert.mpr (Or.inl rfl), rfl⟩
    · rw [if_neg (fun c => hv c.1), if_pos ⟨hc.resolve_left hv, hb⟩] at h
      cases h
      exact Or.inl ⟨mem_sinsert.mpr (Or.inl rfl), rfl⟩

/-- `categorize_peer`, which every housekeeping visit and every inbound message runs first, bans a peer
    flagged with a protocol violation -/
theorem violation_bans (s s' : St) (p : Nat) (st st' : Peer) (hv : st.violation = true)
    (h : categorize s p st = some (s', st')) : p ∈ s'.banned ∧ st'.tag = .banned ∨ p ∈ s.banned :=
  categorize_bans (Or.inl hv) h

/-- … and so is a peer whose error count exceeds the configured threshold -/
theorem error_threshold_bans (s s' : St) (p : Nat) (st st' : Peer) (he : st.errorCount > s.cfg.maxErr)
    (h : categorize s p st = some (s', st')) : p ∈ s'.banned ∧ st'.tag = .banned ∨ p ∈ s.banned :=
  categorize_bans (Or.inr he) h

/-! ## Non-vacuity: concrete histories reach every set and emit `Connect` -/

def cfg0 : Cfg := { maxPeers := 3, maxWarm := 2, maxHot := 1, maxErr := 1 }

def hHot : List Ev :=
  [.includePeer 1, .housekeeping [1] [], .connected 1, .sent 1 (.hs (.propose [])),
   .recv 1 [.hs (.accept 13 1)], .housekeeping [1] []]

example : (run (St.init cfg0) hHot).map (fun s => (s.cold, s.warm, s.hot, s.banned)) = some ([], [], [1], []) := by
  decide

example : (run (St.init cfg0) [.includePeer 1, .housekeeping [1] []]).map (fun s => s.out) =
    some [Out.connect 1] := by decide

/-- the §6 #15 history: on the model, which follows the `fix:` commits, the commanded ban sticks and there
    is no `Connect(1)` at the end -/
def hBan : List Ev :=
  [.includePeer 1, .housekeeping [1] [], .connected 1, .banPeer 1, .housekeeping [1] [], .disconnected 1,
   .includePeer 1, .housekeeping [1] []]

example : (run (St.init cfg0) hBan).map (fun s => (s.banned, s.out)) = some ([1], []) := by decide

/-- a violation (unsolicited keep-alive response) bans at once; limits bind: 3 peers, 2 warm slots -/
example : (run (St.init cfg0) [.includePeer 1, .includePeer 2, .includePeer 3, .housekeeping [3, 1, 2] [],
      .recv 3 [.ka (.response 7)]]).map (fun s => (s.cold, s.warm, s.banned)) = some ([2], [1], [3]) := by
  decide

/-- the keep-alive machine used by the model is that of the sources (table regenerated on every run); all eight
    machines: `C29.protocol_machines_match_source` -/
theorem keepalive_machine_matches_source (s : KaSt) (m : KaMsg) :
    (PallasVerif.Gen.FsmN2.keepalive.step (KaSt.cls s) (KaMsg.kind m)).next? = (s.apply m).map KaSt.cls :=
  ka_matches_source s m

end PallasVerif.Props.C27
